import LzmaVerif.Proofs.FiltersDelta
import LzmaVerif.Proofs.FiltersArm
import LzmaVerif.Proofs.FiltersPpc
import LzmaVerif.Proofs.FiltersSparc
import LzmaVerif.Proofs.FiltersThumb
import LzmaVerif.Proofs.FiltersArm64
import LzmaVerif.Proofs.FiltersIa64
import LzmaVerif.Proofs.FiltersRiscv
import LzmaVerif.Proofs.FiltersX86
/-!
Block filters: decoding inverts encoding, for EVERY byte string and every admissible start offset
(positions wrap modulo 2^32).  Here the exact statements of the per-filter files are re-checked and the axioms are
printed.  Core Lean only (no Mathlib).
-/
namespace LzmaVerif.Filters

example (d : Nat) (xs : List Nat) (h : Bytes xs) : deltaDecode d (deltaEncode d xs) = xs :=
  delta_inv d xs h

example (start : Nat) (hs : start % 4 = 0) (xs : List Nat) (h : Bytes xs) :
    oneShot .arm false start (oneShot .arm true start xs) = xs := arm_inv start hs xs h
example (start : Nat) (hs : start % 4 = 0) (xs : List Nat) (h : Bytes xs) :
    oneShot .ppc false start (oneShot .ppc true start xs) = xs := ppc_inv start hs xs h
example (start : Nat) (hs : start % 4 = 0) (xs : List Nat) (h : Bytes xs) :
    oneShot .sparc false start (oneShot .sparc true start xs) = xs := sparc_inv start hs xs h

example (start : Nat) (hs : start % 2 = 0) (xs : List Nat) (h : Bytes xs) :
    oneShot .armThumb false start (oneShot .armThumb true start xs) = xs := thumb_inv start hs xs h
example (start : Nat) (hs : start % 4 = 0) (xs : List Nat) (h : Bytes xs) :
    oneShot .arm64 false start (oneShot .arm64 true start xs) = xs := arm64_inv start hs xs h
example (start : Nat) (hs : start % 16 = 0) (xs : List Nat) (h : Bytes xs) :
    oneShot .ia64 false start (oneShot .ia64 true start xs) = xs := ia64_inv start hs xs h
example (start : Nat) (hs : start % 2 = 0) (xs : List Nat) (h : Bytes xs) :
    oneShot .riscv false start (oneShot .riscv true start xs) = xs := riscv_inv start hs xs h

example (start : Nat) (xs : List Nat) (h : Bytes xs) :
    oneShot .x86 false start (oneShot .x86 true start xs) = xs := x86_inv start xs h

#print axioms delta_inv
#print axioms arm_inv
#print axioms ppc_inv
#print axioms sparc_inv
#print axioms thumb_inv
#print axioms arm64_inv
#print axioms ia64_inv
#print axioms riscv_inv
#print axioms x86_inv

end LzmaVerif.Filters
