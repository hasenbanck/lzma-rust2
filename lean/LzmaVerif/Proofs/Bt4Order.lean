/-
  (B5) (`bt4_tree_matches_valid`, `Props/C01Bt4.lean`), foundations: the order the BT4 tree is sorted by, and
  reachability in the cyclic tree array.

  * `LeN d n a b`: the suffix of `d` at `a` is at most the suffix at `b` in the lexicographic order TRUNCATED
    to `n` bytes (a preorder; two suffixes that agree on `n` bytes are equivalent).  The tree of bt4.rs is only
    sorted up to the `nice_len_limit` in force at the node (nodes that agree with the new string on
    `nice_len_limit` bytes are replaced, bt4.rs:118-122 / :265-269), so the invariant uses this order.
  * `Reach cs T lo hi v x`: node `x` is reachable from node `v` through the child slots of the array `T`,
    following only nodes `v'` with `lo < v' ≤ hi` (the check `delta >= cyclic_size` of bt4.rs:98 / :237 ends the
    descent at anything older).  Nodes are named by their `lz_pos` value, the slot pair of node `v` is
    `sl cs v = 2 * ((v - 1) % cs)`.
-/
import LzmaVerif.Model.MfBase
namespace LzmaVerif.Mf.Bt4

def EqN (d : Array UInt8) (n a b : Nat) : Prop := ∀ i, i < n → byteAt d (a + i) = byteAt d (b + i)

def LeN (d : Array UInt8) (n a b : Nat) : Prop :=
  EqN d n a b ∨ ∃ j, j < n ∧ EqN d j a b ∧ byteAt d (a + j) < byteAt d (b + j)

theorem EqN.symm {d : Array UInt8} {n a b : Nat} (h : EqN d n a b) : EqN d n b a :=
  fun i hi => (h i hi).symm

theorem EqN.mono {d : Array UInt8} {n m a b : Nat} (h : EqN d n a b) (hm : m ≤ n) : EqN d m a b :=
  fun i hi => h i (by omega)

theorem EqN.trans {d : Array UInt8} {n a b c : Nat} (h1 : EqN d n a b) (h2 : EqN d n b c) : EqN d n a c :=
  fun i hi => (h1 i hi).trans (h2 i hi)

theorem EqN.zero (d : Array UInt8) (a b : Nat) : EqN d 0 a b := fun _ hi => absurd hi (Nat.not_lt_zero _)

theorem LeN.of_eq {d : Array UInt8} {n a b : Nat} (h : EqN d n a b) : LeN d n a b := Or.inl h

theorem LeN.zero (d : Array UInt8) (a b : Nat) : LeN d 0 a b := Or.inl (EqN.zero d a b)

theorem LeN.of_lt {d : Array UInt8} {j a b : Nat} (n : Nat) (h : EqN d j a b)
    (hlt : byteAt d (a + j) < byteAt d (b + j)) : LeN d n a b := by
  by_cases hj : j < n
  · exact Or.inr ⟨j, hj, h, hlt⟩
  · exact Or.inl (h.mono (by omega))

theorem LeN.mono {d : Array UInt8} {n m a b : Nat} (h : LeN d n a b) (hm : m ≤ n) : LeN d m a b := by
  rcases h with h | ⟨j, hj, he, hlt⟩
  · exact Or.inl (h.mono hm)
  · exact LeN.of_lt m he hlt

theorem LeN.trans {d : Array UInt8} {n a b c : Nat} (h1 : LeN d n a b) (h2 : LeN d n b c) : LeN d n a c := by
  rcases h1 with h1 | ⟨j1, hj1, e1, l1⟩
  · rcases h2 with h2 | ⟨j2, hj2, e2, l2⟩
    · exact Or.inl (h1.trans h2)
    · refine Or.inr ⟨j2, hj2, (h1.mono (by omega)).trans e2, ?_⟩
      rw [h1 j2 hj2]; exact l2
  · rcases h2 with h2 | ⟨j2, hj2, e2, l2⟩
    · refine Or.inr ⟨j1, hj1, e1.trans (h2.mono (by omega)), ?_⟩
      rw [← h2 j1 hj1]; exact l1
    · rcases Nat.lt_trichotomy j1 j2 with h | h | h
      · refine Or.inr ⟨j1, hj1, e1.trans (e2.mono (by omega)), ?_⟩
        rw [← e2 j1 h]; exact l1
      · subst h
        exact Or.inr ⟨j1, hj1, e1.trans e2, Nat.lt_trans l1 l2⟩
      · refine Or.inr ⟨j2, hj2, (e1.mono (by omega)).trans e2, ?_⟩
        rw [e1 j2 h]; exact l2

theorem LeN.antisymm {d : Array UInt8} {n a b : Nat} (h1 : LeN d n a b) (h2 : LeN d n b a) : EqN d n a b := by
  rcases h1 with h1 | ⟨j1, hj1, e1, l1⟩
  · exact h1
  · rcases h2 with h2 | ⟨j2, hj2, e2, l2⟩
    · have := h2 j1 hj1; omega
    · rcases Nat.lt_trichotomy j1 j2 with h | h | h
      · have := e2 j1 h; omega
      · subst h; omega
      · have := e1 j2 h; omega

/-- the first of the two child slots of node `v` (`tree[sl]` = smaller side, `tree[sl + 1]` = larger side) -/
def sl (cs v : Nat) : Nat := 2 * ((v - 1) % cs)

theorem mod_ne_of_close {cs a b : Nat} (hab : a < b) (hd : b - a < cs) : a % cs ≠ b % cs := by
  intro h
  have h1 : (b - a) % cs = 0 := Nat.sub_mod_eq_zero_of_mod_eq h.symm
  rw [Nat.mod_eq_of_lt hd] at h1
  omega

theorem sl_disjoint {cs v w : Nat} (hv : 1 ≤ v) (hw : 1 ≤ w) (hne : v ≠ w) (hd : v - w < cs) (hd' : w - v < cs) :
    sl cs v ≠ sl cs w ∧ sl cs v ≠ sl cs w + 1 ∧ sl cs v + 1 ≠ sl cs w ∧ sl cs v + 1 ≠ sl cs w + 1 := by
  have hm : (v - 1) % cs ≠ (w - 1) % cs := by
    rcases Nat.lt_or_gt_of_ne hne with h | h
    · exact mod_ne_of_close (by omega) (by omega)
    · exact fun e => mod_ne_of_close (a := w - 1) (b := v - 1) (by omega) (by omega) e.symm
  unfold sl
  omega

inductive Reach (cs : Nat) (T : Array Nat) (lo hi : Nat) : Nat → Nat → Prop
  | refl {v : Nat} : lo < v → v ≤ hi → Reach cs T lo hi v v
  | left {v x : Nat} : lo < v → v ≤ hi → Reach cs T lo hi (T.getD (sl cs v) 0) x → Reach cs T lo hi v x
  | right {v x : Nat} : lo < v → v ≤ hi → Reach cs T lo hi (T.getD (sl cs v + 1) 0) x → Reach cs T lo hi v x

theorem Reach.inWin {cs : Nat} {T : Array Nat} {lo hi v x : Nat} (h : Reach cs T lo hi v x) : lo < v ∧ v ≤ hi := by
  cases h with
  | refl a b => exact ⟨a, b⟩
  | left a b _ => exact ⟨a, b⟩
  | right a b _ => exact ⟨a, b⟩

theorem Reach.target {cs : Nat} {T : Array Nat} {lo hi v x : Nat} (h : Reach cs T lo hi v x) : lo < x ∧ x ≤ hi := by
  induction h with
  | refl a b => exact ⟨a, b⟩
  | left _ _ _ ih => exact ih
  | right _ _ _ ih => exact ih

/-- raising the lower end of the window (slots of nodes that left it are recycled) only removes paths -/
theorem Reach.lo_mono {cs : Nat} {T : Array Nat} {lo lo' hi v x : Nat} (hl : lo ≤ lo')
    (h : Reach cs T lo' hi v x) : Reach cs T lo hi v x := by
  induction h with
  | refl a b => exact Reach.refl (by omega) b
  | left a b _ ih => exact Reach.left (by omega) b ih
  | right a b _ ih => exact Reach.right (by omega) b ih

theorem Reach.hi_drop {cs : Nat} {T : Array Nat} {lo hi v x : Nat} (ht : ∀ i, T.getD i 0 ≤ hi) (hv : v ≤ hi)
    (h : Reach cs T lo (hi + 1) v x) : Reach cs T lo hi v x := by
  induction h with
  | refl a b => exact Reach.refl a hv
  | left a b _ ih => exact Reach.left a hv (ih (ht _))
  | right a b _ ih => exact Reach.right a hv (ih (ht _))

/-- if, at every slot of a live node, what `F` stores reaches (in `T`) only what `T` stored there
    reaches, then every path of `F` is a path of `T` -/
theorem Reach.shrink {cs : Nat} {T F : Array Nat} {lo hi : Nat}
    (hs : ∀ v, lo < v → v ≤ hi →
      (∀ x, Reach cs T lo hi (F.getD (sl cs v) 0) x → Reach cs T lo hi (T.getD (sl cs v) 0) x) ∧
      (∀ x, Reach cs T lo hi (F.getD (sl cs v + 1) 0) x → Reach cs T lo hi (T.getD (sl cs v + 1) 0) x))
    {v x : Nat} (h : Reach cs F lo hi v x) : Reach cs T lo hi v x := by
  induction h with
  | refl a b => exact Reach.refl a b
  | left a b _ ih => exact Reach.left a b ((hs _ a b).1 _ ih)
  | right a b _ ih => exact Reach.right a b ((hs _ a b).2 _ ih)

theorem Reach.not_low {cs : Nat} {T : Array Nat} {lo hi v x : Nat} (hv : v ≤ lo) : ¬ Reach cs T lo hi v x :=
  fun h => by have := h.inWin; omega

/-- what a slot reaches -/
def RS (cs : Nat) (T : Array Nat) (lo hi σ x : Nat) : Prop := Reach cs T lo hi (T.getD σ 0) x

end LzmaVerif.Mf.Bt4
