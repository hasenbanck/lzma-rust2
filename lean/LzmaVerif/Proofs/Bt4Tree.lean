/-
  (B5) (`bt4_tree_matches_valid`, `Props/C01Bt4.lean`) on two routes without the search-tree invariant (which is what
  guarantees the first `min(len0, len1)` bytes that bt4.rs:247-255 skips): `depth_limit = 1`, where `len0 = len1 = 0`,
  under `Hyp`; and the executable check `validMatchB`, which the driver applies to every real trace (`check=1`).
-/
import LzmaVerif.Proofs.Bt4Hash
namespace LzmaVerif.Mf

theorem validMatchB_sound (d : Array UInt8) (dict p limit : Nat) (m : Match)
    (h : validMatchB d dict p limit m = true) : ValidMatch d dict p limit m := by
  unfold validMatchB at h
  simp only [Bool.and_eq_true, decide_eq_true_eq, List.all_eq_true, List.mem_range, beq_iff_eq] at h
  obtain ⟨⟨⟨⟨⟨h1, h2⟩, h3⟩, h4⟩, h5⟩, h6⟩ := h
  exact ⟨h1, h2, h3, h4, h5, h6⟩

theorem validMatchB_complete (d : Array UInt8) (dict p limit : Nat) (m : Match)
    (h : ValidMatch d dict p limit m) : validMatchB d dict p limit m = true := by
  obtain ⟨h1, h2, h3, h4, h5, h6⟩ := h
  unfold validMatchB
  simp only [Bool.and_eq_true, decide_eq_true_eq, List.all_eq_true, List.mem_range, beq_iff_eq]
  exact ⟨⟨⟨⟨⟨h1, h2⟩, h3⟩, h4⟩, h5⟩, h6⟩

namespace Bt4

variable {P : Bt4Params} {c : Cfg} {data : Array UInt8}

theorem walk_one_st {σ : Type} (P : Bt4Params) (data : Array UInt8) (k : Ctx) (probe : Probe σ) (tree : Array Nat)
    (ptr0 ptr1 len0 len1 cur : Nat) (st : σ) (lg : Log) :
    (walk P data k probe 1 tree ptr0 ptr1 len0 len1 cur st lg).2.1 =
      if geOrGt P.treeStopGe (k.lzPos - cur) k.cs = true then st
      else (probe st lg (min len0 len1) (k.lzPos - cur)).2.2.1 := by
  simp only [walk]
  split
  · rfl
  · split
    · rfl
    · split <;> rfl

theorem findLoop_depth1 (hok : P.ok) (k : Ctx) {hi : Nat}
    (hk : KFacts P c data k hi) (tree : Array Nat) (ptr0 ptr1 cur lenBest : Nat) (ms : Array Match) (lg : Log)
    (hc : EntryOk k.cs hi cur) (hlb : 2 ≤ lenBest) :
    ∀ x ∈ (findLoop P data k 1 tree ptr0 ptr1 0 0 cur lenBest ms lg).2.1.toList,
      x ∈ ms.toList ∨ ValidMatch data c.dict k.p (min c.mlmax (data.size - k.p)) x := by
  intro x hx
  rw [findLoop_eq_walk] at hx
  change x ∈ (walk P data k _ 1 tree ptr0 ptr1 0 0 cur (lenBest, ms) lg).2.1.2.toList at hx
  rw [walk_one_st] at hx
  split at hx
  · exact Or.inl hx
  · rename_i hstop
    obtain ⟨_, d1, d2, d3⟩ := walk_cand hok hk.toKCore hc hstop
    by_cases hit : lenBest < extendMatch data k.p (k.lzPos - cur) k.lenLimit (min 0 0)
    · rw [findProbe_hit hok hit] at hx
      rcases List.mem_append.1 (Array.toList_push ▸ hx) with h | h
      · exact Or.inl h
      · rw [List.mem_singleton.1 h]
        exact Or.inr (valid_of_prefix hk _ _ d1 d2 d3 (by omega) (extendMatch_le _ _ _ _ _ (Nat.zero_le _))
          (fun i hi => extendMatch_eq data k.p _ k.lenLimit (min 0 0) i (Nat.zero_le _) hi))
    · rw [findProbe_miss hok hit] at hx
      exact Or.inl hx

theorem tree_matches_valid_partial (hH : Hyp P c data) {s : St}
    (hI : Inv P c data s) (hdepth : depthLimit P c = 1) :
    ∀ m ∈ (find P c data s).2.toList, ValidMatch data c.dict s.pos (min c.mlmax (data.size - s.pos)) m := by
  have hok := hH.ok
  by_cases hp : pending P c data s.pos
  · rw [find_pending hH hp]; intro m hm; simp at hm
  have S := step hH hI hp
  have hcd := stepCd_ok hH hI hp
  have key : ∀ m ∈ (find P c data s).2.toList, ValidMatch data c.dict (stepK P c data s).p
      (min c.mlmax (data.size - (stepK P c data s).p)) m := by
    rw [find_tail hH hp]
    unfold findTail
    split
    · exact fun m hm => (hcd.valid m hm).1
    · intro m hm
      rw [hdepth] at hm
      rename_i hne
      rcases findLoop_depth1 hok _ S.facts _ _ _ _ _ _ _ S.cur (hcd.start hok hne S.facts.nice3).2.1 m hm with h | h
      · exact (hcd.valid m h).1
      · exact h
  rw [S.p] at key
  exact key

end Bt4
end LzmaVerif.Mf
