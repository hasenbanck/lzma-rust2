/-
  A stored entry of the renormalising finder (N) against the entry at the same place of the logical finder (L).
  `ERel cs lN lL eN eL` (`lN`, `lL` the two `lz_pos`): neither entry in the future and `min cs (lN - eN) =
  min cs (lL - eL)`: same `delta`, or both rejected by the distance test.  An entry clamped by `normalize` (`ERel.norm`)
  and the empty entry 0 (`ERel.zero`, needs `cyclic_size ≤ lz_pos`: why `lz_pos` starts there) are of the second kind.
  `DRel`: the same on `delta`s; the hash stage sees no more (`hashHits_congr`).
-/
import LzmaVerif.Model.Hc4Renorm
import LzmaVerif.Proofs.MfCands
namespace LzmaVerif.Mf

def ERel (cs lN lL eN eL : Nat) : Prop :=
  eN ≤ lN ∧ eL ≤ lL ∧ (lN - eN = lL - eL ∨ (cs ≤ lN - eN ∧ cs ≤ lL - eL))

theorem ERel.refl {cs l e : Nat} (he : e ≤ l) : ERel cs l l e e := ⟨he, he, Or.inl rfl⟩

theorem ERel.succ {cs lN lL a b : Nat} (h : ERel cs lN lL a b) : ERel cs (lN + 1) (lL + 1) a b := by
  obtain ⟨h1, h2, h3⟩ := h
  refine ⟨Nat.le_succ_of_le h1, Nat.le_succ_of_le h2, ?_⟩
  rw [Nat.succ_sub h1, Nat.succ_sub h2]
  exact h3.imp (congrArg Nat.succ) fun h => ⟨Nat.le_succ_of_le h.1, Nat.le_succ_of_le h.2⟩

/-- `normalize` on the N side: `off = lN - cs`, entry `max(e, off) - off`, `lz_pos - off` -/
theorem ERel.norm {cs lN lL a b : Nat} (h : ERel cs lN lL a b) (hcs : cs ≤ lN) :
    ERel cs (lN - (lN - cs)) lL (normPos (lN - cs) a) b := by
  obtain ⟨h1, h2, h3⟩ := h
  unfold normPos
  rcases Nat.le_total a (lN - cs) with ha | ha
  · -- clamped to 0: its `delta` was `≥ cs` already, hence so is the other
    rw [Nat.max_eq_right ha, Nat.sub_self, Nat.sub_sub_self hcs]
    refine ⟨Nat.zero_le _, h2, Or.inr ⟨Nat.le_refl _, ?_⟩⟩
    rcases h3 with e | h3
    · omega
    · exact h3.2
  · rw [Nat.max_eq_left ha, Nat.sub_sub_self hcs]
    have e : cs - (a - (lN - cs)) = lN - a := by omega
    exact ⟨by omega, h2, e ▸ h3⟩

/-- the writes of `update_tables(lz_pos)` -/
theorem ERel.self (cs lN lL : Nat) : ERel cs lN lL lN lL := by
  unfold ERel; omega

theorem ERel.zero {cs lN lL : Nat} (hN : cs ≤ lN) (hL : cs ≤ lL) : ERel cs lN lL 0 0 := by
  unfold ERel; omega

theorem ERel.lt_iff {cs lN lL a b : Nat} (h : ERel cs lN lL a b) : lN - a < cs ↔ lL - b < cs := by
  unfold ERel at h; omega

theorem ERel.delta_eq {cs lN lL a b : Nat} (h : ERel cs lN lL a b) (hlt : lL - b < cs) : lN - a = lL - b := by
  unfold ERel at h; omega

def TRel (cs lN lL : Nat) (tN tL : Array Nat) : Prop :=
  tN.size = tL.size ∧ ∀ i : Nat, ERel cs lN lL (tN.getD i 0) (tL.getD i 0)

theorem TRel.get {cs lN lL : Nat} {tN tL : Array Nat} (h : TRel cs lN lL tN tL) (i : Nat) :
    ERel cs lN lL (tN.getD i 0) (tL.getD i 0) := h.2 i

theorem TRel.succ {cs lN lL : Nat} {tN tL : Array Nat} (h : TRel cs lN lL tN tL) :
    TRel cs (lN + 1) (lL + 1) tN tL := ⟨h.1, fun i => (h.2 i).succ⟩

theorem getD_normTable (off : Nat) (t : Array Nat) (i : Nat) :
    (normTable off t).getD i 0 = normPos off (t.getD i 0) := by
  unfold normTable
  simp only [Array.getD_eq_getD_getElem?, Array.getElem?_map]
  cases t[i]? with
  | none => simp [normPos]
  | some v => rfl

theorem size_normTable (off : Nat) (t : Array Nat) : (normTable off t).size = t.size := by
  unfold normTable; exact Array.size_map ..

theorem TRel.norm {cs lN lL : Nat} {tN tL : Array Nat} (h : TRel cs lN lL tN tL) (hcs : cs ≤ lN) :
    TRel cs (lN - (lN - cs)) lL (normTable (lN - cs) tN) tL :=
  ⟨by rw [size_normTable]; exact h.1, fun i => by rw [getD_normTable]; exact (h.2 i).norm hcs⟩

theorem TRel.set {cs lN lL : Nat} {tN tL : Array Nat} (h : TRel cs lN lL tN tL) {vN vL : Nat}
    (hv : ERel cs lN lL vN vL) (i : Nat) :
    TRel cs lN lL (tN.setIfInBounds i vN) (tL.setIfInBounds i vL) := by
  refine ⟨by simp only [Array.size_setIfInBounds]; exact h.1, fun j => ?_⟩
  rw [getD_set, getD_set, h.1]
  by_cases hc : i = j ∧ i < tL.size
  · rw [if_pos hc, if_pos hc]; exact hv
  · rw [if_neg hc, if_neg hc]; exact h.2 j

theorem TRel.replicate {cs lN lL : Nat} (hN : cs ≤ lN) (hL : cs ≤ lL) (n : Nat) :
    TRel cs lN lL (Array.replicate n 0) (Array.replicate n 0) :=
  ⟨rfl, fun i => by rw [getD_replicate]; exact ERel.zero hN hL⟩

def DRel (cs dN dL : Nat) : Prop := dN = dL ∨ (cs ≤ dN ∧ cs ≤ dL)

theorem DRel.of {cs lN lL a b : Nat} (h : ERel cs lN lL a b) : DRel cs (lN - a) (lL - b) := h.2.2

theorem DRel.eq_of_lt {cs dN dL : Nat} (h : DRel cs dN dL) (hl : dL < cs) : dN = dL := by
  unfold DRel at h; omega

theorem DRel.not_lt {cs dN dL : Nat} (h : DRel cs dN dL) (hl : ¬ dL < cs) : ¬ dN < cs := by
  unfold DRel at h; omega

/-- a candidate enters the hash stage through its `delta`, or not at all -/
theorem hashHits_congr (d : Array UInt8) {cs a a' b b' : Nat} (p mll : Nat) (h2 : DRel cs a a') (h3 : DRel cs b b') :
    hashHits d cs p mll a b = hashHits d cs p mll a' b' := by
  rcases h3 with rfl | ⟨hb, hb'⟩
  · rcases h2 with rfl | ⟨ha, ha'⟩
    · rfl
    · -- the hash2 candidate is rejected on both sides; the hash3 test sees it only through `delta2 != delta3`
      have na : ¬ Hit d cs p a := Hit.far ha
      have na' : ¬ Hit d cs p a' := Hit.far ha'
      by_cases hb : Hit d cs p b
      · have ne : a ≠ b := by have := hb.1; omega
        have ne' : a' ≠ b := by have := hb.1; omega
        simp only [hashHits, na, na', hb, ne, ne', ne_eq, not_false_eq_true, and_self, if_true, if_false]
      · simp only [hashHits, na, na', hb, and_false, if_false]
  · have nb : ¬ Hit d cs p b := Hit.far hb
    have nb' : ¬ Hit d cs p b' := Hit.far hb'
    simp only [hashHits, nb, nb', and_false, if_false]
    rcases h2 with rfl | ⟨ha, ha'⟩
    · rfl
    · rw [if_neg (Hit.far ha), if_neg (Hit.far ha')]

end LzmaVerif.Mf
