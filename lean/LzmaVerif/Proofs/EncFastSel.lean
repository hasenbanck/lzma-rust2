/-
  Fast encoder: the selection loops of `get_next_symbol` only return real repetitions (`repLoop`) and elements of
  the finder's list (`pairLoop`, `mainSel`).
-/
import LzmaVerif.Model.EncFast
import LzmaVerif.Proofs.MfCands

namespace LzmaVerif.EncFast
open LzmaVerif Mf Lzma
open LzmaVerif.Mf.Hc4 (Eqs)

theorem ite_of {α : Type} {Q : α → Prop} {b : Prop} [Decidable b] {x y : α} (hx : b → Q x) (hy : ¬b → Q y) :
    Q (if b then x else y) := by
  by_cases h : b
  · rw [if_pos h]
    exact hx h
  · rw [if_neg h]
    exact hy h

theorem getMatchLen_spec (d : Array UInt8) (p dist limit : Nat) :
    getMatchLen d p dist limit ≤ limit ∧ Eqs d p (dist + 1) (getMatchLen d p dist limit) := by
  have := extendMatch_spec d p (dist + 1) limit 0 (Nat.zero_le _)
    (fun i hi => absurd hi (Nat.not_lt_zero i))
  exact ⟨this.2.1, this.2.2⟩

def RepOk (d : Array UInt8) (p avail : Nat) (c : Coder) (len i : Nat) : Prop :=
  i ≤ 3 ∧ 2 ≤ len ∧ len ≤ avail ∧ Eqs d p (c.rep i + 1) len

/-- what the first `for rep in 0..REPS` loop may hold or return: a real repetition, or no candidate yet -/
def RepRes.Ok (d : Array UInt8) (p avail : Nat) (c : Coder) : RepRes → Prop
  | .nice i len => RepOk d p avail c len i
  | .best len i => len = 0 ∨ RepOk d p avail c len i

theorem repLoop_ok (P : FastParams) (hmin : P.matchLenMin = 2) (nice : Nat) (d : Array UInt8)
    (p avail : Nat) (c : Coder) :
    ∀ (l : List Nat) (bl bi : Nat), (∀ i ∈ l, i ≤ 3) → (RepRes.best bl bi).Ok d p avail c →
      (repLoop P nice d p avail c l bl bi).Ok d p avail c
  | [], _, _, _, hb => hb
  | i :: rest, bl, bi, hl, hb => by
    obtain ⟨hi, hrest⟩ := List.forall_mem_cons.mp hl
    have hs := getMatchLen_spec d p (c.rep i) avail
    rw [repLoop]
    refine ite_of (fun _ => repLoop_ok P hmin nice d p avail c rest bl bi hrest hb) fun h2 => ?_
    have hok : RepOk d p avail c (getMatchLen d p (c.rep i) avail) i := ⟨hi, hmin ▸ Nat.le_of_not_lt h2, hs⟩
    exact ite_of (fun _ => hok) fun _ =>
      ite_of (fun _ => repLoop_ok P hmin nice d p avail c rest _ i hrest (Or.inr hok))
        fun _ => repLoop_ok P hmin nice d p avail c rest bl bi hrest hb

theorem pairLoop_mem (P : FastParams) :
    ∀ (rest : List Match) (ml md : Nat), pairLoop P ml md rest ∈ (ml, md) :: rest
  | [], ml, md => List.mem_cons_self ..
  | m :: rest, ml, md => by
    rw [pairLoop]
    exact ite_of (fun _ => List.mem_cons_of_mem _ (pairLoop_mem P rest m.1 m.2)) fun _ => List.mem_cons_self ..

def MainRes.Ok (l : List Match) : MainRes → Prop
  | .nice len dist => (len, dist) ∈ l
  | .sel len dist => len < 2 ∨ (len, dist) ∈ l

theorem mainSel_ok (P : FastParams) (nice : Nat) : ∀ l : List Match, (mainSel P nice l).Ok l
  | [] => Or.inl Nat.zero_lt_two
  | m :: rest => by
    rw [mainSel]
    exact ite_of (fun _ => List.mem_cons_self ..) fun _ =>
      ite_of (fun _ => Or.inl Nat.one_lt_two) fun _ => Or.inr (pairLoop_mem P rest m.1 m.2)

end LzmaVerif.EncFast
