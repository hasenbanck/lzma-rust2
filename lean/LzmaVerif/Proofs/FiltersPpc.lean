import LzmaVerif.Proofs.FiltersFields
/-!
PowerPC BCJ filter (`ppc_code`).  `Round` is shown on the bytes, in bit fields: the stored bytes are recognised and the displacement read from them is the one
stored (`ppcBytes_read`); storing a destination that agrees with the displacement of a recognised window gives the
window back (`ppcBytes_src`); between the two, `wsub_wadd_low`.  Core Lean only.
-/
namespace LzmaVerif.Filters
open LzmaVerif.Bits

def ppcRec (b0 _ _ b3 : Nat) : Prop := b0 &&& 0xFC = 0x48 ∧ b3 &&& 3 = 1

instance (b0 b1 b2 b3 : Nat) : Decidable (ppcRec b0 b1 b2 b3) :=
  inferInstanceAs (Decidable (b0 &&& 0xFC = 0x48 ∧ b3 &&& 3 = 1))

def ppcSrc (b0 b1 b2 b3 : Nat) : Nat := ((b0 &&& 3) <<< 24) ||| (b1 <<< 16) ||| (b2 <<< 8) ||| (b3 &&& 0xFC)

/-- the stored bytes of a destination `D` and the low bits `l` of the old last byte -/
def ppcBytes (D l : Nat) : Nat × Nat × Nat × Nat := (0x48 ||| ((D >>> 24) &&& 3), D >>> 16, D >>> 8, l ||| (D % 256))

/-- the four bytes `ppc_code` stores for a recognised window -/
def ppcOut (enc : Bool) (st : St) (i b0 b1 b2 b3 : Nat) : Nat × Nat × Nat × Nat :=
  ppcBytes (if enc then wadd (ppcSrc b0 b1 b2 b3) (posAt st i) else wsub (ppcSrc b0 b1 b2 b3) (posAt st i)) (b3 &&& 3)

def ppcStep (enc : Bool) (st : St) : Nat → Buf → Buf :=
  winStep ppcRec (ppcOut enc st)

theorem ppcLoop_eq_scan (enc : Bool) (st : St) : ∀ fuel i b,
    ppcLoop enc st fuel i b = scan 4 (fun i b => (ppcStep enc st i b, 4)) fuel i b :=
  eq_scan _ (fun _ _ => rfl) (fun n i b => by
    rw [ppcLoop]
    refine ite_congr rfl (fun _ => rfl) (fun _ => ?_)
    exact (apply_ite (ppcLoop enc st n (i + 4)) _ _ _).symm)

theorem ppcStep_bytes (enc : Bool) (st : St) (i : Nat) (b : Buf) (h : BBytes b) : BBytes (ppcStep enc st i b) :=
  winStep_bytes i b h

/-- `bl`: opcode 18 in the top six bits of the first byte, `AA = 0`, `LK = 1` in the low two bits of the last,
    and the 24 bits between are the displacement in words -/
theorem ppcRec_iff (b0 b1 b2 b3 : Nat) : ppcRec b0 b1 b2 b3 ↔ fld b0 2 6 = 18 ∧ fld b3 0 2 = 1 := by
  rw [ppcRec, mask_FC, mask_3, show (0x48 : Nat) = 18 <<< 2 from rfl, Nat.shiftLeft_eq, Nat.shiftLeft_eq,
    Nat.mul_left_inj (by decide)]

theorem ppcSrc_fields (b0 b1 b2 b3 : Nat) :
    ppcSrc b0 b1 b2 b3 = fld b0 0 2 <<< 24 ||| b1 <<< 16 ||| b2 <<< 8 ||| fld b3 2 6 <<< 2 := by
  rw [ppcSrc, mask_3, mask_FC]

theorem ppcBytes_read (D l : Nat) (hD : D % 4 = 0) (hl : l = 1) :
    ppcRec ((ppcBytes D l).1 % 256) ((ppcBytes D l).2.1 % 256) ((ppcBytes D l).2.2.1 % 256) ((ppcBytes D l).2.2.2 % 256) ∧
    ppcSrc ((ppcBytes D l).1 % 256) ((ppcBytes D l).2.1 % 256) ((ppcBytes D l).2.2.1 % 256)
      ((ppcBytes D l).2.2.2 % 256) % 2 ^ 26 = D % 2 ^ 26 := by
  have e : ∀ x, x % 2 ^ 26 =
      fld x 0 2 ||| (fld x 2 6 ||| (fld x 8 8 ||| (fld x 16 8 ||| fld x 24 2 <<< 8) <<< 8) <<< 6) <<< 2 := by
    intro x
    rw [fld_cat x 16 8 24 2 rfl, fld_cat x 8 8 16 _ rfl, fld_cat x 2 6 8 _ rfl, fld_cat x 0 2 2 _ rfl, fld_zero]
  have h0 : fld D 0 2 = 0 := by rw [fld_zero]; exact hD
  subst hl
  rw [ppcRec_iff, e, e D, h0]
  -- the opcode written as a shifted field, so that the field lemmas see through it
  fld_simp [ppcSrc_fields, ppcBytes, mod256_fld, mask_3, show (0x48 : Nat) = 18 <<< 2 from rfl, h0]
  decide

theorem ppcBytes_src (b0 b1 b2 b3 D l : Nat) (h1 : b1 < 256) (h2 : b2 < 256) (hr : ppcRec b0 b1 b2 b3)
    (hD : D % 2 ^ 26 = ppcSrc b0 b1 b2 b3 % 2 ^ 26) (hl : l = b3 &&& 3) :
    (ppcBytes D l).1 % 256 = fld b0 0 8 ∧ (ppcBytes D l).2.1 % 256 = fld b1 0 8 ∧
    (ppcBytes D l).2.2.1 % 256 = fld b2 0 8 ∧ (ppcBytes D l).2.2.2 % 256 = fld b3 0 8 := by
  subst hl
  have e : ∀ lo n, lo + n ≤ 26 → fld D lo n = fld (ppcSrc b0 b1 b2 b3) lo n := fun lo n => fld_congr hD lo n
  rw [ppcRec_iff] at hr
  fld_simp [ppcBytes, mod256_fld, mask_3, e, ppcSrc_fields, show (0x48 : Nat) = 18 <<< 2 from rfl, fld_byte_hi h1,
    fld_byte_hi h2, ← hr.1,
    fld_shl_lo, fld_fld_wide, Nat.or_comm (fld b0 2 6 <<< 2), fld_cat, and_self]

theorem ppc_round (st : St) (i : Nat) (hp : posAt st i % 4 = 0) :
    Round ppcRec (ppcOut true st i) (ppcOut false st i) := by
  have key : ∀ b0 b1 b2 b3, ppcRec b0 b1 b2 b3 → wadd (ppcSrc b0 b1 b2 b3) (posAt st i) % 4 = 0 ∧ b3 &&& 3 = 1 := by
    intro b0 b1 b2 b3 hr
    have : fld (ppcSrc b0 b1 b2 b3) 0 2 = 0 := by fld_simp [ppcSrc_fields]
    simp only [fld, wadd] at this ⊢
    exact ⟨by omega, hr.2⟩
  constructor
  · intro b0 b1 b2 b3 _ _ _ _ hr
    rw [ppcOut, if_pos rfl]
    exact (ppcBytes_read _ _ (key _ _ _ _ hr).1 (key _ _ _ _ hr).2).1
  · intro b0 b1 b2 b3 h0 h1 h2 h3 hr d hd
    obtain ⟨r1, r2⟩ := ppcBytes_read _ _ (key _ _ _ _ hr).1 (key _ _ _ _ hr).2
    have := ppcBytes_src b0 b1 b2 b3 _ _ h1 h2 hr (wsub_wadd_low (2 ^ 26) (by decide) _ _ (posAt st i) r2)
      (r1.2.trans hr.2.symm)
    rw [fld_of_lt (n := 8) h0, fld_of_lt (n := 8) h1, fld_of_lt (n := 8) h2, fld_of_lt (n := 8) h3] at this
    rw [hd, ppcOut, if_neg (by decide), ppcOut, if_pos rfl]
    exact this

theorem ppc_stepOK (st : St) (hp : st.pos % 4 = 0) :
    StepOK 4 (fun i => i % 4 = 0) (fun _ _ => 0) (fun i b => (ppcStep true st i b, 4))
      (fun i b => (ppcStep false st i b, 4)) :=
  winStep_stepOK (O := fun enc => ppcOut enc st) (fun i h => by omega)
    (fun i hi => ppc_round st i (posAt_aligned st i 4 (by decide) hp hi))

theorem ppc_inv (start : Nat) (hs : start % 4 = 0) (xs : List Nat) (h : Bytes xs) :
    oneShot .ppc false start (oneShot .ppc true start xs) = xs := by
  have hp : (St.init .ppc start).pos % 4 = 0 := by simp only [St.init]; omega
  simp only [oneShot, code, ppcLoop_eq_scan]
  exact scan_inv_list (ppc_stepOK _ hp) (by rfl) xs h

end LzmaVerif.Filters
