import LzmaVerif.Model.Xz
import LzmaVerif.Proofs.XzInt
import LzmaVerif.Proofs.ChecksBasic
/-! How a successful parse is inverted step by step (`bind_eq_ok`, `guard_eq_ok`, `of_guard_ok`); parsers are monotone
in their input (`Ext`). -/
namespace LzmaVerif.Xz
open LzmaVerif Lzma Checks

def Bytes (xs : List Nat) : Prop := ∀ x ∈ xs, x < 256

theorem Bytes.nil : Bytes [] := by intro x h; cases h
theorem Bytes.cons {x : Nat} {xs : List Nat} (h : x < 256) (hs : Bytes xs) : Bytes (x :: xs) := by
  intro y hy
  rcases List.mem_cons.mp hy with rfl | h'
  · exact h
  · exact hs y h'
theorem Bytes.append {xs ys : List Nat} (h1 : Bytes xs) (h2 : Bytes ys) : Bytes (xs ++ ys) := by
  intro y hy
  rcases List.mem_append.mp hy with h | h
  · exact h1 y h
  · exact h2 y h
theorem Bytes.replicate0 (n : Nat) : Bytes (List.replicate n 0) := by
  intro y hy
  rw [List.mem_replicate] at hy
  omega

theorem takeN_append (n : Nat) (xs r : List Nat) (h : xs.length = n) :
    takeN n (xs ++ r) = .ok (xs, r) := by
  subst h
  unfold takeN
  have : ¬ ((xs ++ r).length < xs.length) := by simp
  rw [if_neg this, List.take_left, List.drop_left]

theorem takeN_ok {n : Nat} {inp a b : List Nat} (h : takeN n inp = .ok (a, b)) :
    inp = a ++ b ∧ a.length = n := by
  unfold takeN at h
  split at h
  · cases h
  · rename_i hl
    injection h with h
    injection h with h1 h2
    subst h1; subst h2
    exact ⟨(List.take_append_drop n inp).symm, by rw [List.length_take]; omega⟩

/-! Applied one step at a time (`obtain ⟨a, ha, h'⟩ := bind_eq_ok.mp h`) these walk a hypothesis `p inp = .ok r` along the
successful path through `p` without unfolding what lies ahead; `.mpr` builds such a path. -/
theorem bind_eq_ok {ε α β : Type} {x : Except ε α} {f : α → Except ε β} {b : β} :
    (x >>= f) = .ok b ↔ ∃ a, x = .ok a ∧ f a = .ok b := by
  cases x with
  | error e => exact ⟨fun h => (nomatch h), fun ⟨_, h, _⟩ => (nomatch h)⟩
  | ok a => exact ⟨fun h => ⟨a, rfl, h⟩, fun ⟨_, h, h'⟩ => by cases h; exact h'⟩

theorem bind_congr_ok {ε α β : Type} {x : Except ε α} {f g : α → Except ε β} (h : ∀ a, x = .ok a → f a = g a) :
    x >>= f = x >>= g := by
  cases x with
  | error e => rfl
  | ok a => exact h a rfl

/-- `if c then throw e` in front of the rest `k` of a `do` block: the elaborated shape is
`if c then throw e >>= f else k` (`f` the join point that `k` calls), and only that shape is matched -/
theorem guard_eq_ok {ε α β : Type} {c : Prop} [Decidable c] {e : ε} {f : α → Except ε β} {k : Except ε β} {b : β} :
    (if c then (throw e >>= f) else k) = .ok b ↔ ¬ c ∧ k = .ok b := by
  by_cases h : c
  · rw [if_pos h]; exact ⟨fun h' => (nomatch h'), fun h' => absurd h h'.1⟩
  · rw [if_neg h]; exact ⟨fun h' => ⟨h, h'⟩, fun h' => h'.2⟩

/-- a guard `c` in front of the rest `x` of a decoder that reports by constructors, not in a monad: a run that ended
in `r` (which the guard's own outcome `y` is not) has passed it -/
theorem of_guard_ok {α : Type} {c : Prop} [Decidable c] {y x r : α} {P : Prop} (hy : y ≠ r) (k : ¬ c → x = r → P) :
    (if c then y else x) = r → P := by
  intro h
  by_cases hc : c
  · rw [if_pos hc] at h
    exact absurd h hy
  · rw [if_neg hc] at h
    exact k hc h

/-- for a relation between the answers of two runs that are walked side by side -/
theorem rel_ite {α β : Type} {R : α → β → Prop} {c : Prop} [Decidable c] {a a' : α} {b b' : β}
    (h : R a b) (h' : ¬ c → R a' b') : R (if c then a else a') (if c then b else b') := by
  by_cases hc : c
  · rw [if_pos hc, if_pos hc]
    exact h
  · rw [if_neg hc, if_neg hc]
    exact h' hc

/-! A parser that has succeeded gives the same answer with more bytes behind its input and leaves them unread.  This
passes through `>>=`, guards, `pure`, `throw` without side conditions, so every `*_ext` is a composition along the `do`
block (`app` is `app2` except for `parseFooter` and `parseIndex`, which return the rest third).  Do not `simp` under the
body first: the pair matches become projections and the `Ext.*` lemmas fail to unify. -/

/-- `app b x` puts the added bytes `x` behind the rest that the answer `b` holds -/
def Ext {β : Type} (p : List Nat → Except Err β) (app : β → List Nat → β) : Prop :=
  ∀ ⦃inp b⦄, p inp = .ok b → ∀ x, p (inp ++ x) = .ok (app b x)

abbrev app2 {α : Type} (b : α × List Nat) (x : List Nat) : α × List Nat := (b.1, b.2 ++ x)

theorem Ext.bind {α β : Type} {p : List Nat → Except Err (α × List Nat)} {k : α × List Nat → Except Err β}
    {app : β → List Nat → β} (hp : Ext p app2) (hk : ∀ a, Ext (fun r => k (a, r)) app) :
    Ext (fun inp => p inp >>= k) app := by
  intro inp b h x
  obtain ⟨⟨a, r⟩, h1, h2⟩ := bind_eq_ok.mp h
  exact bind_eq_ok.mpr ⟨_, hp h1 x, hk a h2 x⟩

/-- a step that does not look at the input -/
theorem Ext.seq {β γ : Type} {e : Except Err γ} {k : γ → List Nat → Except Err β} {app : β → List Nat → β}
    (hk : ∀ a, Ext (k a) app) : Ext (fun r => e >>= fun a => k a r) app := by
  intro inp b h x
  obtain ⟨a, h1, h2⟩ := bind_eq_ok.mp h
  exact bind_eq_ok.mpr ⟨a, h1, hk a h2 x⟩

theorem Ext.guard {β : Type} {c : Prop} [Decidable c] {e : Err} {k : List Nat → Except Err β} {app : β → List Nat → β}
    (hk : Ext k app) : Ext (fun inp => if c then throw e >>= fun (_ : PUnit) => k inp else k inp) app := by
  intro inp b h x
  by_cases hc : c
  · simp only [if_pos hc] at h
    cases h
  · simp only [if_neg hc] at h ⊢
    exact hk h x

theorem Ext.pure {β : Type} {f : List Nat → β} {app : β → List Nat → β} (hf : ∀ r x, f (r ++ x) = app (f r) x) :
    Ext (fun inp => (Pure.pure (f inp) : Except Err β)) app := by
  intro inp b h x
  cases h
  exact congrArg Except.ok (hf inp x)

theorem Ext.throw {β : Type} {e : Err} {app : β → List Nat → β} : Ext (fun _ => (throw e : Except Err β)) app := nofun

theorem takeN_ext (n : Nat) : Ext (takeN n) app2 := by
  intro inp b h x
  obtain ⟨a, rest⟩ := b
  obtain ⟨rfl, hl⟩ := takeN_ok h
  rw [List.append_assoc]
  exact takeN_append n a _ hl

theorem compute_length (c : Check) (data : List Nat) : (c.compute data).length = c.size := by
  cases c
  · rfl
  · exact le_length _ _
  · exact le_length _ _
  · simp [Check.compute, Check.size, sha256, be, le_length]

theorem size_mod4 (c : Check) : c.size % 4 = 0 := by cases c <;> rfl

theorem toByte_lt (c : Check) : c.toByte < 256 := by cases c <;> decide

theorem ofByte_toByte (c : Check) : Check.ofByte c.toByte = some c := by cases c <;> rfl

theorem mb_eq {v : Nat} (hv : v < 2 ^ 63) : mb v = XzInt.encodeFuel 10 v := by
  unfold mb XzInt.encode
  rw [if_neg (by omega), Option.getD_some]

theorem mb_spec (v : Nat) (hv : v < 2 ^ 63) :
    1 ≤ (mb v).length ∧ (mb v).length ≤ 9 ∧ Bytes (mb v) ∧ ∀ r, mbReader (mb v ++ r) = .ok (v, r) := by
  have hsz := XzInt.sizeForFuel_le_nine 10 hv
  have hlen := XzInt.encodeFuel_length 10 v
  rw [mb_eq hv, hlen]
  refine ⟨XzInt.sizeForFuel_pos 9 v, hsz, XzInt.encodeFuel_lt 10 v, fun r => ?_⟩
  unfold mbReader XzInt.parseReader
  rw [XzInt.parseReaderAux_encodeFuel 10 v 9 0 0 0 r (by omega) (by decide) hsz (by omega)]
  simp only [Nat.zero_add, Nat.pow_zero, Nat.mul_one, ← hlen, List.drop_left]

theorem mbSlice_small (b : Nat) (r : List Nat) (hb : b < 128) : mbSlice (b :: r) = .ok (b, r) := by
  unfold mbSlice XzInt.parseSlice
  simp only [XzInt.parseSliceAux]
  have h2 : b % 128 = b := Nat.mod_eq_of_lt hb
  simp [hb, h2]

end LzmaVerif.Xz
