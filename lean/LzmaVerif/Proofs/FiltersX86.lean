import LzmaVerif.Proofs.FiltersFields
/-!
x86 BCJ filter (`x86_code`), for any start offset.  Core Lean only.

The loop carries a state (`prevPos`, `prevMask`), and a decision of the decoder reads bytes that up to four later
encoder steps may modify: that they do not spoil it is an induction over the run (`future`), not a per-byte
signature, so `StepOK` does not apply.

* `xl`: the buffer component of `x86Loop` in one-step normal form: non-opcode / converted (`cvt`) / not converted,
  with the effective mask `effPm`.
* The inner `x86Conv` loop: the encoder stops after at most two rounds on a non-MS test byte, the decoder mirrors
  it; only residues mod `2^25` matter (`conv_rt`, `x86Conv_rt`).
* `cvt_store`: on a converted operand the decoder takes the same decision and restores the bytes.
* `future`: an opcode the encoder did not convert is not convertible in the final encoded buffer
  (either its four operand bytes are unchanged or byte `i+4` became a non-MS byte).
* `xl_inv`: same fuel, same path on both sides.
-/
namespace LzmaVerif.Filters
open LzmaVerif.Bits

/-- distance to the previous opcode -/
def xDist (pp : Option Nat) (i : Nat) : Nat := match pp with | none => i + 1 | some q => i - q

/-- effective `prev_mask` at an opcode position -/
def effPm (pp : Option Nat) (m i : Nat) : Nat :=
  if xDist pp i > 3 then 0 else (m <<< (xDist pp i - 1)) &&& 7

/-- the decision "convert the operand at `i`" -/
def cvt (pm : Nat) (b : Buf) (i : Nat) : Bool :=
  (decide (pm = 0) || (maskAllowed pm && !msByte (gb b (i + 4 - maskBit pm)))) && msByte (gb b (i + 4))

def opnd (b : Buf) (i : Nat) : Nat :=
  gb b (i + 1) + 256 * gb b (i + 2) + 65536 * gb b (i + 3) + 16777216 * gb b (i + 4)

def store (b : Buf) (i dest : Nat) : Buf :=
  sb (sb (sb (sb b (i + 1) dest) (i + 2) (dest >>> 8)) (i + 3) (dest >>> 16)) (i + 4)
    (if (dest >>> 24) &&& 1 = 1 then 0xFF else 0)

def xl (enc : Bool) (st : St) : Nat → Nat → Option Nat → Nat → Buf → Buf
  | 0, _, _, _, b => b
  | f+1, i, pp, m, b =>
    if i + 5 > b.size then b else
    if gb b i ≠ 0xE8 ∧ gb b i ≠ 0xE9 then xl enc st f (i + 1) pp m b else
    if cvt (effPm pp m i) b i then
      xl enc st f (i + 5) (some i) (effPm pp m i)
        (store b i (x86Conv enc (posAt st i) (effPm pp m i) 64 (opnd b i)))
    else xl enc st f (i + 1) (some i) ((effPm pp m i <<< 1) ||| 1) b

/-- The two stages of `x86Loop` at an opcode (shift the mask and maybe skip; then test byte `i + 4`) as one test
    of the effective mask `if d > 3 then 0 else pm`: `al`, `tb`, `t4` stand for the tests, `C` and `L` for the
    two ways the loop goes on. -/
theorem stage_eq {α β : Type} (f : β → α) (d pm : Nat) (al tb : Nat → Bool) (t4 : Bool) (C L : Nat → β) :
    f (match (if d > 3 then some 0 else
        if pm ≠ 0 ∧ (¬ al pm = true ∨ tb pm = true) then none else some pm : Option Nat) with
      | none => L pm
      | some e => if t4 = true then C e else L e) =
    if ((decide ((if d > 3 then 0 else pm) = 0) ||
        (al (if d > 3 then 0 else pm) && !tb (if d > 3 then 0 else pm))) && t4) = true
      then f (C (if d > 3 then 0 else pm)) else f (L (if d > 3 then 0 else pm)) := by
  by_cases h3 : d > 3
  · simp only [if_pos h3, decide_true, Bool.true_or, Bool.true_and]
    split
    · rfl
    · rfl
  · by_cases h5 : pm = 0
    · simp [h3, h5]
      split
      · rfl
      · rfl
    · cases h6 : al pm
      · simp [h3, h5, h6]
      · cases h7 : tb pm
        · simp [h3, h5, h6, h7]
          split
          · rfl
          · rfl
        · simp [h3, h5, h6, h7]

theorem x86Loop_step (enc : Bool) (st : St) (n i : Nat) (pp : Option Nat) (m : Nat) (b : Buf)
    (h : ¬ i + 5 > b.size) :
    x86Loop enc st (n + 1) i pp m b =
      if gb b i ≠ 0xE8 ∧ gb b i ≠ 0xE9 then x86Loop enc st n (i + 1) pp m b else
      if cvt (effPm pp m i) b i then
        x86Loop enc st n (i + 5) (some i) (effPm pp m i)
          (store b i (x86Conv enc (posAt st i) (effPm pp m i) 64 (opnd b i)))
      else x86Loop enc st n (i + 1) (some i) ((effPm pp m i <<< 1) ||| 1) b := by
  simp only [x86Loop, h, ↓reduceIte]
  split
  · rfl
  exact stage_eq id (xDist pp i) ((m <<< (xDist pp i - 1)) &&& 7) maskAllowed
    (fun pm => msByte (gb b (i + 4 - maskBit pm))) (msByte (gb b (i + 4)))
    (fun pm => x86Loop enc st n (i + 5) (some i) pm (store b i (x86Conv enc (posAt st i) pm 64 (opnd b i))))
    (fun pm => x86Loop enc st n (i + 1) (some i) ((pm <<< 1) ||| 1) b)

theorem x86Loop_eq_xl (enc : Bool) (st : St) : ∀ f i pp m b,
    (x86Loop enc st f i pp m b).1 = xl enc st f i pp m b := by
  intro f
  induction f with
  | zero =>
    intro i pp m b
    rfl
  | succ n ih =>
    intro i pp m b
    rw [xl]
    by_cases h : i + 5 > b.size
    · rw [if_pos h]
      simp only [x86Loop, h, ↓reduceIte]
    · rw [if_neg h, x86Loop_step enc st n i pp m b h, ← ih, ← ih, ← ih]
      simp only [apply_ite Prod.fst]

theorem store_eq (b : Buf) (i v : Nat) :
    store b i v = put4 b (i + 1) (v, v >>> 8, v >>> 16, if (v >>> 24) &&& 1 = 1 then 0xFF else 0) := rfl

theorem size_store (b : Buf) (i v : Nat) : (store b i v).size = b.size := by
  rw [store_eq, put4_size]

theorem BBytes_store (b : Buf) (i v : Nat) (h : BBytes b) : BBytes (store b i v) := by
  rw [store_eq]
  exact put4_bytes _ _ _ h

theorem gb_store_out (b : Buf) (i v k : Nat) (hk : k ≤ i ∨ i + 5 ≤ k) : gb (store b i v) k = gb b k := by
  rw [store_eq, put4_frame _ _ _ _ (by omega)]

theorem gb_store_in (b : Buf) (i v : Nat) (hw : i + 5 ≤ b.size) :
    gb (store b i v) (i + 1) = v % 256 ∧ gb (store b i v) (i + 2) = v / 2 ^ 8 % 256 ∧
    gb (store b i v) (i + 3) = v / 2 ^ 16 % 256 ∧
    gb (store b i v) (i + 4) = if v / 2 ^ 24 % 2 = 1 then 255 else 0 := by
  rw [store_eq, show i + 2 = i + 1 + 1 from rfl, show i + 3 = i + 1 + 2 from rfl, show i + 4 = i + 1 + 3 from rfl]
  obtain ⟨g1, g2, g3, g4⟩ := put4_get b (i + 1) (v, v >>> 8, v >>> 16, if (v >>> 24) &&& 1 = 1 then 0xFF else 0)
    (by omega)
  rw [g1, g2, g3, g4]
  simp only [shr_eq, and_mask _ 1, Nat.pow_one, true_and]
  split <;> rfl

theorem xl_size (enc : Bool) (st : St) : ∀ f i pp m b, (xl enc st f i pp m b).size = b.size := by
  intro f
  induction f with
  | zero =>
    intro i pp m b
    rfl
  | succ n ih =>
    intro i pp m b
    simp only [xl]
    split
    · rfl
    · split
      · exact ih _ _ _ _
      · split
        · rw [ih, size_store]
        · exact ih _ _ _ _

theorem xl_bytes (enc : Bool) (st : St) : ∀ f i pp m b, BBytes b → BBytes (xl enc st f i pp m b) := by
  intro f
  induction f with
  | zero =>
    intro i pp m b h
    exact h
  | succ n ih =>
    intro i pp m b h
    simp only [xl]
    split
    · exact h
    · split
      · exact ih _ _ _ _ h
      · split
        · exact ih _ _ _ _ (BBytes_store _ _ _ h)
        · exact ih _ _ _ _ h

theorem xl_frame (enc : Bool) (st : St) : ∀ f i pp m b k, k ≤ i →
    gb (xl enc st f i pp m b) k = gb b k := by
  intro f
  induction f with
  | zero =>
    intro i pp m b k _
    rfl
  | succ n ih =>
    intro i pp m b k hk
    simp only [xl]
    split
    · rfl
    · split
      · exact ih _ _ _ _ _ (by omega)
      · split
        · rw [ih _ _ _ _ _ (by omega), gb_store_out _ _ _ _ (Or.inl hk)]
        · exact ih _ _ _ _ _ (by omega)

theorem msByte_iff (x : Nat) : msByte x = true ↔ (x = 0 ∨ x = 255) := by
  simp [msByte]

/-- the `dest ^ ((1 << (32 - index)) - 1)` of the code: the low `K` bits complemented -/
def xflip (K x : Nat) : Nat := x ^^^ (2 ^ K - 1)

theorem xflip_eq (K x : Nat) : xflip K x = x / 2 ^ K * 2 ^ K + (2 ^ K - 1 - x % 2 ^ K) := by
  have hlt : 2 ^ K - 1 - x % 2 ^ K < 2 ^ K := by
    have := Nat.two_pow_pos K
    omega
  have e : 2 ^ K - 1 - x % 2 ^ K = 2 ^ K - (x % 2 ^ K + 1) := by omega
  unfold xflip
  rw [← Nat.shiftLeft_eq, Nat.shiftLeft_add_eq_or_of_lt hlt, e]
  apply Nat.eq_of_testBit_eq
  intro i
  have hm : x % 2 ^ K < 2 ^ K := Nat.mod_lt _ (Nat.two_pow_pos K)
  simp only [Nat.testBit_xor, Nat.testBit_or, Nat.testBit_shiftLeft, Nat.testBit_two_pow_sub_one,
    Nat.testBit_two_pow_sub_succ hm, Nat.testBit_mod_two_pow, Nat.testBit_div_two_pow]
  by_cases h : i < K
  · have h' : ¬ i ≥ K := by omega
    simp [h, h']
  · have h' : i ≥ K := by omega
    have : K + (i - K) = i := by omega
    simp [h, h']

def tbK (K x : Nat) : Nat := x / 2 ^ (K - 8) % 256

def conv (enc : Bool) (p K : Nat) : Nat → Nat → Nat
  | 0, src => if enc then wadd src p else wsub src p
  | f+1, src =>
    if ¬ msByte (tbK K (if enc then wadd src p else wsub src p)) then
      (if enc then wadd src p else wsub src p)
    else conv enc p K f (xflip K (if enc then wadd src p else wsub src p))

theorem maskBit_1 : maskBit 1 = 1 := rfl
theorem maskBit_2 : maskBit 2 = 2 := rfl
theorem maskBit_4 : maskBit 4 = 3 := rfl

theorem x86Conv_zero (enc : Bool) (p f src : Nat) :
    x86Conv enc p 0 (f + 1) src = if enc then wadd src p else wsub src p := by
  simp only [x86Conv, if_pos]

theorem x86Conv_eq (enc : Bool) (p pm : Nat) (hpm : pm = 1 ∨ pm = 2 ∨ pm = 4) : ∀ f src,
    x86Conv enc p pm f src = conv enc p (32 - 8 * maskBit pm) f src := by
  intro f
  induction f with
  | zero =>
    intro src
    rfl
  | succ n ih =>
    intro src
    simp only [x86Conv, conv]
    have h0 : pm ≠ 0 := by omega
    rw [if_neg h0, shr_eq, and_mask _ 8, ih]
    have e1 : 24 - maskBit pm * 8 = 32 - 8 * maskBit pm - 8 := by omega
    have e2 : 32 - maskBit pm * 8 = 32 - 8 * maskBit pm := by omega
    rw [e1, e2]
    rfl

def KOK (K : Nat) : Prop := K = 8 ∨ K = 16 ∨ K = 24

theorem tbK_lt (K x : Nat) : tbK K x < 256 := Nat.mod_lt _ (by decide)

theorem ms_compl (t : Nat) (ht : t < 256) : msByte (255 - t) = msByte t := by
  rw [Bool.eq_iff_iff, msByte_iff, msByte_iff]
  omega

/-- the tested byte is the top byte of the complemented part -/
theorem tbK_xflip (K x : Nat) (hK : KOK K) : tbK K (xflip K x) = 255 - tbK K x := by
  have e : tbK K (xflip K x) = xflip 8 (tbK K x) := by
    rw [xflip, xflip]
    rcases hK with rfl | rfl | rfl
    · exact fld_xor x (2 ^ 8 - 1) 0 8
    · exact fld_xor x (2 ^ 16 - 1) 8 8
    · exact fld_xor x (2 ^ 24 - 1) 16 8
  have := tbK_lt K x
  rw [e, xflip_eq]
  omega

theorem xflip_xflip (K x : Nat) : xflip K (xflip K x) = x := by
  rw [xflip, xflip, Nat.xor_assoc, Nat.xor_self, Nat.xor_zero]

theorem xflip_lt (K x : Nat) (hK : KOK K) (hx : x < 2 ^ 32) : xflip K x < 2 ^ 32 :=
  Nat.xor_lt_two_pow hx (Nat.lt_of_lt_of_le (Nat.sub_one_lt (Nat.ne_of_gt (Nat.two_pow_pos K)))
    (Nat.pow_le_pow_right (by decide) (by rcases hK with rfl | rfl | rfl <;> decide)))

theorem tbK_second (K s p : Nat) (hK : KOK K) :
    tbK K (wadd (xflip K (wadd s p)) p) = 255 - tbK K s := by
  simp only [tbK, xflip_eq, wadd]
  rcases hK with rfl | rfl | rfl <;> omega

theorem step_cong (enc : Bool) (a a' p : Nat) (h : a % 2 ^ 25 = a' % 2 ^ 25) :
    (if enc then wadd a p else wsub a p) % 2 ^ 25 = (if enc then wadd a' p else wsub a' p) % 2 ^ 25 := by
  cases enc
  · simp only [wsub, Bool.false_eq_true, if_false]
    omega
  · simp only [wadd, if_true]
    omega

theorem tbK_cong (K a a' : Nat) (hK : KOK K) (h : a % 2 ^ 25 = a' % 2 ^ 25) : tbK K a = tbK K a' :=
  fld_congr h (K - 8) 8 (by rcases hK with rfl | rfl | rfl <;> decide)

theorem xflip_cong (K a a' : Nat) (h : a % 2 ^ 25 = a' % 2 ^ 25) :
    xflip K a % 2 ^ 25 = xflip K a' % 2 ^ 25 := by
  rw [xflip, xflip, Nat.xor_mod_two_pow, h, ← Nat.xor_mod_two_pow]

theorem conv_cong (enc : Bool) (p K : Nat) (hK : KOK K) : ∀ f a a', a % 2 ^ 25 = a' % 2 ^ 25 →
    conv enc p K f a % 2 ^ 25 = conv enc p K f a' % 2 ^ 25 := by
  intro f
  induction f with
  | zero =>
    intro a a' h
    exact step_cong enc a a' p h
  | succ n ih =>
    intro a a' h
    have h1 := step_cong enc a a' p h
    simp only [conv]
    generalize (if enc = true then wadd a p else wsub a p) = x at h1 ⊢
    generalize (if enc = true then wadd a' p else wsub a' p) = x' at h1 ⊢
    rw [tbK_cong K _ _ hK h1]
    split
    · exact h1
    · exact ih _ _ (xflip_cong K _ _ h1)

/-- the encoder's conversion ends on a non-MS test byte, and the decoder's conversion undoes it -/
theorem conv_rt (p K : Nat) (hK : KOK K) (f src : Nat) (hs : src < 2 ^ 32)
    (ht : ¬ msByte (tbK K src) = true) :
    ¬ msByte (tbK K (conv true p K (f + 2) src)) = true ∧
    conv false p K (f + 2) (conv true p K (f + 2) src) = src := by
  have e3 : wsub (wadd src p) p = src := wsub_wadd _ _ hs
  by_cases h0 : msByte (tbK K (wadd src p)) = true
  · have hh : ¬ msByte (tbK K (wadd (xflip K (wadd src p)) p)) = true := by
      rw [tbK_second K src p hK, ms_compl _ (tbK_lt _ _)]
      exact ht
    have e1 : conv true p K (f + 2) src = wadd (xflip K (wadd src p)) p := by
      simp [conv, h0, hh]
    rw [e1]
    refine ⟨hh, ?_⟩
    have e2 : wsub (wadd (xflip K (wadd src p)) p) p = xflip K (wadd src p) :=
      wsub_wadd _ _ (xflip_lt K _ hK (wadd_lt _ _))
    have h3 : msByte (tbK K (xflip K (wadd src p))) = true := by
      rw [tbK_xflip K _ hK, ms_compl _ (tbK_lt _ _)]
      exact h0
    simp only [conv, Bool.false_eq_true, if_false, e2, h3, not_true, xflip_xflip K _, e3, ht,
      not_false_iff, if_true]
  · have e1 : conv true p K (f + 2) src = wadd src p := by
      simp [conv, h0]
    rw [e1]
    refine ⟨h0, ?_⟩
    simp only [conv, Bool.false_eq_true, if_false, e3, ht, not_false_iff, if_true]

theorem mask_allowed_cases (pm : Nat) (h : pm < 8) (ha : maskAllowed pm = true) :
    pm = 0 ∨ pm = 1 ∨ pm = 2 ∨ pm = 4 := by
  have : ∀ x : Fin 8, maskAllowed x.val = true → x.val = 0 ∨ x.val = 1 ∨ x.val = 2 ∨ x.val = 4 := by decide
  exact this ⟨pm, h⟩ ha

theorem mask_single (pm t : Nat) (h : pm < 8) (ht : t < 3) (hb : pm.testBit t = true)
    (ha : maskAllowed pm = true) : maskBit pm = t + 1 ∧ (pm = 1 ∨ pm = 2 ∨ pm = 4) := by
  have : ∀ x : Fin 8, ∀ y : Fin 3, x.val.testBit y.val = true → maskAllowed x.val = true →
      maskBit x.val = y.val + 1 ∧ (x.val = 1 ∨ x.val = 2 ∨ x.val = 4) := by decide
  exact this ⟨pm, h⟩ ⟨t, ht⟩ hb ha

theorem maskBit_le (m : Nat) : maskBit m ≤ 3 := by
  unfold maskBit Consts.MASK_TO_BIT_NUMBER
  match m with
  | 0 | 1 | 2 | 3 | 4 | 5 | 6 | 7 => decide
  | n + 8 => simp [List.getD]

theorem effPm_lt (pp : Option Nat) (m i : Nat) : effPm pp m i < 8 := by
  unfold effPm
  split
  · decide
  · exact Nat.lt_succ_of_le Nat.and_le_right

theorem cvt_iff (pm : Nat) (b : Buf) (i : Nat) :
    cvt pm b i = true ↔
      (pm = 0 ∨ (maskAllowed pm = true ∧ ¬ msByte (gb b (i + 4 - maskBit pm)) = true)) ∧
        msByte (gb b (i + 4)) = true := by
  simp [cvt]

theorem cvt_congr (pm : Nat) (b d : Buf) (i : Nat)
    (h : ∀ k, i + 1 ≤ k → k ≤ i + 4 → gb d k = gb b k) : cvt pm d i = cvt pm b i := by
  have := maskBit_le pm
  simp only [cvt]
  rw [h (i + 4) (by omega) (by omega), h (i + 4 - maskBit pm) (by omega) (by omega)]

theorem opnd_congr (b d : Buf) (i : Nat)
    (h : ∀ k, i + 1 ≤ k → k ≤ i + 4 → gb d k = gb b k) : opnd d i = opnd b i :=
  wdAt_congr w4 b d (i + 1) (fun k h1 h2 => h k h1 (by omega))

theorem store_congr (b d : Buf) (i v k : Nat) (hs : d.size = b.size) (hw : i + 5 ≤ b.size)
    (h1 : i + 1 ≤ k) (h2 : k ≤ i + 4) : gb (store d i v) k = gb (store b i v) k := by
  obtain ⟨a1, a2, a3, a4⟩ := gb_store_in b i v hw
  obtain ⟨c1, c2, c3, c4⟩ := gb_store_in d i v (by omega)
  have : k = i + 1 ∨ k = i + 2 ∨ k = i + 3 ∨ k = i + 4 := by omega
  rcases this with rfl | rfl | rfl | rfl
  · rw [a1, c1]
  · rw [a2, c2]
  · rw [a3, c3]
  · rw [a4, c4]

theorem opnd_lt (b : Buf) (i : Nat) (hB : BBytes b) : opnd b i < 2 ^ 32 :=
  w4_le.lt _ _ _ _ (hB _) (hB _) (hB _) (hB _)

theorem tb_gb (b : Buf) (i pm : Nat) (hB : BBytes b) (hpm : pm = 1 ∨ pm = 2 ∨ pm = 4) :
    gb b (i + 4 - maskBit pm) = tbK (32 - 8 * maskBit pm) (opnd b i) := by
  have h1 := hB (i + 1)
  have h2 := hB (i + 2)
  have h3 := hB (i + 3)
  have h4 := hB (i + 4)
  rcases hpm with rfl | rfl | rfl
  · rw [maskBit_1]
    simp only [tbK, opnd, Nat.reduceSub, Nat.reduceMul, Nat.reducePow]
    rw [show i + 4 - 1 = i + 3 from rfl]
    omega
  · rw [maskBit_2]
    simp only [tbK, opnd, Nat.reduceSub, Nat.reduceMul, Nat.reducePow]
    rw [show i + 4 - 2 = i + 2 from rfl]
    omega
  · rw [maskBit_4]
    simp only [tbK, opnd, Nat.reduceSub, Nat.reduceMul, Nat.reducePow]
    rw [show i + 4 - 3 = i + 1 from rfl]
    omega

theorem tb_store (b : Buf) (i pm v : Nat) (hw : i + 5 ≤ b.size) (hpm : pm = 1 ∨ pm = 2 ∨ pm = 4) :
    gb (store b i v) (i + 4 - maskBit pm) = tbK (32 - 8 * maskBit pm) v := by
  obtain ⟨g1, g2, g3, _⟩ := gb_store_in b i v hw
  rcases hpm with rfl | rfl | rfl
  · exact g3
  · exact g2
  · rw [maskBit_4]
    exact g1.trans (by simp only [tbK, Nat.reduceSub, Nat.reduceMul, Nat.reducePow]; omega)

theorem KOK_maskBit (pm : Nat) (hpm : pm = 1 ∨ pm = 2 ∨ pm = 4) : KOK (32 - 8 * maskBit pm) := by
  rcases hpm with rfl | rfl | rfl
  · right
    right
    rfl
  · right
    left
    rfl
  · left
    rfl

theorem cvt_ht (b : Buf) (i pm : Nat) (hB : BBytes b) (hpm : pm = 1 ∨ pm = 2 ∨ pm = 4) (hc : cvt pm b i = true) :
    ¬ msByte (tbK (32 - 8 * maskBit pm) (opnd b i)) = true := by
  rw [← tb_gb b i pm hB hpm]
  exact (((cvt_iff pm b i).mp hc).1.resolve_left (by omega)).2

theorem cvt_tb (p : Nat) (b : Buf) (i pm : Nat) (hB : BBytes b) (hw : i + 5 ≤ b.size)
    (hpm : pm = 1 ∨ pm = 2 ∨ pm = 4) (hc : cvt pm b i = true) :
    ¬ msByte (gb (store b i (x86Conv true p pm 64 (opnd b i))) (i + 4 - maskBit pm)) = true := by
  rw [tb_store _ _ _ _ hw hpm, x86Conv_eq true p pm hpm]
  exact (conv_rt p _ (KOK_maskBit pm hpm) 62 _ (opnd_lt b i hB) (cvt_ht b i pm hB hpm hc)).1

theorem D_cong (dest D : Nat)
    (hD : D = dest % 256 + 256 * (dest / 2 ^ 8 % 256) + 65536 * (dest / 2 ^ 16 % 256) +
      16777216 * (if dest / 2 ^ 24 % 2 = 1 then 255 else 0)) : D % 2 ^ 25 = dest % 2 ^ 25 := by
  have e : dest % 256 + 256 * (dest / 2 ^ 8 % 256) + 65536 * (dest / 2 ^ 16 % 256) = dest % 2 ^ 24 := by omega
  have e2 : dest % 2 ^ 25 = dest % 2 ^ 24 + 2 ^ 24 * (dest / 2 ^ 24 % 2) := by omega
  have hl : dest % 2 ^ 24 < 2 ^ 24 := Nat.mod_lt _ (by decide)
  rw [e] at hD
  rw [e2, hD]
  generalize dest % 2 ^ 24 = l at *
  clear e e2 hD
  split <;> omega

/-- a word that agrees modulo `2^25` with the word of three bytes and a sign byte has these bytes -/
theorem bytes_back (r s0 s1 s2 s3 : Nat) (h0 : s0 < 256) (h1 : s1 < 256) (h2 : s2 < 256)
    (h3 : s3 = 0 ∨ s3 = 255)
    (hr : r % 2 ^ 25 = (s0 + 256 * s1 + 65536 * s2 + 16777216 * s3) % 2 ^ 25) :
    r % 256 = s0 ∧ r / 2 ^ 8 % 256 = s1 ∧ r / 2 ^ 16 % 256 = s2 ∧
      (if r / 2 ^ 24 % 2 = 1 then 255 else 0) = s3 := by
  have e0 := fld_congr hr 0 8 (by decide)
  have e1 := fld_congr hr 8 8 (by decide)
  have e2 := fld_congr hr 16 8 (by decide)
  have e3 := fld_congr hr 24 1 (by decide)
  simp only [fld, Nat.pow_zero, Nat.div_one, Nat.pow_one] at e0 e1 e2 e3
  rw [e0, e1, e2, e3]
  clear hr e0 e1 e2 e3
  rcases h3 with rfl | rfl
  · refine ⟨by omega, by omega, by omega, ?_⟩
    split <;> omega
  · refine ⟨by omega, by omega, by omega, ?_⟩
    split <;> omega

/-- encoder conversion followed by decoder conversion, at the level of 25-bit residues -/
theorem x86Conv_rt (p pm src : Nat) (hpm : pm = 0 ∨ pm = 1 ∨ pm = 2 ∨ pm = 4) (hs : src < 2 ^ 32)
    (ht : pm ≠ 0 → ¬ msByte (tbK (32 - 8 * maskBit pm) src) = true) (D : Nat)
    (hD : D % 2 ^ 25 = x86Conv true p pm 64 src % 2 ^ 25) :
    x86Conv false p pm 64 D % 2 ^ 25 = src % 2 ^ 25 := by
  rcases hpm with rfl | hpm
  · rw [x86Conv_zero, if_pos rfl] at hD
    rw [x86Conv_zero, if_neg (by simp)]
    simp only [wadd, wsub] at hD ⊢
    omega
  · rw [x86Conv_eq true p pm hpm] at hD
    rw [x86Conv_eq false p pm hpm, conv_cong false p _ (KOK_maskBit pm hpm) 64 _ _ hD,
      (conv_rt p _ (KOK_maskBit pm hpm) 62 src hs (ht (by omega))).2]

theorem cvt_store (p : Nat) (b : Buf) (i pm : Nat) (hB : BBytes b) (hw : i + 5 ≤ b.size) (hpm : pm < 8)
    (hc : cvt pm b i = true) (b' : Buf) (hb' : b' = store b i (x86Conv true p pm 64 (opnd b i))) :
    cvt pm b' i = true ∧
    ∀ k, i + 1 ≤ k → k ≤ i + 4 → gb (store b' i (x86Conv false p pm 64 (opnd b' i))) k = gb b k := by
  have hc' := (cvt_iff pm b i).mp hc
  have hpm4 : pm = 0 ∨ pm = 1 ∨ pm = 2 ∨ pm = 4 := by
    rcases hc'.1 with h | h
    · exact Or.inl h
    · exact mask_allowed_cases pm hpm h.1
  have hw' : i + 5 ≤ b'.size := by rw [hb', size_store]; exact hw
  obtain ⟨g1, g2, g3, g4⟩ := gb_store_in b i (x86Conv true p pm 64 (opnd b i)) hw
  rw [← hb'] at g1 g2 g3 g4
  constructor
  · rw [cvt_iff]
    constructor
    · by_cases h0 : pm = 0
      · exact Or.inl h0
      · right
        have hp3 : pm = 1 ∨ pm = 2 ∨ pm = 4 := by omega
        refine ⟨(hc'.1.resolve_left h0).1, ?_⟩
        rw [hb']
        exact cvt_tb p b i pm hB hw hp3 hc
    · rw [g4, msByte_iff]
      split
      · right
        rfl
      · left
        rfl
  · have hD := D_cong (x86Conv true p pm 64 (opnd b i)) (opnd b' i) (by simp only [opnd, g1, g2, g3, g4])
    have hr := x86Conv_rt p pm (opnd b i) hpm4 (opnd_lt b i hB) (fun h0 => cvt_ht b i pm hB (by omega) hc)
      (opnd b' i) hD
    obtain ⟨r1, r2, r3, r4⟩ := bytes_back (x86Conv false p pm 64 (opnd b' i)) (gb b (i + 1)) (gb b (i + 2))
      (gb b (i + 3)) (gb b (i + 4)) (hB _) (hB _) (hB _) ((msByte_iff _).mp hc'.2) hr
    obtain ⟨s1, s2, s3, s4⟩ := gb_store_in b' i (x86Conv false p pm 64 (opnd b' i)) hw'
    intro k k1 k2
    have : k = i + 1 ∨ k = i + 2 ∨ k = i + 3 ∨ k = i + 4 := by omega
    rcases this with rfl | rfl | rfl | rfl
    · rw [s1, r1]
    · rw [s2, r2]
    · rw [s3, r3]
    · rw [s4, r4]

/-- the state at `j` still records the unconverted opcode at `i` -/
def Track (i j : Nat) (pp : Option Nat) (m : Nat) : Prop :=
  ∃ q, pp = some q ∧ i ≤ q ∧ q < j ∧ m.testBit (q - i) = true

theorem Track.mono {i j : Nat} {pp : Option Nat} {m : Nat} (h : Track i j pp m) : Track i (j + 1) pp m := by
  obtain ⟨q, h1, h2, h3, h4⟩ := h
  exact ⟨q, h1, h2, by omega, h4⟩

theorem testBit_7 (t : Nat) (ht : t < 3) : (7 : Nat).testBit t = true := by
  have : ∀ y : Fin 3, (7 : Nat).testBit y.val = true := by decide
  exact this ⟨t, ht⟩

theorem eff_track (i j : Nat) (pp : Option Nat) (m : Nat) (h : Track i j pp m) (h1 : i < j)
    (h2 : j ≤ i + 3) : (effPm pp m j).testBit (j - i - 1) = true := by
  obtain ⟨q, rfl, q1, q2, q3⟩ := h
  have hx : xDist (some q) j = j - q := rfl
  have hd : ¬ j - q > 3 := by omega
  simp only [effPm, hx, if_neg hd, Nat.testBit_and, Nat.testBit_shiftLeft]
  have e : j - i - 1 - (j - q - 1) = q - i := by omega
  have g : j - i - 1 ≥ j - q - 1 := by omega
  rw [e, q3, testBit_7 _ (by omega)]
  simp [g]

theorem track_next (i j pm : Nat) (h1 : i < j) (hb : pm.testBit (j - i - 1) = true) :
    Track i (j + 1) (some j) ((pm <<< 1) ||| 1) := by
  refine ⟨j, rfl, by omega, by omega, ?_⟩
  have g : j - i ≥ 1 := by omega
  simp only [Nat.testBit_or, Nat.testBit_shiftLeft, hb]
  simp [g]

theorem track_init (i pm : Nat) : Track i (i + 1) (some i) ((pm <<< 1) ||| 1) := by
  refine ⟨i, rfl, by omega, by omega, ?_⟩
  simp

theorem future (st : St) (i : Nat) : ∀ f j pp m b, BBytes b → i < j → j ≤ i + 4 → Track i j pp m →
    (∀ k, k ≤ i + 4 → gb (xl true st f j pp m b) k = gb b k) ∨
    ¬ msByte (gb (xl true st f j pp m b) (i + 4)) = true := by
  intro f
  induction f with
  | zero =>
    intro j pp m b _ _ _ _
    exact Or.inl (fun _ _ => rfl)
  | succ n ih =>
    intro j pp m b hB h1 h2 ht
    simp only [xl]
    by_cases c1 : j + 5 > b.size
    · rw [if_pos c1]
      exact Or.inl (fun _ _ => rfl)
    · rw [if_neg c1]
      by_cases hj : j = i + 4
      · -- everything from here on only touches positions ≥ i + 5
        left
        intro k hk
        split
        · exact xl_frame _ _ _ _ _ _ _ _ (by omega)
        · split
          · rw [xl_frame _ _ _ _ _ _ _ _ (by omega), gb_store_out _ _ _ _ (Or.inl (by omega))]
          · exact xl_frame _ _ _ _ _ _ _ _ (by omega)
      · have h2' : j ≤ i + 3 := by omega
        by_cases c2 : gb b j ≠ 0xE8 ∧ gb b j ≠ 0xE9
        · rw [if_pos c2]
          exact ih _ _ _ _ hB (by omega) (by omega) ht.mono
        · rw [if_neg c2]
          have hbit := eff_track i j pp m ht h1 h2'
          by_cases c3 : cvt (effPm pp m j) b j = true
          · rw [if_pos c3]
            right
            have hc' := (cvt_iff _ _ _).mp c3
            have hne : effPm pp m j ≠ 0 := by
              intro h0
              rw [h0] at hbit
              simp at hbit
            have hal : maskAllowed (effPm pp m j) = true := (hc'.1.resolve_left hne).1
            obtain ⟨mb, hp3⟩ := mask_single _ (j - i - 1) (effPm_lt pp m j) (by omega) hbit hal
            have := cvt_tb (posAt st j) b j _ hB (by omega) hp3 c3
            rw [mb, show j + 4 - (j - i - 1 + 1) = i + 4 by omega] at this
            rw [xl_frame _ _ _ _ _ _ _ _ (by omega)]
            exact this
          · rw [if_neg c3]
            exact ih _ _ _ _ hB (by omega) (by omega) (track_next i j _ h1 hbit)

theorem xl_inv (st : St) : ∀ f i pp m e d, BBytes e → d.size = e.size →
    (∀ k, i ≤ k → gb d k = gb (xl true st f i pp m e) k) →
    (∀ k, i ≤ k → gb (xl false st f i pp m d) k = gb e k) ∧
    (∀ k, k < i → gb (xl false st f i pp m d) k = gb d k) := by
  intro f
  induction f with
  | zero =>
    intro i pp m e d _ _ hd
    exact ⟨hd, fun _ _ => rfl⟩
  | succ n ih =>
    intro i pp m e d hB hs hd
    have hi : gb d i = gb e i := by rw [hd i (Nat.le_refl _), xl_frame _ _ _ _ _ _ _ _ (Nat.le_refl _)]
    rw [xl] at hd ⊢
    rw [hs, hi]
    by_cases c1 : i + 5 > e.size
    · rw [if_pos c1] at hd ⊢
      exact ⟨hd, fun _ _ => rfl⟩
    · rw [if_neg c1] at hd ⊢
      -- common tail: both sides move on to `i + 1` with the same state and buffers
      have tail : ∀ pp' m', (∀ k, i ≤ k → gb d k = gb (xl true st n (i + 1) pp' m' e) k) →
          (∀ k, i ≤ k → gb (xl false st n (i + 1) pp' m' d) k = gb e k) ∧
          (∀ k, k < i → gb (xl false st n (i + 1) pp' m' d) k = gb d k) := by
        intro pp' m' hd'
        obtain ⟨r2, r3⟩ := ih (i + 1) pp' m' e d hB hs (fun k hk => hd' k (by omega))
        refine ⟨?_, fun k hk => r3 k (by omega)⟩
        intro k hk
        by_cases hk' : k = i
        · subst hk'
          rw [r3 k (by omega), hi]
        · exact r2 k (by omega)
      by_cases c2 : gb e i ≠ 0xE8 ∧ gb e i ≠ 0xE9
      · rw [if_pos c2] at hd ⊢
        exact tail _ _ hd
      · rw [if_neg c2] at hd ⊢
        have hpm := effPm_lt pp m i
        by_cases c3 : cvt (effPm pp m i) e i = true
        · rw [if_pos c3] at hd
          obtain ⟨s1, s2⟩ := cvt_store (posAt st i) e i _ hB (by omega) hpm c3 _ rfl
          have hag : ∀ k, i + 1 ≤ k → k ≤ i + 4 →
              gb d k = gb (store e i (x86Conv true (posAt st i) (effPm pp m i) 64 (opnd e i))) k := by
            intro k k1 k2
            rw [hd k (by omega), xl_frame _ _ _ _ _ _ _ _ (by omega)]
          have c3' : cvt (effPm pp m i) d i = true := by
            rw [cvt_congr _ _ d i hag]
            exact s1
          rw [if_pos c3']
          have hw' : i + 5 ≤ (store e i (x86Conv true (posAt st i) (effPm pp m i) 64 (opnd e i))).size := by
            rw [size_store]
            omega
          obtain ⟨r2, r3⟩ := ih (i + 5) (some i) (effPm pp m i) _
            (store d i (x86Conv false (posAt st i) (effPm pp m i) 64 (opnd d i)))
            (BBytes_store _ _ _ hB) (by simp only [size_store]; exact hs)
            (fun k hk => by rw [gb_store_out _ _ _ _ (Or.inr hk)]; exact hd k (by omega))
          constructor
          · intro k hk
            by_cases hk5 : i + 5 ≤ k
            · rw [r2 k hk5, gb_store_out _ _ _ _ (Or.inr hk5)]
            · rw [r3 k (by omega)]
              by_cases hk' : k = i
              · subst hk'
                rw [gb_store_out _ _ _ _ (Or.inl (Nat.le_refl _)), hi]
              · rw [opnd_congr _ d i hag,
                  store_congr _ d i _ k (by rw [size_store]; exact hs) hw' (by omega) (by omega)]
                exact s2 k (by omega) (by omega)
          · intro k hk
            rw [r3 k (by omega), gb_store_out _ _ _ _ (Or.inl (by omega))]
        · rw [if_neg c3] at hd
          have c3' : ¬ cvt (effPm pp m i) d i = true := by
            rcases future st i n (i + 1) (some i) ((effPm pp m i <<< 1) ||| 1) e hB (by omega) (by omega)
              (track_init i _) with hf | hf
            · rw [cvt_congr _ e d i (fun k k1 k2 => by rw [hd k (by omega), hf k k2])]
              exact c3
            · intro hc
              have := ((cvt_iff _ _ _).mp hc).2
              rw [hd (i + 4) (by omega)] at this
              exact hf this
          rw [if_neg c3']
          exact tail _ _ hd

theorem x86_inv (start : Nat) (xs : List Nat) (h : Bytes xs) :
    oneShot .x86 false start (oneShot .x86 true start xs) = xs := by
  have hB := BBytes_toArray xs h
  simp only [oneShot, code]
  by_cases hsz : xs.toArray.size < 5
  · rw [if_pos hsz, if_pos hsz]
  · rw [if_neg hsz]
    simp only [Array.toArray_toList, x86Loop_eq_xl]
    have hs : (xl true (St.init .x86 start) (xs.toArray.size + 1) 0 none (St.init .x86 start).prevMask
        xs.toArray).size = xs.toArray.size := xl_size _ _ _ _ _ _ _
    rw [hs, if_neg hsz]
    obtain ⟨r2, _⟩ := xl_inv (St.init .x86 start) (xs.toArray.size + 1) 0 none
      (St.init .x86 start).prevMask xs.toArray _ hB hs (fun _ _ => rfl)
    have : xl false (St.init .x86 start) (xs.toArray.size + 1) 0 none (St.init .x86 start).prevMask
        (xl true (St.init .x86 start) (xs.toArray.size + 1) 0 none (St.init .x86 start).prevMask
          xs.toArray) = xs.toArray := by
      apply buf_ext
      · rw [xl_size, hs]
      · intro k _
        exact r2 k (Nat.zero_le _)
    rw [this]

end LzmaVerif.Filters

