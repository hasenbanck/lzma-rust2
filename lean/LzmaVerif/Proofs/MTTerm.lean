import LzmaVerif.Proofs.MTCoord
/-
Termination of the multi-threaded reader protocol under every scheduler (C09): a measure `mu` that
strictly decreases along every enabled step of every thread.
-/
namespace LzmaVerif.MT

/-- remaining work of a worker, prepaying for the message it will send (8) -/
def rank : WPc → Nat
  | .exited => 0 | .waiting => 0 | .steal => 1 | .chkShutdown => 2 | .decr => 3
  | .send _ => 12 | .work _ => 13 | .got _ => 14
  | .failDecr => 11 | .failSet => 10 | .failWake => 9 | .panicked => 9

/-- position of the coordinator inside one iteration of its loop; `push` prepays for the queue
    entry (14), the wake-up (1) and the possible spawn (3) -/
def pcRank : CPc → Nat
  | .idle (some .done) => 0 | .idle (some .err) => 0 | .idle _ => 7 | .dropped => 0
  | .top => 6 | .chkErr => 5 | .byState => 4 | .tryRecv => 3 | .chkQueue => 2 | .source => 1
  | .recvReading => 1 | .recvDraining => 3 | .spawnChk => 10 | .push _ => 26

def stRank : CState → Nat
  | .reading => 12 | .draining => 6 | .finished => 0 | .error => 0

/-- 1 while the unit being pushed has not been counted in `nextDispatch` yet -/
def inPush : CPc → Nat
  | .push _ => 1 | .spawnChk => 1 | _ => 0

/-- source units not yet handed to `push` -/
def remOf (u nd : Nat) (pc : CPc) : Nat := u - nd - inPush pc

/-- what the final `drop` may cost: it wakes every waiting worker -/
def dropPot (pc : CPc) (n : Nat) : Nat := if pc = .dropped then 0 else n + 1

def mu (s : Sys) : Nat :=
  pcRank s.pc + stRank s.st + 26 * remOf s.cfg.units.length s.nextDispatch s.pc
    + 14 * s.queue.length + 8 * s.chan.length + 2 * s.ooo.length
    + sumW rank s.ws + dropPot s.pc s.ws.length

theorem mu_move {s : Sys} {i : Nat} {old new : WPc} {q' : List Nat} {c' : List Msg}
    {e' sh' : Bool} {a' : Nat} (hold : s.ws[i]? = some old)
    (hle : 14 * q'.length + 8 * c'.length + rank new < 14 * s.queue.length + 8 * s.chan.length + rank old) :
    mu { s with queue := q', chan := c', errStored := e', shutdown := sh', active := a',
                ws := s.ws.set i new } < mu s := by
  have := sumW_set rank s.ws i old new hold
  simp only [mu, List.length_set]
  omega

theorem worker_step_mu (s s' : Sys) (i : Nat) (hs : step s (.worker i) = some s') : mu s' < mu s := by
  simp only [step, workerStep] at hs
  split at hs
  · cases hs
  next pc hpc =>
  cases pc <;> simp only at hs
  all_goals (repeat' split at hs)
  all_goals cases hs
  all_goals refine mu_move hpc ?_
  all_goals simp only [rank, List.length_append, List.length_cons, List.length_nil, *]
  all_goals omega

theorem mu_goto {s : Sys} {p : CPc} (hp : s.pc = p) (p' : CPc) (hr : pcRank p' < pcRank p)
    (hi : inPush p' = inPush p := by rfl) (h1 : p ≠ .dropped := by nofun) (h2 : p' ≠ .dropped := by nofun) :
    mu { s with pc := p' } < mu s := by
  simp only [mu, hp, remOf, dropPot, hi, if_neg h1, if_neg h2]; omega

theorem caller_step_mu (s s' : Sys) (b : Bool) (hs : callerStep s b = some s') : mu s' < mu s := by
  simp only [callerStep] at hs
  split at hs
  · next last hp =>
    split at hs
    · cases hs
      -- `notify_all` wakes at most every worker: `dropPot` has paid for that
      obtain ⟨n, hw⟩ := wakeAll_woke s.ws
      have h1 := hw.sumW rank
      have h2 := hw.le_length
      simp only [mu, hp, dropPot, remOf, inPush, pcRank, reduceCtorEq, ↓reduceIte]
      simp only [rank] at h1
      omega
    · split at hs <;> cases hs
      next hdone herr =>
      refine mu_goto hp .top ?_
      rcases last with _ | _ | _ | _
      case some.done => exact (hdone rfl).elim
      case some.err => exact (herr rfl).elim
      all_goals simp [pcRank]
  · cases hs

/-- receiving a message takes 8 out of the channel; that pays for the entry in the reorder buffer (2) and
    for the new program counter (rank at most 7, while the receiving one has rank at least 1) -/
theorem onMsg_mu (s : Sys) (m : Msg) (rest : List Msg) (hc : s.chan = m :: rest)
    (hpc : 1 ≤ pcRank s.pc) (hip : inPush s.pc = 0) (hnd : s.pc ≠ .dropped) :
    mu (onMsg s m rest) < mu s := by
  unfold onMsg
  repeat' split
  all_goals
    simp only [mu, hc, remOf, hip, dropPot, if_neg hnd, List.length_cons]
    generalize pcRank s.pc = r at hpc ⊢
    simp only [pcRank, inPush, reduceCtorEq, ↓reduceIte]
    omega

theorem coord_step_mu (s s' : Sys) (h : Inv s) (hs : coordStep s = some s') : mu s' < mu s := by
  cases hp : s.pc <;> simp only [coordStep, hp] at hs
  case tryRecv | recvReading | recvDraining =>
    split at hs <;> cases hs
    · next hc => exact onMsg_mu s _ _ hc (by rw [hp]; decide) (by rw [hp]; rfl) (by rw [hp]; nofun)
    all_goals exact mu_goto hp _ (by decide)
  case top =>
    split at hs <;> cases hs
    · next hmem =>
      have h1 := List.length_erase_of_mem hmem
      have h2 := List.length_pos_of_mem hmem
      simp only [mu, hp, h1, dropPot, remOf, inPush, pcRank, reduceCtorEq, ↓reduceIte]
      omega
    · exact mu_goto hp _ (by decide)
  case source =>
    -- the source is only consulted in state `Reading`, whose rank pays for the end handling
    have hst : s.st = .reading := h.readSt (by rw [hp]; rfl)
    repeat' split at hs
    all_goals cases hs
    all_goals simp only [mu, hp, hst, dropPot, remOf, inPush, pcRank, stRank, reduceCtorEq, ↓reduceIte]
    all_goals omega
  case push q =>
    cases hs
    obtain ⟨n, hn, hw⟩ := wakeOne_woke s.ws
    have h1 := hw.sumW rank
    simp only [mu, hp, hw.length, dropPot, remOf, inPush, pcRank, reduceCtorEq, ↓reduceIte,
      List.length_append, List.length_singleton]
    simp only [rank] at h1
    omega
  case spawnChk =>
    -- the continuation is `top` or (fused end of the source) `source`: both rank below `spawnChk`
    split at hs <;> cases hs <;> split <;>
      simp only [mu, hp, dropPot, remOf, inPush, pcRank, reduceCtorEq, ↓reduceIte,
        List.length_append, List.length_singleton, sumW_append, sumW, rank] <;>
      omega
  -- `chkErr`, `byState`, `chkQueue`: the program counter moves on, or a state of lower rank is entered
  all_goals repeat' split at hs
  all_goals cases hs
  all_goals simp only [mu, dropPot, remOf, inPush, pcRank, stRank, reduceCtorEq, ↓reduceIte, *]
  all_goals omega

/-- the invariant is needed for the `source` step only -/
theorem step_mu (s s' : Sys) (l : Label) (h : Inv s) (hs : step s l = some s') : mu s' < mu s := by
  cases l with
  | coord => exact coord_step_mu s s' h hs
  | call => exact caller_step_mu s s' false hs
  | drop => exact caller_step_mu s s' true hs
  | worker i => exact worker_step_mu s s' i hs

theorem mu_init (cfg : Cfg) : mu (init cfg) = 26 * cfg.units.length + 3 * cfg.initialWorkers + 20 := by
  simp only [mu, init, sumW_replicate, List.length_replicate, dropPot, remOf, inPush, pcRank, stRank,
    rank, reduceCtorEq, ↓reduceIte, List.length_nil]
  omega

end LzmaVerif.MT
