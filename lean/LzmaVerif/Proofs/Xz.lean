import LzmaVerif.Proofs.XzMulti
import LzmaVerif.Proofs.XzAudit
import LzmaVerif.Proofs.XzFilterLen
import LzmaVerif.Proofs.XzPayloadEx
/-! C04 / C12 / C16 for the XZ container.  Everything is parametric in the payload codec (`PayloadOk`, discharged by the
LZMA2 round-trip theorem) and in the filter inverse (`unfilter fs (applyFilters fs d) = d`, discharged by the filter
theorems). -/
namespace LzmaVerif.Xz
open LzmaVerif Lzma Checks

theorem parse_streamHeader (c : Check) (r : List Nat) :
    parseStreamHeader (streamHeaderBytes c ++ r) = .ok (c, r) := parseStreamHeader_ok c r

theorem parse_filter_pre (f : Filter) (hf : PreOk f) (r : List Nat) :
    parseFilter (encFilter f ++ r) = .ok (f, r) := parseFilter_pre f hf r

theorem parse_filter_lzma2 (d : Nat) (hd : DictOk d) (r : List Nat) :
    parseFilter (encFilter (.lzma2 d) ++ r) = .ok (.lzma2 (readerDict1 d), r) ∧ d ≤ readerDict1 d :=
  ⟨parseFilter_lzma2 d hd r, (dictOk_spec d hd).choose_spec.2.2.2⟩

theorem parse_blockHeader (fs : List Filter) (hfs : FiltersOk fs) (r : List Nat) :
    parseBlockHeader (blockHeaderBytes fs ++ r)
      = .ok (some { filters := fs.map readerFilter, size := (blockHeaderBytes fs).length }, r) :=
  parseBlockHeader_ok fs hfs r

theorem parse_index (recs : List (Nat × Nat)) (hn : recs.length < 2 ^ 63) (h : ∀ x ∈ recs, RecOk x) (r : List Nat) :
    parseBlockHeader (indexBytes recs ++ r) = .ok (none, (indexBytes recs).tail ++ r) ∧
    parseIndex ((indexBytes recs).tail ++ r) = .ok (recs, (indexBytes recs).length, r) := by
  refine ⟨?_, parseIndex_ok recs hn h r⟩
  rw [indexBytes_cons, List.cons_append, parseBlockHeader_zero, List.tail_cons]

theorem parse_footer (c : Check) (n : Nat) (r : List Nat) :
    parseFooter (footerBytes c n ++ r) = .ok (ofLe (le 4 (n / 4 - 1)), [0, c.toByte], r) := parseFooter_ok c n r


theorem blockOk_of (fs : List Filter) (b : List Nat × List Nat)
    (h : PayloadOk (readerDict fs) b.1 (applyFilters fs b.2) ∧ unfilter fs (applyFilters fs b.2) = b.2) :
    BlockOk fs b :=
  ⟨h.1, h.2, Nat.le_of_eq (applyFilters_length fs b.2)⟩

theorem sizesOk63_of_length (c : Check) (fs : List Filter) (blocks : List (List Nat × List Nat))
    (h1 : (streamBytes c fs blocks).length < 2 ^ 63) (h2 : ((blocks.map (·.2)).flatten).length < 2 ^ 63) :
    SizesOk63 c fs blocks := by
  rw [streamBytes_eq, List.length_append, streamHeaderBytes_length] at h1
  simp only [streamBody, List.length_append] at h1
  have hbb := blocksBytes_mod4 c fs blocks
  refine ⟨by omega, ?_⟩
  intro b hb
  constructor
  · have hm : (blockBytes c fs b.1 b.2).1 ∈ (blocks.map fun b => blockBytes c fs b.1 b.2).map (·.1) := by
      simp only [List.map_map, List.mem_map, Function.comp]
      exact ⟨b, hb, rfl⟩
    have := (List.sublist_flatten_of_mem hm).length_le
    rw [blockBytes_fst] at this
    simp only [List.length_append, compute_length] at this
    unfold blocksBytes at h1
    omega
  · have hm : b.2 ∈ blocks.map (·.2) := List.mem_map.mpr ⟨b, hb, rfl⟩
    have := (List.sublist_flatten_of_mem hm).length_le
    omega

/-- at most 2^29 blocks: the Index fits the footer's Backward Size field -/
theorem sizesOk_of_length (c : Check) (fs : List Filter) (blocks : List (List Nat × List Nat))
    (h1 : (streamBytes c fs blocks).length < 2 ^ 63) (h2 : ((blocks.map (·.2)).flatten).length < 2 ^ 63)
    (hn : blocks.length ≤ 2 ^ 29) : SizesOk c fs blocks :=
  sizesOk_of_blocks c fs blocks (sizesOk63_of_length c fs blocks h1 h2) hn

/-! ## Round trip (C16: exact consumption is the `consumed` component, for ANY `rest`) -/

/-- **The boundary of the round trip.**  With the 63-bit conditions alone, the reader accepts the writer's output
exactly when the Index is at most 2^34 bytes long: above that `write_stream_footer` truncates the Backward Size
(`as u32`) and the reader, which compares it with the size of the Index, rejects the writer's own stream. -/
theorem xz_roundtrip_iff (c : Check) (fs : List Filter) (hfs : FiltersOk fs)
    (blocks : List (List Nat × List Nat))
    (hb : ∀ b ∈ blocks, PayloadOk (readerDict fs) b.1 (applyFilters fs b.2) ∧ unfilter fs (applyFilters fs b.2) = b.2)
    (hsz : SizesOk63 c fs blocks)
    (rest : List Nat) (cap : Nat) (hcap : ((blocks.map (·.2)).flatten).length ≤ cap) :
    Xz.decode false (streamBytes c fs blocks ++ rest) cap
      = if (indexBytes (recsOf c fs blocks)).length ≤ 2 ^ 34 then
          .ok (blocks.map (·.2)).flatten (streamBytes c fs blocks).length (blocks.map (blkOf fs)).reverse
        else .err .invalidData := by
  rw [(readBlocks_walks false).decode_stream c fs hfs blocks (fun b hbm => blockOk_of fs b (hb b hbm)) hsz rest cap hcap]
  simp only [eq_self, true_and]
  split
  · rw [afterStream_false, List.length_append, Nat.add_sub_cancel]
    rfl
  · rfl

theorem xz_roundtrip_blocks (c : Check) (fs : List Filter) (hfs : FiltersOk fs)
    (blocks : List (List Nat × List Nat))
    (hb : ∀ b ∈ blocks, PayloadOk (readerDict fs) b.1 (applyFilters fs b.2) ∧ unfilter fs (applyFilters fs b.2) = b.2)
    (hsz : SizesOk c fs blocks)
    (rest : List Nat) (cap : Nat) (hcap : ((blocks.map (·.2)).flatten).length ≤ cap) :
    Xz.decode false (streamBytes c fs blocks ++ rest) cap
      = .ok (blocks.map (·.2)).flatten (streamBytes c fs blocks).length (blocks.map (blkOf fs)).reverse :=
  (xz_roundtrip_iff c fs hfs blocks hb hsz.1 rest cap hcap).trans (if_pos hsz.2)

/-- **Container-level round trip** (`hsz`: the model's writer emits
nothing for index fields ≥ 2^63, so the sizes must fit the format's 63-bit integers; and the writer truncates the
Backward Size of an Index above 2^34 bytes, which the reader detects: `xz_roundtrip_iff`). -/
theorem xz_roundtrip (c : Check) (fs : List Filter) (hfs : FiltersOk fs)
    (blocks : List (List Nat × List Nat))
    (hb : ∀ b ∈ blocks, PayloadOk (readerDict fs) b.1 (applyFilters fs b.2) ∧
      unfilter fs (applyFilters fs b.2) = b.2 ∧ Bytes b.1 ∧ Bytes b.2)
    (hsz : SizesOk c fs blocks)
    (rest : List Nat) (cap : Nat) (hcap : ((blocks.map (·.2)).flatten).length ≤ cap) :
    ∃ blks, Xz.decode false (streamBytes c fs blocks ++ rest) cap
      = .ok (blocks.map (·.2)).flatten (streamBytes c fs blocks).length blks :=
  ⟨_, xz_roundtrip_blocks c fs hfs blocks (fun b hbm => ⟨(hb b hbm).1, (hb b hbm).2.1⟩) hsz rest cap hcap⟩

theorem xz_roundtrip' (c : Check) (fs : List Filter) (hfs : FiltersOk fs)
    (blocks : List (List Nat × List Nat))
    (hb : ∀ b ∈ blocks, PayloadOk (readerDict fs) b.1 (applyFilters fs b.2) ∧ unfilter fs (applyFilters fs b.2) = b.2)
    (hlen : (streamBytes c fs blocks).length < 2 ^ 63) (hdat : ((blocks.map (·.2)).flatten).length < 2 ^ 63)
    (hn : blocks.length ≤ 2 ^ 29)
    (rest : List Nat) (cap : Nat) (hcap : ((blocks.map (·.2)).flatten).length ≤ cap) :
    ∃ blks, Xz.decode false (streamBytes c fs blocks ++ rest) cap
      = .ok (blocks.map (·.2)).flatten (streamBytes c fs blocks).length blks :=
  ⟨_, xz_roundtrip_blocks c fs hfs blocks hb (sizesOk_of_length c fs blocks hlen hdat hn) rest cap hcap⟩

/-- C16: in single-stream mode the whole result (data, consumed count, blocks) does not depend on what follows
    the stream -/
theorem xz_exact_consumption (c : Check) (fs : List Filter) (hfs : FiltersOk fs)
    (blocks : List (List Nat × List Nat))
    (hb : ∀ b ∈ blocks, PayloadOk (readerDict fs) b.1 (applyFilters fs b.2) ∧ unfilter fs (applyFilters fs b.2) = b.2)
    (hsz : SizesOk c fs blocks) (rest₁ rest₂ : List Nat) (cap : Nat)
    (hcap : ((blocks.map (·.2)).flatten).length ≤ cap) :
    Xz.decode false (streamBytes c fs blocks ++ rest₁) cap = Xz.decode false (streamBytes c fs blocks ++ rest₂) cap := by
  rw [xz_roundtrip_blocks c fs hfs blocks hb hsz rest₁ cap hcap, xz_roundtrip_blocks c fs hfs blocks hb hsz rest₂ cap hcap]

/-! ## C12: concatenated streams and stream padding -/

theorem Strm.ok_of (c : Check) (fs : List Filter) (blocks : List (List Nat × List Nat)) (hfs : FiltersOk fs)
    (hb : ∀ b ∈ blocks, PayloadOk (readerDict fs) b.1 (applyFilters fs b.2) ∧ unfilter fs (applyFilters fs b.2) = b.2)
    (hsz : SizesOk c fs blocks) : Strm.Ok ⟨c, fs, blocks⟩ :=
  ⟨hfs, fun b hbm => blockOk_of fs b (hb b hbm), hsz⟩

theorem decode_after_stream (multi : Bool) (s : Strm) (hs : s.Ok) (rest : List Nat) (cap : Nat)
    (hcap : s.data.length ≤ cap) :
    Xz.decode multi (s.bytes ++ rest) cap
      = afterStream multi (s.bytes ++ rest).length ((s.bytes ++ rest).length + 2 - s.blocks.length - 1) rest s.data
          s.blks cap :=
  ((readBlocks_walks multi).decode_stream s.c s.fs hs.1 s.blocks hs.2.1 hs.2.2.1 rest cap hcap).trans
    (if_pos ⟨rfl, hs.2.2.2⟩)

/-- **C12, general form**: a first stream, then any LIST of further streams, each preceded by stream padding whose
length is a multiple of four, then trailing stream padding (`t` zero bytes, `t % 4 = 0`): the reader returns the
concatenated data, consumes everything, and reports the blocks of the last stream. -/
theorem xz_concat_list (s₀ : Strm) (h₀ : s₀.Ok) (ss : List (Nat × Strm)) (hss : ∀ x ∈ ss, x.1 % 4 = 0 ∧ x.2.Ok)
    (t : Nat) (ht : t % 4 = 0) (cap : Nat) (hcap : (s₀.data ++ catData ss).length ≤ cap) :
    Xz.decode true (s₀.bytes ++ (catBytes ss ++ List.replicate t 0)) cap
      = .ok (s₀.data ++ catData ss) (s₀.bytes ++ (catBytes ss ++ List.replicate t 0)).length (finalBlks ss s₀.blks) := by
  rw [readBlocks_walks_true.decode_cat s₀ h₀ rfl ss (fun x hx => ⟨(hss x hx).1, (hss x hx).2, rfl⟩) t cap hcap,
    if_neg (by omega)]

/-- **C12**: a valid stream (or list of streams with aligned paddings) followed by `t` zero bytes with
`t % 4 ≠ 0` and nothing else is rejected -/
theorem xz_misaligned_trailing_padding (s₀ : Strm) (h₀ : s₀.Ok) (ss : List (Nat × Strm))
    (hss : ∀ x ∈ ss, x.1 % 4 = 0 ∧ x.2.Ok) (t : Nat) (ht : t % 4 ≠ 0) (cap : Nat)
    (hcap : (s₀.data ++ catData ss).length ≤ cap) :
    Xz.decode true (s₀.bytes ++ (catBytes ss ++ List.replicate t 0)) cap = .err .invalidData := by
  rw [readBlocks_walks_true.decode_cat s₀ h₀ rfl ss (fun x hx => ⟨(hss x hx).1, (hss x hx).2, rfl⟩) t cap hcap,
    if_pos ht]

theorem xz_misaligned_trailing_padding_one (s : Strm) (hs : s.Ok) (t : Nat) (ht : t % 4 ≠ 0) (cap : Nat)
    (hcap : s.data.length ≤ cap) :
    Xz.decode true (s.bytes ++ List.replicate t 0) cap = .err .invalidData := by
  have := xz_misaligned_trailing_padding s hs [] (by intro x hx; cases hx) t ht cap (by simpa [catData] using hcap)
  simpa [catBytes] using this

/-- **C12, two streams** (possibly different check types / filters / blocks) with `k` bytes of stream padding -/
theorem xz_concat_two (s₁ s₂ : Strm) (h₁ : s₁.Ok) (h₂ : s₂.Ok) (k : Nat) (hk : k % 4 = 0) (cap : Nat)
    (hcap : (s₁.data ++ s₂.data).length ≤ cap) :
    Xz.decode true (s₁.bytes ++ List.replicate k 0 ++ s₂.bytes) cap
      = .ok (s₁.data ++ s₂.data) (s₁.bytes ++ List.replicate k 0 ++ s₂.bytes).length s₂.blks := by
  have := xz_concat_list s₁ h₁ [(k, s₂)] (by intro x hx; simp only [List.mem_singleton] at hx; subst hx; exact ⟨hk, h₂⟩)
    0 (by decide) cap (by simpa [catData] using hcap)
  simpa [catBytes, catData, finalBlks] using this

/-- stream padding whose length is not a multiple of four, followed by the magic of another stream, is rejected
    (whatever follows the magic) -/
theorem xz_misaligned_padding (s : Strm) (hs : s.Ok) (k : Nat) (hk : k % 4 ≠ 0) (r : List Nat) (cap : Nat)
    (hcap : s.data.length ≤ cap) :
    Xz.decode true (s.bytes ++ (List.replicate k 0 ++ (Consts.XZ_MAGIC ++ r))) cap = .err .invalidData := by
  rw [decode_after_stream true s hs _ cap hcap, afterStream_true]
  exact afterWith_err _ _ _ _ _ _ _ (nextStream_misaligned r k _ 0 (by simp) (by omega))

/-- a non-zero byte that is not the first magic byte, after a stream and any amount of zero padding, is rejected -/
theorem xz_garbage_after_stream (s : Strm) (hs : s.Ok) (k b : Nat) (hb0 : b ≠ 0) (hb : b ≠ 253) (r : List Nat)
    (cap : Nat) (hcap : s.data.length ≤ cap) :
    Xz.decode true (s.bytes ++ (List.replicate k 0 ++ b :: r)) cap = .err .invalidData := by
  rw [decode_after_stream true s hs _ cap hcap, afterStream_true]
  exact afterWith_err _ _ _ _ _ _ _ (nextStream_garbage b r hb0 hb k _ 0 (by simp))

example : FiltersOk [.lzma2 8388608] := by decide
example : FiltersOk [.delta 4, .lzma2 4096] := by decide
example : FiltersOk [.bcj .x86 0, .bcj .arm 4096, .delta 256, .lzma2 65536] := by decide
example : ¬ FiltersOk [.bcj .arm 4098, .lzma2 65536] := by decide
example : ¬ FiltersOk [.lzma2 65536, .lzma2 65536] := by decide
example : ¬ FiltersOk [.delta 1, .delta 1, .delta 1, .delta 1, .lzma2 65536] := by decide
example : readerDict [.delta 4, .lzma2 5000] = 6144 := by decide

/-- the theorem instantiated on the empty stream (all hypotheses discharged) -/
example (rest : List Nat) : Xz.decode false (streamBytes .crc32 [.lzma2 4096] [] ++ rest) 10
    = .ok [] (streamBytes .crc32 [.lzma2 4096] []).length [] :=
  xz_roundtrip_blocks .crc32 [.lzma2 4096] (by decide) [] (by intro b hb; cases hb)
    (sizesOk_nil _ _) rest 10 (by simp)

example : (streamBytes .crc32 [.lzma2 4096] []).length = 32 := by decide

/-- the theorem instantiated on a stream with one real block (payload = a stored LZMA2 chunk): every hypothesis
    is discharged, for every byte value `x` and every trailing `rest` -/
example (x : Nat) (rest : List Nat) :
    Xz.decode false (streamBytes .crc64 [.lzma2 4096] [([1, 0, 0, x, 0], [x])] ++ rest) 1
      = .ok [x] (streamBytes .crc64 [.lzma2 4096] [([1, 0, 0, x, 0], [x])]).length
          [blkOf [.lzma2 4096] ([1, 0, 0, x, 0], [x])] := by
  exact xz_roundtrip_blocks .crc64 [.lzma2 4096] (by decide) _ (stored1_blocks_ok [x])
    (sizesOk_of_blocks _ _ _ (sizesOk63_small _ _ (by decide) _ (by simp) (by simp)) (by simp)) rest 1 (by simp)

/-- C12 instantiated: two (block-less) streams with different checks and filter chains, 8 bytes of padding -/
example : Xz.decode true ((Strm.mk .crc32 [.lzma2 4096] []).bytes ++ List.replicate 8 0 ++
      (Strm.mk .sha256 [.delta 4, .lzma2 65536] []).bytes) 0
    = .ok [] ((Strm.mk .crc32 [.lzma2 4096] []).bytes ++ List.replicate 8 0 ++
      (Strm.mk .sha256 [.delta 4, .lzma2 65536] []).bytes).length [] :=
  xz_concat_two ⟨.crc32, [.lzma2 4096], []⟩ ⟨.sha256, [.delta 4, .lzma2 65536], []⟩
    (Strm.ok_of _ _ _ (by decide) (by intro b hb; cases hb) (sizesOk_nil _ _))
    (Strm.ok_of _ _ _ (by decide) (by intro b hb; cases hb) (sizesOk_nil _ _)) 8 (by decide) 0 (by simp [Strm.data, blocksData])

#print axioms parse_streamHeader
#print axioms parse_filter_pre
#print axioms parse_filter_lzma2
#print axioms parse_blockHeader
#print axioms parse_index
#print axioms parse_footer
#print axioms xz_roundtrip_blocks
#print axioms xz_roundtrip
#print axioms xz_roundtrip'
#print axioms xz_roundtrip_iff
#print axioms xz_exact_consumption
#print axioms xz_concat_list
#print axioms xz_misaligned_trailing_padding
#print axioms xz_misaligned_trailing_padding_one
#print axioms xz_concat_two
#print axioms xz_misaligned_padding
#print axioms xz_garbage_after_stream
#print axioms decode_rejects_non_xz
#print axioms decode_consumed_le
#print axioms decodeA_fst
#print axioms decode_accepts_verified
#print axioms applyFilters_length
#print axioms payloadOk_stored

end LzmaVerif.Xz
