import LzmaVerif.Proofs.EndToEndFilters
import LzmaVerif.Proofs.EndToEndLzma
import LzmaVerif.Proofs.Xz
import LzmaVerif.Proofs.Lzma2
import LzmaVerif.Proofs.LzipFile
import LzmaVerif.Proofs.LzipDict
import LzmaVerif.Proofs.ProgSparse
import LzmaVerif.Model.LzipWriter
/-!
# Closed end-to-end theorems: XZ

The container theorems (`Proofs/Xz.lean`) are parametric in the payload codec (`PayloadOk`) and in the filter
inverse; the LZMA2 theorems (`Proofs/Lzma2.lean`) discharge the former, `unfilter_applyFilters`
(`Proofs/EndToEndFilters.lean`) the latter.  Here they are composed: NO codec or filter hypothesis is left.
What remains is

* the data are bytes,
* the options are in range (`FiltersOk`; `pb ≤ 224`, `lc + lp ≤ 4`),
* a valid chunking/parse of the FILTERED data exists (`ChunksOk` – what the real encoder's search provides and
  what the driver validates on every real stream),
* the sizes fit the container's integer fields (`SizesOk`, or the plain length bounds).
-/
namespace LzmaVerif.Xz
open LzmaVerif Lzma Checks

/-- a block as the encoder sees it: the data, the LZMA properties byte and the chunking (LZMA chunks with their
parses, stored chunks, restarts) its search has found for the filtered data -/
structure EBlock where
  pb : Nat
  chunks : List Lzma2.Chunk
  data : List Nat

/-- the LZMA2 payload the writer model emits for the block (`[]` only if `encodeChunks` fails, which `EBlock.Ok`
excludes: `Lzma2.exists_payloadOk`) -/
def EBlock.payload (fs : List Filter) (b : EBlock) : List Nat :=
  (Lzma2.encodeChunks b.pb b.chunks (Lzma2.initW (readerDict fs) #[] b.pb) []).getD []

def EBlock.Ok (fs : List Filter) (b : EBlock) : Prop :=
  Bytes b.data ∧ b.pb ≤ 224 ∧ (paramsOfProps b.pb).lc + (paramsOfProps b.pb).lp ≤ 4 ∧
  Lzma2.ChunksOk b.pb b.chunks (Lzma2.initW (readerDict fs) #[] b.pb) (applyFilters fs b.data)

/-- the `(payload, data)` pairs `streamBytes` lays out -/
def wire (fs : List Filter) (bs : List EBlock) : List (List Nat × List Nat) :=
  bs.map fun b => (b.payload fs, b.data)

def dataOf (bs : List EBlock) : List Nat := (bs.map (·.data)).flatten

theorem wire_data (fs : List Filter) (bs : List EBlock) : ((wire fs bs).map (·.2)).flatten = dataOf bs := by
  simp [wire, dataOf, Function.comp_def]

theorem wire_length (fs : List Filter) (bs : List EBlock) : (wire fs bs).length = bs.length := by
  simp [wire]

/-- **both hypotheses of the container theorem, discharged**: the payload decodes (LZMA2 round trip) and the
filter chain is inverted (filter inverse theorems) -/
theorem EBlock.blockHyp (fs : List Filter) (hfs : FiltersOk fs) (b : EBlock) (hb : b.Ok fs) :
    PayloadOk (readerDict fs) (b.payload fs) (applyFilters fs b.data) ∧
      unfilter fs (applyFilters fs b.data) = b.data := by
  obtain ⟨p, henc, hp⟩ := Lzma2.exists_payloadOk (readerDict fs) b.pb hb.2.1 hb.2.2.1 b.chunks _ hb.2.2.2
  rw [EBlock.payload, henc]
  exact ⟨hp, unfilter_applyFilters fs hfs b.data hb.1⟩

theorem wire_hyp (fs : List Filter) (hfs : FiltersOk fs) (bs : List EBlock) (hb : ∀ b ∈ bs, b.Ok fs) :
    ∀ p ∈ wire fs bs, PayloadOk (readerDict fs) p.1 (applyFilters fs p.2) ∧
      unfilter fs (applyFilters fs p.2) = p.2 := by
  intro p hp
  simp only [wire, List.mem_map] at hp
  obtain ⟨b, hbm, rfl⟩ := hp
  exact b.blockHyp fs hfs (hb b hbm)

/-- **XZ end to end.**  For every check type, every admissible filter chain (up to three of Delta / BCJ, then
LZMA2), every list of data blocks (bytes), each with an admissible properties byte and a valid chunking of its
filtered data: the reader model, run on the writer model's stream followed by ANY bytes, returns exactly the
concatenated data, has consumed exactly the stream, and reports the blocks. -/
theorem xz_end_to_end (c : Check) (fs : List Filter) (hfs : FiltersOk fs) (bs : List EBlock)
    (hb : ∀ b ∈ bs, b.Ok fs) (hsz : SizesOk c fs (wire fs bs))
    (rest : List Nat) (cap : Nat) (hcap : (dataOf bs).length ≤ cap) :
    Xz.decode false (streamBytes c fs (wire fs bs) ++ rest) cap
      = .ok (dataOf bs) (streamBytes c fs (wire fs bs)).length ((wire fs bs).map (blkOf fs)).reverse := by
  rw [← wire_data fs bs] at hcap ⊢
  exact xz_roundtrip_blocks c fs hfs (wire fs bs) (wire_hyp fs hfs bs hb) hsz rest cap hcap

/-- the same with the size side condition stated as plain length bounds (stream and data below 2^63 bytes, at
most 2^29 blocks) -/
theorem xz_end_to_end' (c : Check) (fs : List Filter) (hfs : FiltersOk fs) (bs : List EBlock)
    (hb : ∀ b ∈ bs, b.Ok fs)
    (hlen : (streamBytes c fs (wire fs bs)).length < 2 ^ 63) (hdat : (dataOf bs).length < 2 ^ 63)
    (hn : bs.length ≤ 2 ^ 29)
    (rest : List Nat) (cap : Nat) (hcap : (dataOf bs).length ≤ cap) :
    Xz.decode false (streamBytes c fs (wire fs bs) ++ rest) cap
      = .ok (dataOf bs) (streamBytes c fs (wire fs bs)).length ((wire fs bs).map (blkOf fs)).reverse :=
  xz_end_to_end c fs hfs bs hb
    (sizesOk_of_length c fs (wire fs bs) hlen (by rw [wire_data]; exact hdat) (by rw [wire_length]; exact hn))
    rest cap hcap

structure EStrm where
  c : Check
  fs : List Filter
  blocks : List EBlock

def EStrm.toStrm (s : EStrm) : Strm := ⟨s.c, s.fs, wire s.fs s.blocks⟩

def EStrm.Ok (s : EStrm) : Prop :=
  FiltersOk s.fs ∧ (∀ b ∈ s.blocks, b.Ok s.fs) ∧ SizesOk s.c s.fs (wire s.fs s.blocks)

theorem EStrm.toStrm_ok (s : EStrm) (h : s.Ok) : s.toStrm.Ok :=
  Strm.ok_of s.c s.fs (wire s.fs s.blocks) h.1 (wire_hyp s.fs h.1 s.blocks h.2.1) h.2.2

theorem EStrm.toStrm_data (s : EStrm) : s.toStrm.data = dataOf s.blocks := by
  simp only [EStrm.toStrm, Strm.data, blocksData]
  exact wire_data s.fs s.blocks

def ecat (ss : List (Nat × EStrm)) : List (Nat × Strm) := ss.map fun x => (x.1, x.2.toStrm)

/-- **XZ end to end, multi-stream**: a first stream, then any list of further streams (each with its own check
type, filter chain and blocks), each preceded by stream padding of a multiple of four bytes, then `t` bytes of
trailing padding (`t % 4 = 0`): the reader in multi-stream mode returns the concatenated data, consumes
everything and reports the blocks of the last stream. -/
theorem xz_end_to_end_multi (s₀ : EStrm) (h₀ : s₀.Ok) (ss : List (Nat × EStrm))
    (hss : ∀ x ∈ ss, x.1 % 4 = 0 ∧ x.2.Ok) (t : Nat) (ht : t % 4 = 0) (cap : Nat)
    (hcap : (dataOf s₀.blocks ++ catData (ecat ss)).length ≤ cap) :
    Xz.decode true (s₀.toStrm.bytes ++ (catBytes (ecat ss) ++ List.replicate t 0)) cap
      = .ok (dataOf s₀.blocks ++ catData (ecat ss))
          (s₀.toStrm.bytes ++ (catBytes (ecat ss) ++ List.replicate t 0)).length
          (finalBlks (ecat ss) s₀.toStrm.blks) := by
  have hss' : ∀ x ∈ ecat ss, x.1 % 4 = 0 ∧ x.2.Ok := by
    intro x hx
    simp only [ecat, List.mem_map] at hx
    obtain ⟨y, hy, rfl⟩ := hx
    exact ⟨(hss y hy).1, y.2.toStrm_ok (hss y hy).2⟩
  rw [← s₀.toStrm_data] at hcap ⊢
  exact xz_concat_list s₀.toStrm (s₀.toStrm_ok h₀) (ecat ss) hss' t ht cap hcap

theorem catData_ecat : ∀ (ss : List (Nat × EStrm)), catData (ecat ss) = (ss.map fun x => dataOf x.2.blocks).flatten := by
  intro ss
  induction ss with
  | nil => rfl
  | cons x ss ih =>
    obtain ⟨k, s⟩ := x
    simp only [ecat, List.map_cons, catData, List.flatten_cons] at ih ⊢
    rw [ih, s.toStrm_data]

end LzmaVerif.Xz

/-! # Closed end-to-end theorem: LZIP

`MemberOk` (the hypothesis of `lzip_roundtrip_recs`) contains the codec hypothesis `LzipFile.PayloadOk`: the
member's raw LZMA stream decodes, under EVERY admissible cap, to the data.  It is NOT the parse hypothesis; it is
discharged here from `marker_of_valid` (the LZMA round trip with end marker and no preset dictionary, one byte string for
every cap; a case of `lzma_marker_uniform`). -/
namespace LzmaVerif.LzipFile
open LzmaVerif Lzma Checks

def memberDictBuf (db : Nat) : Nat := lzmaReaderDictBuf ((Lzip.decodeDict db).getD 0) none 0

/-- a member as the encoder sees it: dictionary byte, the parse its search has found, the length field of the
end marker (the encoder uses 2), the data -/
structure EMember where
  dictByte : Nat
  parse : List Sym
  mlen : Nat := 2
  data : List Nat

/-- the raw LZMA stream (lc = 3, lp = 0, pb = 2, end marker) the writer model emits for the member -/
def EMember.lzma (m : EMember) : List Nat :=
  (encodeParse lzipParams (memberDictBuf m.dictByte) #[] none (m.parse.length + 1)
    (m.parse ++ [.mtch END_DIST m.mlen])).getD []

/-- the parse denotes the data (every symbol admissible, every copy inside the dictionary); the sizes fit the trailer's
64-bit fields -/
def EMember.Ok (m : EMember) : Prop :=
  Bytes m.data ∧ (∃ dict, Lzip.decodeDict m.dictByte = some dict) ∧ (2 ≤ m.mlen ∧ m.mlen ≤ 273) ∧
  (∃ c', parseRun (memberDictBuf m.dictByte) m.parse Coder.init #[] = some (c', m.data.toArray)) ∧
  m.data.length < 2 ^ 64 ∧ m.lzma.length + 26 < 2 ^ 64

def EMember.toWire (m : EMember) : Nat × List Nat × List Nat := (m.dictByte, m.lzma, m.data)

theorem memberDictBuf_le (db dict : Nat) (h : Lzip.decodeDict db = some dict) : memberDictBuf db ≤ END_DIST := by
  obtain ⟨_, _, _, h1, h2⟩ := Lzip.decodeDict_some db dict h
  simp only [memberDictBuf, h, Option.getD_some, lzmaReaderDictBuf, lzmaDictBuf, END_DIST]
  omega

/-- **the codec hypothesis of the LZIP container theorems, discharged** -/
theorem EMember.payloadOk (m : EMember) (hm : m.Ok) :
    PayloadOk (memberDictBuf m.dictByte) m.lzma m.data ∧ Bytes m.lzma := by
  obtain ⟨_, ⟨dict, hdict⟩, hml, ⟨c', hp⟩, _, _⟩ := hm
  obtain ⟨bytes, henc, hbytes, hdec⟩ := marker_of_valid lzipParams (memberDictBuf m.dictByte)
    (memberDictBuf_le m.dictByte dict hdict) m.parse m.mlen hml c' m.data.toArray hp
  have hl : m.lzma = bytes := by
    simp only [EMember.lzma, henc (m.parse.length + 1) (Nat.lt_succ_self _), Option.getD_some]
  have hlen : m.parse.length ≤ m.data.length := by
    have := parseRun_size_le _ _ _ _ _ _ hp
    simpa using this
  rw [hl]
  refine ⟨fun rest cap hcap => ⟨m.parse ++ [.mtch END_DIST m.mlen], ?_⟩, hbytes⟩
  rw [hdec rest cap (Nat.le_trans hlen hcap)]

theorem EMember.memberOk (m : EMember) (hm : m.Ok) : MemberOk m.toWire := by
  obtain ⟨dict, hdict⟩ := hm.2.1
  refine ⟨dict, hdict, ?_, hm.1, hm.2.2.2.2.1, hm.2.2.2.2.2⟩
  have := (m.payloadOk hm).1
  simp only [memberDictBuf, hdict, Option.getD_some] at this
  exact this

def wireMembers (ms : List EMember) : List (Nat × List Nat × List Nat) := ms.map EMember.toWire

def membersData (ms : List EMember) : List Nat := (ms.map (·.data)).flatten

theorem fileData_wire (ms : List EMember) : fileData (wireMembers ms) = membersData ms := by
  simp [fileData, wireMembers, membersData, EMember.toWire, Function.comp_def]

/-- **LZIP end to end.**  Any non-empty sequence of members – data bytes, an accepted dictionary byte, a parse
denoting the data – written by the writer model and followed by trailing bytes that do not start with the magic
(or by nothing) decodes to the concatenated data; the reader consumes all members plus at most the four bytes it
has to look at, and reports the members. -/
theorem lzip_end_to_end (ms : List EMember) (hne : ms ≠ []) (hm : ∀ m ∈ ms, m.Ok)
    (trailing : List Nat) (ht : trailing.take 4 ≠ Consts.LZIP_MAGIC) (ht2 : TrailingOk trailing)
    (cap : Nat) (hcap : (membersData ms).length ≤ cap) :
    decode (fileBytes (wireMembers ms) ++ trailing) cap
      = .ok (membersData ms) ((fileBytes (wireMembers ms)).length + min 4 trailing.length)
          (fileRecs (wireMembers ms)) := by
  have hne' : wireMembers ms ≠ [] := by simpa [wireMembers] using hne
  have hm' : ∀ w ∈ wireMembers ms, MemberOk w := by
    intro w hw
    simp only [wireMembers, List.mem_map] at hw
    obtain ⟨m, hmm, rfl⟩ := hw
    exact m.memberOk (hm m hmm)
  rw [← fileData_wire] at hcap ⊢
  exact lzip_roundtrip_recs (wireMembers ms) hne' hm' trailing ht ht2 cap hcap

/-- no trailing data: exact consumption -/
theorem lzip_end_to_end_nil (ms : List EMember) (hne : ms ≠ []) (hm : ∀ m ∈ ms, m.Ok)
    (cap : Nat) (hcap : (membersData ms).length ≤ cap) :
    decode (fileBytes (wireMembers ms)) cap
      = .ok (membersData ms) (fileBytes (wireMembers ms)).length (fileRecs (wireMembers ms)) := by
  have h := lzip_end_to_end ms hne hm [] (by decide) trailingOk_nil cap hcap
  simpa using h

end LzmaVerif.LzipFile

namespace LzmaVerif.LzipWriter
open LzmaVerif

theorem memberDictBuf_eq (db : Nat) : LzipWriter.memberDictBuf db = LzipFile.memberDictBuf db := rfl

end LzmaVerif.LzipWriter

namespace LzmaVerif.Xz.Example
open LzmaVerif Lzma Checks Xz

def exFs : List Filter := [.delta 1, .bcj .x86 0, .lzma2 4096]

def exData : List Nat := [0xE8, 0xF8, 0xF8, 0xF8, 0xF8, 0x4D, 0xB3, 0x2A]

/-- the data after Delta (`[0xE8, 0x10, 0, 0, 0, 0x55, 0x66, 0x77]`: a CALL with displacement 0x10) and then
x86 BCJ (displacement made absolute: 0x10 + 5 = 0x15) -/
def exFiltered : List Nat := [0xE8, 0x15, 0, 0, 0, 0x55, 0x66, 0x77]

theorem exDelta_eq : Filters.deltaEncode 1 exData = [0xE8, 0x10, 0, 0, 0, 0x55, 0x66, 0x77] := by decide +kernel

theorem exFiltered_eq : applyFilters exFs exData = exFiltered := by
  rw [exFs, applyFilters, exDelta_eq]
  decide +kernel

def exBlock : EBlock :=
  { pb := 93, data := exData,
    chunks := [{ control := 1, unc := 8, comp := 0, props := none, parse := [], raw := exFiltered }] }

theorem exBlock_ok : exBlock.Ok exFs := by
  refine ⟨by unfold Bytes; decide, by decide, by decide, ?_⟩
  show Lzma2.ChunksOk 93 exBlock.chunks _ (applyFilters exFs exData)
  rw [exFiltered_eq]
  exact Lzma2.checkChunks_sound _ _ _ _ (by decide)

theorem exBlock_payload : exBlock.payload exFs = [1, 0, 7, 0xE8, 0x15, 0, 0, 0, 0x55, 0x66, 0x77, 0] := by decide

theorem exStrm_ok (c : Check) (bs : List EBlock) (hbs : ∀ b ∈ bs, b = exBlock) (hl : bs.length ≤ 2) :
    (EStrm.mk c exFs bs).Ok := by
  show FiltersOk exFs ∧ (∀ b ∈ bs, b.Ok exFs) ∧ SizesOk c exFs (wire exFs bs)
  refine ⟨by decide, fun b hb => (hbs b hb).symm ▸ exBlock_ok,
    sizesOk_of_blocks _ _ _ (sizesOk63_small _ _ (by decide) _ (by rw [wire_length]; omega) ?_) (by rw [wire_length]; omega)⟩
  intro p hp
  simp only [wire, List.mem_map] at hp
  obtain ⟨b, hbm, rfl⟩ := hp
  rw [hbs b hbm, exBlock_payload]
  exact ⟨by decide, by decide⟩

/-- `xz_end_to_end` instantiated – every hypothesis discharged – for every check type and every continuation -/
theorem ex_roundtrip (c : Check) (rest : List Nat) :
    Xz.decode false (streamBytes c exFs (wire exFs [exBlock]) ++ rest) 8
      = .ok exData (streamBytes c exFs (wire exFs [exBlock])).length
          [blkOf exFs ([1, 0, 7, 0xE8, 0x15, 0, 0, 0, 0x55, 0x66, 0x77, 0], exData)] := by
  obtain ⟨hfs, hb, hsz⟩ := exStrm_ok c [exBlock] (by simp) (by simp)
  have hw : wire exFs [exBlock] = [([1, 0, 7, 0xE8, 0x15, 0, 0, 0, 0x55, 0x66, 0x77, 0], exData)] := by
    simp only [wire, List.map_cons, List.map_nil, exBlock_payload]
    rfl
  have h := xz_end_to_end c exFs hfs [exBlock] hb hsz rest 8 (by decide)
  rw [hw] at h ⊢
  exact h

/-- two such streams with different check types, 4 bytes of stream padding, 8 bytes of trailing padding -/
example : ∃ n blks,
    Xz.decode true ((EStrm.mk .crc64 exFs [exBlock]).toStrm.bytes ++
        (catBytes (ecat [(4, EStrm.mk .sha256 exFs [exBlock, exBlock])]) ++ List.replicate 8 0)) 24
      = .ok (exData ++ (exData ++ exData)) n blks := by
  have h := xz_end_to_end_multi ⟨.crc64, exFs, [exBlock]⟩ (exStrm_ok _ _ (by simp) (by simp))
    [(4, ⟨.sha256, exFs, [exBlock, exBlock]⟩)]
    (by
      intro x hx
      rw [List.mem_singleton] at hx
      subst hx
      exact ⟨by decide, exStrm_ok _ _ (by simp) (by simp)⟩)
    8 (by decide) 24 (by rw [catData_ecat]; decide)
  rw [catData_ecat] at h
  exact ⟨_, _, h⟩

end LzmaVerif.Xz.Example

namespace LzmaVerif.LzipFile.Example
open LzmaVerif Lzma LzipFile

/-- "HiHiHi": two literals and a match (distance 1, length 4), dictionary byte 12 (4096 bytes) -/
def exM : EMember := { dictByte := 12, parse := [.lit 72, .lit 105, .mtch 1 4], data := [72, 105, 72, 105, 72, 105] }

/-- the 13 bytes of the member's LZMA stream (kernel evaluation of the model encoder; no `native_decide`) -/
theorem exM_lzma : exM.lzma = [0, 36, 26, 94, 6, 16, 123, 223, 255, 254, 248, 64, 0] := by
  rw [EMember.lzma, encodeParse, ← Rc.Sparse.toArr_fresh, Prog.encRun_sparse]
  decide +kernel

theorem exM_ok : exM.Ok := by
  refine ⟨by unfold Bytes; decide, ⟨4096, by decide⟩, by decide,
    ⟨_, rfl⟩, by decide, ?_⟩
  rw [exM_lzma]
  decide

/-- `lzip_end_to_end` instantiated: two members followed by three bytes of trailing garbage -/
example (cap : Nat) (hcap : 12 ≤ cap) :
    decode (fileBytes (wireMembers [exM, exM]) ++ [1, 2, 3]) cap
      = .ok (exM.data ++ exM.data) ((fileBytes (wireMembers [exM, exM])).length + 3)
          (fileRecs (wireMembers [exM, exM])) := by
  have hm : ∀ m ∈ [exM, exM], m.Ok := by
    intro m hm
    simp only [List.mem_cons, List.not_mem_nil, or_false, or_self] at hm
    subst hm
    exact exM_ok
  have h := lzip_end_to_end [exM, exM] (by simp) hm [1, 2, 3] (by decide) (by decide) cap
    (by simpa [membersData, exM] using hcap)
  simpa [membersData] using h

end LzmaVerif.LzipFile.Example

#print axioms LzmaVerif.Xz.unfilter_applyFilters
#print axioms LzmaVerif.Xz.xz_end_to_end
#print axioms LzmaVerif.Xz.xz_end_to_end'
#print axioms LzmaVerif.Xz.xz_end_to_end_multi
#print axioms LzmaVerif.LzipFile.EMember.payloadOk
#print axioms LzmaVerif.LzipFile.lzip_end_to_end
#print axioms LzmaVerif.LzipFile.lzip_end_to_end_nil
#print axioms LzmaVerif.Xz.Example.ex_roundtrip
#print axioms LzmaVerif.LzipFile.Example.exM_ok
