import LzmaVerif.Proofs.MTWorker
/-
Coordinator and caller steps preserve the invariant.  A step that only moves the program counter is an
instance of `Inv.goto`.  Every other step is split into such jumps and a change of data made at a fixed
program counter (the loop top where possible, since the invariant asks nothing of it there), so that
the clauses the change does not mention carry over unchanged and each lemma lists the ones it touches.
-/
namespace LzmaVerif.MT

/-- program counters at which `disp` is `nextDispatch` and the reader has not been dropped -/
def plainPc : CPc → Bool
  | .spawnChk | .dropped => false
  | _ => true

theorem plainPc_ne {p : CPc} (h : plainPc p = true) : p ≠ .spawnChk ∧ p ≠ .dropped := by
  constructor <;> rintro rfl <;> cases h

theorem dispOf_plain {p : CPc} (h : plainPc p = true) (nd : Nat) : dispOf p nd = nd :=
  if_neg (plainPc_ne h).1

theorem FailingOf.jump {ws : List WPc} {e : Bool} {p : CPc} (p' : CPc) (hF : FailingOf ws e p)
    (h1 : p ≠ .idle (some .err) := by nofun) (h2 : p ≠ .dropped := by nofun) : FailingOf ws e p' :=
  hF.imp_right (.imp_right fun hx => (hx.elim h1 h2).elim)

/-- A pure jump `p → p'`: only the clauses that speak of the program counter have to be established for `p'`;
    what `errSeen`, `readPc`, `pastTop` gave at `p` carries over. -/
theorem Inv.goto {s : Sys} (h : Inv s) {p : CPc} (hp : s.pc = p) (p' : CPc)
    (ho : plainPc p = true := by rfl) (hn : plainPc p' = true := by rfl)
    (hne : p ≠ .idle (some .err) := by nofun)
    (errWake : (!errSeen p' && errSeen p) = true → s.errStored = false := by nofun)
    (pushSeq : ∀ q, p' = .push q → q = s.nextDispatch ∧ s.nextDispatch < s.cfg.units.length := by nofun)
    (doneSt : p' = .idle (some .done) → s.st = .finished := by nofun)
    (readSt : (readPc p' && !readPc p) = true → s.st = .reading := by nofun)
    (drainSt : p' = .recvDraining → s.st = .draining := by nofun)
    (oooNext : (pastTop p' && !pastTop p) = true → s.nextReturn ∉ s.ooo := by nofun)
    (recvReading : p' = .recvReading → s.nextReturn < s.nextDispatch := by nofun)
    (recvDraining : p' = .recvDraining → s.nextReturn ≤ s.nextDispatch - 1 := by nofun) :
    Inv { s with pc := p' } := by
  subst hp
  have hd : disp { s with pc := p' } = disp s := (dispOf_plain hn _).trans (dispOf_plain ho _).symm
  exact { h with
    dispLe := hd ▸ h.dispLe
    retLe := hd ▸ h.retLe
    cntRange := fun q hq => hd ▸ h.cntRange q hq
    cons := fun q h1 h2 => (h.cons q h1 (hd ▸ h2)).imp_right (.imp_right (·.jump p' hne (plainPc_ne ho).2))
    pushSeq
    doneSt
    readSt := fun (hr : readPc p' = true) => by
      cases hr' : readPc s.pc
      · exact readSt (by rw [hr, hr']; rfl)
      · exact h.readSt hr'
    drainSt
    shutErr := fun hs => (h.shutErr hs).imp_right fun hx => (hx.elim hne (plainPc_ne ho).2).elim
    errWake := fun he => (h.errWake he).imp_left fun (hx : errSeen s.pc = true) => by
      cases hx' : errSeen p'
      · exact nomatch (errWake (by rw [hx', hx]; rfl)).symm.trans he
      · rfl
    closedIff := ⟨fun hc => ((plainPc_ne ho).2 (h.closedIff.mp hc)).elim, fun hc => ((plainPc_ne hn).2 hc).elim⟩
    dropShut := fun hc => ((plainPc_ne hn).2 hc).elim
    qAlive := fun hs hq => (h.qAlive hs hq).imp_right fun hx => ((plainPc_ne ho).1 hx.1).elim
    oooNext := fun (hr : pastTop p' = true) => by
      cases hr' : pastTop s.pc
      · exact oooNext (by rw [hr, hr']; rfl)
      · exact h.oooNext hr'
    recvLt := ⟨recvReading, recvDraining⟩ }

/-- the channel and the reorder buffer are rearranged (`c'`, `o'`) without any unit moving in or out -/
theorem Inv.shuffle {s : Sys} (h : Inv s) (hp : s.pc = .top) (c' : List Msg) (o' : List Nat)
    (hcnt : ∀ q, cntOf s.queue s.ws c' o' q = cnt s q)
    (hsub : ∀ q, .result q ∈ c' ∨ q ∈ o' → .result q ∈ s.chan ∨ q ∈ s.ooo) :
    Inv { s with chan := c', ooo := o' } := by
  have hcnt : cnt { s with chan := c', ooo := o' } = cnt s := funext hcnt
  exact { h with
    cntLe := hcnt ▸ h.cntLe
    cntRange := hcnt ▸ h.cntRange
    cons := hcnt ▸ h.cons
    okSent := fun q hq => h.okSent q (hq.imp_right (hsub q))
    errWake := fun _ => .inl (congrArg errSeen hp)
    oooNext := by rw [hp]; nofun }

/-- the next unit to return leaves the channel or the reorder buffer (`c'`, `o'`: what is left of them) -/
theorem Inv.deliver {s : Sys} (h : Inv s) (hp : s.pc = .top) (c' : List Msg) (o' : List Nat)
    (hnr : .result s.nextReturn ∈ s.chan ∨ s.nextReturn ∈ s.ooo)
    (hself : cntOf s.queue s.ws c' o' s.nextReturn + 1 = cnt s s.nextReturn)
    (hother : ∀ q, q ≠ s.nextReturn → cntOf s.queue s.ws c' o' q = cnt s q)
    (hsub : ∀ q, .result q ∈ c' ∨ q ∈ o' → .result q ∈ s.chan ∨ q ∈ s.ooo) :
    Inv { s with chan := c', ooo := o', nextReturn := s.nextReturn + 1,
                 delivered := s.delivered ++ [s.nextReturn] } := by
  have hle := h.cntLe s.nextReturn
  have hr := (h.cntRange s.nextReturn (by omega)).2
  exact { h with
    order := h.order ▸ List.range_succ.symm
    retLe := hr
    cntLe := fun q => by
      show cntOf s.queue s.ws c' o' q ≤ 1
      by_cases hq : q = s.nextReturn
      · subst hq; omega
      · exact hother q hq ▸ h.cntLe q
    cntRange := fun q hq0 => by
      have hq : q ≠ s.nextReturn := by
        rintro rfl
        have : 0 < cntOf s.queue s.ws c' o' s.nextReturn := hq0
        omega
      have := h.cntRange q (hother q hq ▸ hq0)
      exact ⟨Nat.lt_of_le_of_ne this.1 (Ne.symm hq), this.2⟩
    cons := fun q h1 h2 => by
      have hq : s.nextReturn < q := h1
      rw [cnt]
      exact hother q (Nat.ne_of_gt hq) ▸ h.cons q (Nat.le_of_lt hq) h2
    okDelivered := fun q hq => by
      by_cases hq' : q = s.nextReturn
      · subst hq'; exact h.okSent _ (.inr hnr)
      · exact h.okDelivered q (Nat.lt_of_le_of_ne (Nat.le_of_lt_succ hq) hq')
    okSent := fun q hq => h.okSent q (hq.imp_right (hsub q))
    finInv := fun hs => Nat.le_succ_of_le (h.finInv hs)
    errWake := fun _ => .inl (congrArg errSeen hp)
    oooNext := by rw [hp]; nofun
    recvLt := by rw [hp]; exact ⟨nofun, nofun⟩ }

/-- The coordinator changes its state (with `lastSeq`, `srcDone`) at the loop top, where no clause ties the
    program counter to the state. -/
theorem Inv.set_st {s : Sys} (h : Inv s) (hp : s.pc = .top) (st' : CState) (ls' : Option Nat) (sd' : Bool)
    (drainInv : st' = .draining ∨ st' = .finished →
      s.cfg.srcOk = true ∧ ls' = some (s.nextDispatch - 1) ∧ s.cfg.units.length ≤ s.nextDispatch := by nofun)
    (finInv : st' = .finished → s.nextDispatch ≤ s.nextReturn := by nofun) :
    Inv { s with srcDone := sd', lastSeq := ls', st := st' } :=
  { h with
    drainInv
    finInv
    doneSt := by rw [hp]; nofun
    readSt := by rw [hp]; nofun
    drainSt := by rw [hp]; nofun }

theorem Inv.set_err {s : Sys} (h : Inv s) (hp : s.pc = .top) : Inv { s with errStored := true, shutdown := true } :=
  { h with
    cons := fun q h1 h2 => (h.cons q h1 h2).imp_right (.imp_right fun _ => .inr (.inl rfl))
    shutErr := fun _ => .inl rfl
    errWake := fun _ => .inl (congrArg errSeen hp)
    noExit := nofun
    dropShut := fun _ => rfl
    qAlive := nofun }

/-- Stated at `idle (some .err)`: the jump is made first, so that `shutErr` and `cons` can point at the error
    being returned once the store is empty. -/
theorem Inv.clear_err {s : Sys} (h : Inv s) (hp : s.pc = .idle (some .err)) : Inv { s with errStored := false } :=
  { h with
    cons := fun q h1 h2 => (h.cons q h1 h2).imp_right (.imp_right fun _ => .inr (.inr (.inl hp)))
    shutErr := fun _ => .inr (.inl hp)
    errWake := nofun }

theorem Inv.spawn {s : Sys} (h : Inv s) (hlt : s.ws.length < s.cfg.maxWorkers) :
    Inv { s with ws := s.ws ++ [.chkShutdown] } := by
  have hcnt : cnt { s with ws := s.ws ++ [.chkShutdown] } = cnt s := funext fun q => cntOf_spawn ..
  have hmem : ∀ {w}, w ∈ s.ws ++ [.chkShutdown] → w ∈ s.ws ∨ w = .chkShutdown := fun hw =>
    (List.mem_append.mp hw).imp_right List.mem_singleton.mp
  exact { h with
    wsBound := by
      show (s.ws ++ [WPc.chkShutdown]).length ≤ max s.cfg.initialWorkers s.cfg.maxWorkers
      rw [List.length_append, List.length_singleton]; omega
    cntLe := hcnt ▸ h.cntLe
    cntRange := hcnt ▸ h.cntRange
    cons := fun q h1 h2 => by
      rw [hcnt]
      exact (h.cons q h1 h2).imp_right (.imp_right (.imp_left fun ⟨w, hw, hm⟩ =>
        ⟨w, List.mem_append_left _ hw, hm⟩))
    okSent := fun q hq => h.okSent q (hq.imp_left fun hx => (hmem hx).resolve_right nofun)
    errWake := fun he => (h.errWake he).imp_right (.imp_right (List.mem_append_left _))
    noExit := fun hs w hw => (hmem hw).elim (h.noExit hs w) fun hx => hx ▸ ⟨nofun, nofun⟩
    closedNoWait := fun hc w hw => (hmem hw).elim (h.closedNoWait hc w) fun hx => hx ▸ nofun
    qAlive := fun _ _ => .inl ⟨.chkShutdown, List.mem_append_right _ (List.mem_singleton_self _), nofun⟩
    emptyActive := fun hx => absurd hx (List.append_ne_nil_of_right_ne_nil _ (List.cons_ne_nil _ _)) }

/-- The spawn check counts the pushed unit in `nextDispatch`, so `disp` stays; `nx` is the loop top
    or, when the same source call also met the end of the input, its end handling. -/
theorem Inv.advance {s : Sys} (h : Inv s) (hp : s.pc = .spawnChk) (hq : s.queue ≠ [] → s.ws ≠ [])
    (nx : CPc) (hnx : nx = .top ∨ nx = .source) :
    Inv { s with nextDispatch := s.nextDispatch + 1, pc := nx } := by
  have hst : s.st = .reading := h.readSt (by rw [hp]; rfl)
  have hooo := h.oooNext (by rw [hp]; rfl)
  cases s
  subst hp
  rcases hnx with rfl | rfl <;> exact { h with
    pushSeq := nofun
    cons := fun q h1 h2 => (h.cons q h1 h2).imp_right (.imp_right (·.jump _))
    drainInv := fun hx => hx.elim (fun hy => nomatch hst.symm.trans hy) (fun hy => nomatch hst.symm.trans hy)
    finInv := fun hy => nomatch hst.symm.trans hy
    doneSt := nofun
    readSt := fun _ => hst
    drainSt := nofun
    shutErr := fun hs => (h.shutErr hs).imp_right nofun
    errWake := fun he => (h.errWake he).imp_left nofun
    closedIff := ⟨(nomatch h.closedIff.mp ·), nofun⟩
    dropShut := nofun
    qAlive := fun hs hq' => .inl ((h.qAlive hs hq').elim id fun hx => absurd hx.2 (hq hq'))
    oooNext := fun _ => hooo
    recvLt := ⟨nofun, nofun⟩ }

/-- `work_queue.push`: unit `nextDispatch` enters the queue and `disp` counts it; `notify_one` has
    been issued, so somebody is there to take it unless no worker exists yet -/
theorem Inv.push {s : Sys} {seq : Nat} (h : Inv s) (hp : s.pc = .push seq)
    (halive : s.ws = [] ∨ ∃ w ∈ s.ws, w ≠ .waiting) :
    Inv { s with queue := s.queue ++ [seq], pc := .spawnChk } := by
  have hst : s.st = .reading := h.readSt (by rw [hp]; rfl)
  have hooo := h.oooNext (by rw [hp]; rfl)
  obtain ⟨cfg, queue, closed, chan, errStored, shutdown, active, pc, st, nd, nr, lastSeq, ooo, delivered,
    srcDone, ws⟩ := s
  subst hp
  have hnd : seq = nd := (h.pushSeq seq rfl).1
  subst hnd
  have hcnt : ∀ q, cntOf (queue ++ [seq]) ws chan ooo q
      = cntOf queue ws chan ooo q + if seq = q then 1 else 0 := cntOf_queue_snoc _ _ _ _ _
  have hle : ∀ q, cntOf queue ws chan ooo q ≤ 1 := h.cntLe
  have hrange : ∀ q, 0 < cntOf queue ws chan ooo q → nr ≤ q ∧ q < seq := h.cntRange
  have hret : nr ≤ seq := h.retLe
  exact { h with
    dispLe := (h.pushSeq seq rfl).2
    retLe := Nat.le_succ_of_le hret
    cntLe := fun q => by
      show cntOf (queue ++ [seq]) ws chan ooo q ≤ 1
      rw [hcnt]
      split
      · next hq => subst hq; have := hrange seq; omega
      · exact hle q
    cntRange := fun q hq0 => by
      have hq0 : 0 < cntOf (queue ++ [seq]) ws chan ooo q := hq0
      rw [hcnt] at hq0
      show nr ≤ q ∧ q < seq + 1
      split at hq0
      · next hq => subst hq; omega
      · have := hrange q hq0; omega
    cons := fun q h1 h2 => by
      have h2 : q < seq + 1 := h2
      show cntOf (queue ++ [seq]) ws chan ooo q = 1 ∨ _
      rw [hcnt]
      split
      · next hq => subst hq; have := hrange seq; omega
      · have h2 : q < seq := by omega
        exact (h.cons q h1 h2).imp_right (.imp_right (·.jump _))
    pushSeq := nofun
    doneSt := nofun
    readSt := fun _ => hst
    drainSt := nofun
    shutErr := fun hs => (h.shutErr hs).imp_right nofun
    errWake := fun he => (h.errWake he).imp_left nofun
    closedIff := ⟨(nomatch h.closedIff.mp ·), nofun⟩
    dropShut := nofun
    qAlive := fun _ _ => halive.elim (fun h0 => .inr ⟨rfl, h0⟩) .inl
    oooNext := fun _ => hooo
    recvLt := ⟨nofun, nofun⟩ }

/-- Waking workers (`notify_one`, `notify_all`) is harmless at any time: each woken worker makes the move
    `waiting → steal`, which touches nothing else. -/
theorem Inv.wake {s : Sys} (h : Inv s) {n : Nat} {ws' : List WPc} (hw : Lts.Woke .waiting .steal n s.ws ws') :
    Inv { s with ws := ws' } :=
  hw.induct (P := fun l => Inv { s with ws := l }) h fun _ _ hl hi => hl.move hi .steal

theorem Inv.close {s : Sys} {last : Option Ret} (h : Inv s) (hp : s.pc = .idle last)
    (hnw : ∀ w ∈ s.ws, w ≠ .waiting) :
    Inv { s with shutdown := true, closed := true, pc := .dropped } := by
  cases s
  subst hp
  exact { h with
    cons := fun q h1 h2 => (h.cons q h1 h2).imp_right (.imp_right fun _ => .inr (.inr (.inr rfl)))
    pushSeq := nofun
    doneSt := nofun
    readSt := nofun
    drainSt := nofun
    shutErr := fun _ => .inr (.inr rfl)
    errWake := fun _ => .inl rfl
    noExit := nofun
    closedIff := ⟨fun _ => rfl, fun _ => rfl⟩
    dropShut := fun _ => rfl
    closedNoWait := fun _ => hnw
    qAlive := nofun
    oooNext := nofun
    recvLt := ⟨nofun, nofun⟩ }

theorem onMsg_inv {s : Sys} {m : Msg} {rest : List Msg} (h : Inv s) (hc : s.chan = m :: rest)
    (hp : plainPc s.pc = true) (hne : s.pc ≠ .idle (some .err)) : Inv (onMsg s m rest) := by
  have ht := h.goto rfl .top hp rfl hne
  have hrest : ∀ q, .result q ∈ rest → .result q ∈ s.chan := fun q hx => hc ▸ List.mem_cons_of_mem _ hx
  cases m with
  | wake =>
    exact ht.shuffle rfl rest s.ooo (fun q => by rw [cnt, hc, cntOf_chan_wake]) fun q hq => hq.imp_left (hrest q)
  | result seq =>
    have hcnt : ∀ q, cnt s q = cntOf s.queue s.ws rest s.ooo q + if seq = q then 1 else 0 :=
      fun q => by rw [cnt, hc, cntOf_chan_result]
    have hseq : .result seq ∈ s.chan := hc ▸ List.mem_cons_self
    simp only [onMsg]
    split
    · next hseq' =>
      subst hseq'
      refine (ht.deliver rfl rest s.ooo (.inl hseq) ?_ ?_ fun q hq => hq.imp_left (hrest q)).goto rfl _
      · exact ((hcnt _).trans (by rw [if_pos rfl])).symm
      · exact fun q hq => ((hcnt q).trans (by rw [if_neg (Ne.symm hq)]; rfl)).symm
    · -- not the next one to return: to the reorder buffer
      refine ht.shuffle rfl rest (seq :: s.ooo) (fun q => (cntOf_ooo_cons ..).trans (hcnt q).symm) fun q hq => ?_
      rcases hq with hq | hq
      · exact .inl (hrest q hq)
      · exact (List.mem_cons.mp hq).elim (fun hx => .inl (hx ▸ hseq)) .inr

theorem coord_step_inv (s s' : Sys) (h : Inv s) (hs : coordStep s = some s') : Inv s' := by
  cases hp : s.pc <;> simp only [coordStep, hp] at hs
  case idle | dropped => cases hs
  case top =>
    split at hs <;> cases hs
    · next hmem =>
      exact (h.deliver hp s.chan (s.ooo.erase s.nextReturn) (.inr hmem) (cntOf_erase_self _ _ _ _ _ hmem)
        (cntOf_erase_ne _ _ _ _ _) (fun q hq => hq.imp_right List.mem_of_mem_erase)).goto hp _
    · next hmem => exact h.goto hp .chkErr (oooNext := fun _ => hmem)
  case chkErr =>
    split at hs <;> cases hs
    · exact (((h.goto hp .top).set_st rfl .error _ _).goto rfl (.idle (some .err))).clear_err rfl
    · next he => exact h.goto hp .byState (errWake := fun _ => Bool.eq_false_iff.mpr he)
  case byState =>
    split at hs
    · next hst =>
      cases hs
      exact h.goto hp .tryRecv (readSt := fun _ => hst)
    · next hst =>
      have hd := (h.drainInv (.inl hst)).2.1
      split at hs
      · next l hl =>
        have hl' : l = s.nextDispatch - 1 := Option.some.inj (hl.symm.trans hd)
        split at hs <;> cases hs
        · next hgt =>
          exact (h.goto hp .top).set_st rfl .finished _ _ (fun _ => h.drainInv (.inl hst))
            fun _ => by show s.nextDispatch ≤ s.nextReturn; omega
        · next hgt =>
          exact h.goto hp .recvDraining (drainSt := fun _ => hst)
            (recvDraining := fun _ => hl' ▸ Nat.le_of_not_lt hgt)
      · next hl => exact nomatch hl.symm.trans hd
    · next hst =>
      cases hs
      exact h.goto hp (.idle (some .done)) (doneSt := fun _ => hst)
    · next hst =>
      cases hs
      exact (h.goto hp (.idle (some .err))).clear_err rfl
  case tryRecv =>
    split at hs <;> cases hs
    · next hc => exact onMsg_inv h hc (by rw [hp]; rfl) (by rw [hp]; nofun)
    · exact h.goto hp .chkQueue
  case chkQueue =>
    split at hs <;> cases hs
    · exact h.goto hp .source
    · next hlen =>
      -- the coordinator only blocks in `Reading` when four units are queued, so one is outstanding
      obtain ⟨a, ha⟩ := List.exists_mem_of_length_pos (Nat.lt_of_lt_of_le (by decide) (Nat.le_of_not_lt hlen))
      have hr := h.cntRange a (cnt_pos_of_queue s a ha)
      rw [disp, hp] at hr
      exact h.goto hp .recvReading (recvReading := fun _ => Nat.lt_of_le_of_lt hr.1 hr.2)
  case source =>
    split at hs
    · next hlt =>
      cases hs
      exact h.goto hp (.push s.nextDispatch) (pushSeq := fun q hq => CPc.push.inj hq ▸ ⟨rfl, hlt⟩)
    · next hlt =>
      split at hs <;> cases hs
      · next hok => exact (h.goto hp .top).set_st rfl .draining _ true fun _ => ⟨hok, rfl, Nat.le_of_not_lt hlt⟩
      · exact ((h.goto hp .top).set_st rfl .error _ true).set_err rfl
  case push q =>
    cases hs
    obtain ⟨n, -, hw⟩ := wakeOne_woke s.ws
    refine (h.wake hw).push hp ?_
    exact (Decidable.em (s.ws = [])).imp (fun h0 => by rw [h0]; rfl) (wakeOne_alive _)
  case spawnChk =>
    split at hs <;> cases hs
    · next hc =>
      exact (h.spawn hc.2.2).advance hp (fun _ => List.append_ne_nil_of_right_ne_nil _ (List.cons_ne_nil _ _))
        _ (by split <;> simp)
    · next hc =>
      refine h.advance hp (fun hq hws => hc ⟨List.length_pos_iff.mpr hq, ?_, ?_⟩) _ (by split <;> simp)
      · rw [h.emptyActive hws, hws]; rfl
      · rw [hws]; exact h.maxPos
  case recvReading | recvDraining =>
    split at hs <;> cases hs
    next hc => exact onMsg_inv h hc (by rw [hp]; rfl) (by rw [hp]; nofun)

theorem caller_step_inv (s s' : Sys) (b : Bool) (h : Inv s) (hs : callerStep s b = some s') : Inv s' := by
  unfold callerStep at hs
  split at hs
  · next last hp =>
    split at hs
    · cases hs
      obtain ⟨n, hw⟩ := wakeAll_woke s.ws
      exact (h.wake hw).close hp (wakeAll_noWait _)
    · split at hs <;> cases hs
      next hdone herr =>
      exact h.goto hp .top (hne := fun hx => herr (CPc.idle.inj hx))
  · cases hs

theorem step_inv (s s' : Sys) (l : Label) (h : Inv s) (hs : step s l = some s') : Inv s' := by
  cases l with
  | coord => exact coord_step_inv s s' h hs
  | call => exact caller_step_inv s s' false h hs
  | drop => exact caller_step_inv s s' true h hs
  | worker i => exact worker_step_inv s s' i h hs

theorem init_inv (cfg : Cfg) (hmax : 1 ≤ cfg.maxWorkers) : Inv (init cfg) := by
  constructor <;>
    simp [init, cnt, cntOf, sumW_replicate, hv, disp, dispOf, pastTop, readPc, errSeen, List.mem_replicate]
  · exact hmax
  · exact Nat.le_max_left ..

end LzmaVerif.MT
