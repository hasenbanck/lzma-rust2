import LzmaVerif.Proofs.LzipFile
import LzmaVerif.Proofs.TruncLzma
import LzmaVerif.Proofs.ProgSparse
/-!
# Truncation of LZIP files

A proper, non-empty prefix of a well-formed multi-member LZIP file is never decoded to the full file.  It is an error,
EXCEPT when the cut falls exactly on a member boundary (after at least one complete member): what is left then IS a
valid, shorter LZIP file and is decoded as such.  (A cut 1–3 bytes behind a member boundary, i.e. inside the magic of
the next member, is `UnexpectedEof`: the reader does not take a fragment of the magic for trailing data.)

The payload codec enters through `PayloadOk` only (round trip, as in `lzip_roundtrip_recs`): that no proper prefix of a
member's LZMA stream is accepted is the decoder-level theorem `decodeRaw_trunc`.
-/
namespace LzmaVerif.LzipFile
open LzmaVerif Lzma Checks

theorem members_cut_member (fuel : Nat) (first : Bool) (db : Nat) (lzma data : List Nat) (total : Nat)
    (acc : List Nat) (n : List Member) (cap k : Nat) (hm : MemberOk (db, lzma, data))
    (hcap : acc.length + data.length ≤ cap)
    (hk : k < lzma.length + 26) (hfk : first = true → 0 < k) :
    (∃ e, members (fuel + 1) first ((memberBytes db lzma data).take k) total acc n cap = .err e) ∨
    (first = false ∧ k = 0 ∧
      members (fuel + 1) first ((memberBytes db lzma data).take k) total acc n cap = .ok acc total n) := by
  obtain ⟨dict, hd, hp, hb, hl1, hl2⟩ := hm
  simp only at hd hp hb hl1 hl2
  rw [memberBytes_eq]
  by_cases hk4 : k < 4
  · rw [List.take_append_of_le_length (by simp [Consts.LZIP_MAGIC]; omega)]
    cases first with
    | true =>
      match k, hk4, hfk rfl with
      | 1, _, _ => exact Or.inl ⟨.invalidData, rfl⟩
      | 2, _, _ => exact Or.inl ⟨.invalidData, rfl⟩
      | 3, _, _ => exact Or.inl ⟨.invalidData, rfl⟩
    | false =>
      match k, hk4 with
      | 0, _ => exact Or.inr ⟨rfl, rfl, rfl⟩
      | 1, _ => exact Or.inl ⟨.eof, rfl⟩
      | 2, _ => exact Or.inl ⟨.eof, rfl⟩
      | 3, _ => exact Or.inl ⟨.eof, rfl⟩
  · obtain ⟨j, rfl⟩ : ∃ j, k = 4 + j := ⟨k - 4, by omega⟩
    rw [show 4 + j = Consts.LZIP_MAGIC.length + j from rfl, List.take_length_add_append, members_magic]
    match j with
    | 0 => exact Or.inl ⟨.eof, rfl⟩
    | 1 => exact Or.inl ⟨.eof, rfl⟩
    | j + 2 =>
      simp only [List.take_succ_cons]
      by_cases hj : j < lzma.length
      · have htk2 : (lzma ++ trailerBytes lzma data).take j = lzma.take j :=
          List.take_append_of_le_length (by omega)
        rw [htk2]
        obtain ⟨parse, hp⟩ := hp [] (cap - acc.length) (by omega)
        rw [List.append_nil] at hp
        have hno := decodeRaw_trunc hp j hj
        refine Or.inl ⟨.eof, ?_⟩
        simp only [afterMagic, ne_eq, not_true_eq_false, if_false, hd, hno]
      · obtain ⟨i, rfl⟩ : ∃ i, j = lzma.length + i := ⟨j - lzma.length, by omega⟩
        rw [List.take_length_add_append]
        obtain ⟨parse, hp⟩ := hp ((trailerBytes lzma data).take i) (cap - acc.length) (by omega)
        have hshort : ((trailerBytes lzma data).take i).length < 20 := by
          rw [List.length_take, trailerBytes_length]; omega
        refine Or.inl ⟨.eof, ?_⟩
        simp only [afterMagic, ne_eq, not_true_eq_false, if_false, hd, hp, List.drop_left, hshort, if_true]

theorem fileData_append (a b : List (Nat × List Nat × List Nat)) : fileData (a ++ b) = fileData a ++ fileData b := by
  simp [fileData]

/-- a cut of the file falls into exactly one member -/
theorem fileBytes_take : ∀ (ms : List (Nat × List Nat × List Nat)) (k : Nat), k < (fileBytes ms).length →
    ∃ pre m post i, ms = pre ++ m :: post ∧ i < m.2.1.length + 26 ∧ k = (fileBytes pre).length + i ∧
      (fileBytes ms).take k = fileBytes pre ++ (memberBytes m.1 m.2.1 m.2.2).take i
  | [], k, hk => by simp [fileBytes] at hk
  | m :: ms, k, hk => by
    have hL := memberBytes_length m.1 m.2.1 m.2.2
    rw [fileBytes_cons, List.length_append, hL] at hk
    by_cases hin : k < m.2.1.length + 26
    · exact ⟨[], m, ms, k, rfl, hin, by simp [fileBytes],
        by rw [fileBytes_cons, List.take_append_of_le_length (by omega)]; rfl⟩
    · obtain ⟨i, rfl⟩ : ∃ i, k = (memberBytes m.1 m.2.1 m.2.2).length + i := ⟨k - (m.2.1.length + 26), by omega⟩
      obtain ⟨pre, m', post, j, rfl, hj, rfl, ht⟩ := fileBytes_take ms i (by omega)
      exact ⟨m :: pre, m', post, j, rfl, hj, by rw [fileBytes_cons, List.length_append, Nat.add_assoc],
        by rw [fileBytes_cons, List.take_length_add_append, ht, fileBytes_cons, List.append_assoc]⟩

/-- **A truncated LZIP file is never decoded as the whole file**: an error, unless the cut lies exactly on a member boundary
    after `j ≥ 1` members; then the reader accepts exactly those `j < ms.length` members. -/
theorem lzip_trunc (ms : List (Nat × List Nat × List Nat)) (hm : ∀ m ∈ ms, MemberOk m)
    (cap : Nat) (hcap : (fileData ms).length ≤ cap)
    (k : Nat) (hk0 : 0 < k) (hk : k < (fileBytes ms).length) :
    (∃ e, decode ((fileBytes ms).take k) cap = .err e) ∨
    (∃ j, 0 < j ∧ j < ms.length ∧ (fileBytes (ms.take j)).length = k ∧
      decode ((fileBytes ms).take k) cap = .ok (fileData (ms.take j)) k (fileRecs (ms.take j))) := by
  obtain ⟨pre, m, post, i, rfl, hi, rfl, ht⟩ := fileBytes_take ms k hk
  rw [fileData_append, fileData_cons, List.length_append, List.length_append] at hcap
  have hlen : (fileBytes pre ++ (memberBytes m.1 m.2.1 m.2.2).take i).length = (fileBytes pre).length + i := by
    rw [List.length_append, List.length_take, memberBytes_length]; omega
  rw [ht, decode_members pre (fun x hx => hm x (List.mem_append_left _ hx)) _ cap (by omega), hlen]
  rcases members_cut_member _ pre.isEmpty m.1 m.2.1 m.2.2 ((fileBytes pre).length + i) (fileData pre) (fileRecs pre)
    cap i (hm m (by simp)) (by omega) hi
    (fun h => by rw [List.isEmpty_iff.mp h] at hk0; simpa [fileBytes] using hk0) with h | ⟨h1, rfl, h3⟩
  · exact .inl h
  · have hne : pre ≠ [] := fun h => by simp [h] at h1
    refine .inr ⟨pre.length, List.length_pos_iff.mpr hne, by simp, ?_, ?_⟩
    · rw [List.take_left' rfl, Nat.add_zero]
    · rw [List.take_left' rfl, h3]

/-- in particular: whatever a proper non-empty prefix decodes to, it is not the full member list -/
theorem lzip_trunc_not_full (ms : List (Nat × List Nat × List Nat)) (hm : ∀ m ∈ ms, MemberOk m)
    (cap : Nat) (hcap : (fileData ms).length ≤ cap)
    (k : Nat) (hk0 : 0 < k) (hk : k < (fileBytes ms).length) (data : List Nat) (c : Nat) (recs : List Member)
    (h : decode ((fileBytes ms).take k) cap = .ok data c recs) : recs.length < ms.length := by
  rcases lzip_trunc ms hm cap hcap k hk0 hk with ⟨e, he⟩ | ⟨j, _, hj, _, hres⟩
  · rw [he] at h; cases h
  · rw [hres] at h
    injection h with _ _ hr
    rw [← hr]
    simp only [fileRecs, List.length_reverse, List.length_map, List.length_take]
    omega

/-- … and a cut that is not exactly on an inner member boundary is always an error -/
theorem lzip_trunc_inside (ms : List (Nat × List Nat × List Nat)) (hm : ∀ m ∈ ms, MemberOk m)
    (cap : Nat) (hcap : (fileData ms).length ≤ cap)
    (k : Nat) (hk0 : 0 < k) (hk : k < (fileBytes ms).length)
    (hin : ∀ j, 0 < j → j < ms.length → (fileBytes (ms.take j)).length ≠ k) :
    ∃ e, decode ((fileBytes ms).take k) cap = .err e := by
  rcases lzip_trunc ms hm cap hcap k hk0 hk with h | ⟨j, hj0, hj, hlo, _⟩
  · exact h
  · exact absurd hlo (hin j hj0 hj)

/-- single member: every proper non-empty prefix is an error -/
theorem lzip_trunc_single (m : Nat × List Nat × List Nat) (hm : MemberOk m) (cap : Nat) (hcap : m.2.2.length ≤ cap)
    (k : Nat) (hk0 : 0 < k) (hk : k < (memberBytes m.1 m.2.1 m.2.2).length) :
    ∃ e, decode ((memberBytes m.1 m.2.1 m.2.2).take k) cap = .err e := by
  have hb : fileBytes [m] = memberBytes m.1 m.2.1 m.2.2 := by simp [fileBytes]
  have := lzip_trunc_inside [m] (by simpa using hm) cap (by simpa [fileData] using hcap) k hk0 (by rw [hb]; exact hk)
    (by intro j h0 h1; simp only [List.length_cons, List.length_nil] at h1; omega)
  rwa [hb] at this

theorem payloadOk_of_decodeRaw {dictBuf : Nat} {lzma data : List Nat} {parse : List Sym}
    (h : decodeRaw lzipParams dictBuf #[] none lzma data.length = .ok data.toArray lzma.length parse) :
    PayloadOk dictBuf lzma data :=
  fun rest _ hcap => ⟨parse, decodeRaw_ok_ext h rest hcap⟩

def _root_.LzmaVerif.Lzma.DecOut.okWith : DecOut → Array Nat → Nat → Bool
  | .ok o c _, o', c' => o == o' && c == c'
  | _, _, _ => false

theorem _root_.LzmaVerif.Lzma.DecOut.okWith_spec {o : DecOut} {d : Array Nat} {c : Nat} (h : o.okWith d c = true) :
    ∃ p, o = .ok d c p := by
  cases o with
  | ok d' c' p => simp [DecOut.okWith] at h; exact ⟨p, by rw [h.1, h.2]⟩
  | err e => cases h
  | capped => cases h

def _root_.LzmaVerif.Lzma.DecOut.isCapped : DecOut → Bool
  | .capped => true
  | _ => false

theorem _root_.LzmaVerif.Lzma.DecOut.isCapped_spec {o : DecOut} (h : o.isCapped = true) : o = .capped := by
  cases o with
  | capped => rfl
  | ok d c p => cases h
  | err e => cases h

/-- Both caps in one statement: unfolding and the common part of the run are checked once, about half the cost (in
    heartbeats) of two statements.  On sparse tables (`Proofs/ProgSparse.lean`). -/
theorem exLzma_runs : ((decodeRaw lzipParams 4096 #[] none exLzma 2).okWith #[72, 105] 12 &&
    (decodeRaw lzipParams 4096 #[] none exLzma 1).isCapped) = true := by
  unfold decodeRaw
  simp only [← Rc.Sparse.toArr_fresh, Prog.decRun_sparse]
  decide +kernel

/-- accepted under the smallest cap that admits the two data bytes; everything else about this stream follows from this by
    the theorems about the model -/
theorem exLzma_decodes : ∃ p, decodeRaw lzipParams 4096 #[] none exLzma 2 = .ok #[72, 105] 12 p :=
  DecOut.okWith_spec (Bool.and_eq_true_iff.mp exLzma_runs).1

theorem exLzma_capped1 : decodeRaw lzipParams 4096 #[] none exLzma 1 = .capped :=
  DecOut.isCapped_spec (Bool.and_eq_true_iff.mp exLzma_runs).2

theorem exLzma_payloadOk : PayloadOk 4096 exLzma [72, 105] :=
  let ⟨_, h⟩ := exLzma_decodes
  payloadOk_of_decodeRaw h

theorem exMember_ok : MemberOk (12, exLzma, [72, 105]) := exMember_ok_of exLzma_payloadOk

theorem members_capped_member (fuel : Nat) (first : Bool) (db : Nat) (lzma data rest : List Nat) (total : Nat)
    (acc : List Nat) (n : List Member) (cap : Nat) {dict : Nat} (hd : Lzip.decodeDict db = some dict)
    (hc : decodeRaw lzipParams (lzmaReaderDictBuf dict none 0) #[] none lzma (cap - acc.length) = .capped) :
    members (fuel + 1) first (memberBytes db lzma data ++ rest) total acc n cap = .capped := by
  rw [memberBytes_eq, List.append_assoc, List.cons_append, List.cons_append, List.append_assoc, members_magic]
  simp only [afterMagic, ne_eq, not_true_eq_false, if_false, hd, decodeRaw_capped_ext hc]

/-- the model accepts the example file with exactly the result `lzip_roundtrip` predicts … -/
theorem exFile_decodes : ∃ recs, decode exFile 4 = .ok [72, 105, 72, 105] 79 recs :=
  exFile_decodes_of exLzma_payloadOk

/-- … and the hypotheses of `decode_accept` are satisfiable with a non-empty member list -/
example : ∃ recs tail, recs ≠ [] ∧ exFile = reassemble recs.reverse ++ tail := by
  obtain ⟨recs, h⟩ := exFile_decodes
  have hl : Bytes exLzma := by unfold Bytes exLzma; decide
  have hb : Bytes exFile :=
    Bytes.append (Bytes.append (memberBytes_bytes _ _ _ (by decide) hl) (memberBytes_bytes _ _ _ (by decide) hl))
      (by unfold Bytes; decide)
  obtain ⟨_, tail, hin, _, _, hemp, _⟩ := decode_accept _ _ _ _ _ hb h
  exact ⟨recs, tail, fun hr => by have := hemp hr; simp [exFile, memberBytes] at this, hin⟩

#print axioms exLzma_decodes
#print axioms exLzma_capped1
#print axioms exFile_decodes

end LzmaVerif.LzipFile

