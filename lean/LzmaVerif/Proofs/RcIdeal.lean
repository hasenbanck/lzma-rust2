import Mathlib.Tactic.Ring
import Mathlib.Tactic.Linarith
/-! Ideal (unbounded) range encoder / decoder: nestedness and decoder simulation. -/
namespace LzmaVerif.Rc.Ideal

inductive Ev where
  | bit (p : Nat) (b : Bool)
  | direct (b : Bool)

structure St where
  L : Nat
  R : Nat
  k : Nat

def core (s : St) : Ev → St
  | .bit p b =>
    let bound := (s.R / 2^11) * p
    if b then { s with L := s.L + bound, R := s.R - bound } else { s with R := bound }
  | .direct b =>
    let r := s.R / 2
    if b then { s with L := s.L + r, R := r } else { s with R := r }

def norm (s : St) : St :=
  if s.R < 2^24 then { L := s.L * 256, R := s.R * 256, k := s.k + 1 } else s

def step (s : St) (e : Ev) : St := norm (core s e)

def run (s : St) : List Ev → St
  | [] => s
  | e :: es => run (step s e) es

def EvOk : Ev → Prop
  | .bit p _ => 31 ≤ p ∧ p ≤ 2017
  | .direct _ => True

/-- the range after a normalisation -/
def ROk (s : St) : Prop := 2^24 ≤ s.R ∧ s.R < 2^32

/-- how an event cuts a range `R` in two: the width of the lower part (the decoder's `bound`) and
    the width kept of the upper part (a direct bit drops one unit of an odd range) -/
def Ev.split (R : Nat) : Ev → Nat × Nat
  | .bit p _ => (R / 2^11 * p, R - R / 2^11 * p)
  | .direct _ => (R / 2, R / 2)

def evBit : Ev → Bool
  | .bit _ b => b
  | .direct b => b

theorem core_eq (s : St) (e : Ev) :
    core s e = if evBit e then { s with L := s.L + (e.split s.R).1, R := (e.split s.R).2 }
      else { s with R := (e.split s.R).1 } := by
  cases e <;> rfl

theorem split_spec (R : Nat) (e : Ev) (hR : 2^24 ≤ R) (he : EvOk e) :
    2^16 ≤ (e.split R).1 ∧ 2^16 ≤ (e.split R).2 ∧ (e.split R).1 + (e.split R).2 ≤ R := by
  cases e with
  | bit p b =>
    obtain ⟨hp1, hp2⟩ := he
    have hb1 : R / 2^11 * 31 ≤ R / 2^11 * p := Nat.mul_le_mul_left _ hp1
    have hb2 : R / 2^11 * p ≤ R / 2^11 * 2017 := Nat.mul_le_mul_left _ hp2
    simp only [Ev.split]
    omega
  | direct b =>
    simp only [Ev.split]
    omega

/-- the sub-interval property, stated without subtraction -/
theorem core_nested (s : St) (e : Ev) (h : ROk s) (he : EvOk e) :
    s.L ≤ (core s e).L ∧ (core s e).L + (core s e).R ≤ s.L + s.R ∧ (core s e).k = s.k := by
  obtain ⟨_, _, h3⟩ := split_spec s.R e h.1 he
  rw [core_eq]
  split
  · exact ⟨by simp only; omega, by simp only; omega, rfl⟩
  · exact ⟨Nat.le_refl _, by simp only; omega, rfl⟩

theorem core_R_pos (s : St) (e : Ev) (h : ROk s) (he : EvOk e) :
    2^16 ≤ (core s e).R ∧ (core s e).R < 2^32 := by
  obtain ⟨h1, h2, _⟩ := split_spec s.R e h.1 he
  obtain ⟨_, hn, _⟩ := core_nested s e h he
  have := h.2
  refine ⟨?_, by omega⟩
  rw [core_eq]
  split
  · exact h2
  · exact h1

theorem norm_cases (c : St) :
    (c.R < 2^24 ∧ norm c = { L := c.L * 256, R := c.R * 256, k := c.k + 1 }) ∨
    (¬ c.R < 2^24 ∧ norm c = c) := by
  unfold norm
  by_cases h : c.R < 2^24
  · exact Or.inl ⟨h, if_pos h⟩
  · exact Or.inr ⟨h, if_neg h⟩

/-- pre-normalisation states: range may be as small as 2^16 -/
def PreOk (c : St) : Prop := 2^16 ≤ c.R ∧ c.R < 2^32

theorem norm_ROk (c : St) (h : PreOk c) : ROk (norm c) := by
  obtain ⟨h1, h2⟩ := h
  rcases norm_cases c with ⟨hlt, hn⟩ | ⟨hlt, hn⟩ <;> rw [hn] <;> unfold ROk
  · simp only; omega
  · omega

theorem step_ROk (s : St) (e : Ev) (h : ROk s) (he : EvOk e) : ROk (step s e) :=
  norm_ROk _ (core_R_pos s e h he)

/-- the low of `T` lies in the interval of the earlier state `s`, scaled by the shifts in between -/
def Within (s T : St) : Prop :=
  s.k ≤ T.k ∧ s.L * 256 ^ (T.k - s.k) ≤ T.L ∧ T.L < (s.L + s.R) * 256 ^ (T.k - s.k)

theorem Within.mono {s s' T : St} (h : Within s' T) (hk : s'.k = s.k) (hL : s.L ≤ s'.L)
    (hR : s'.L + s'.R ≤ s.L + s.R) : Within s T := by
  obtain ⟨h1, h2, h3⟩ := h
  rw [hk] at h1 h2 h3
  exact ⟨h1, Nat.le_trans (Nat.mul_le_mul_right _ hL) h2,
    Nat.lt_of_lt_of_le h3 (Nat.mul_le_mul_right _ hR)⟩

/-- a normalisation scales the interval and counts one shift: nothing changes for later states -/
theorem Within.of_norm {c T : St} (h : Within (norm c) T) : Within c T := by
  rcases norm_cases c with ⟨_, hn⟩ | ⟨_, hn⟩
  · rw [hn] at h
    obtain ⟨h1, h2, h3⟩ := h
    simp only at h1 h2 h3
    have hk : T.k - c.k = (T.k - (c.k + 1)) + 1 := by omega
    unfold Within
    rw [hk, Nat.pow_succ, Nat.mul_comm _ 256, ← Nat.mul_assoc, ← Nat.mul_assoc, Nat.add_mul]
    exact ⟨by omega, h2, h3⟩
  · rw [hn] at h
    exact h

theorem run_nested (es : List Ev) : ∀ (s : St), ROk s → (∀ e ∈ es, EvOk e) →
    s.k ≤ (run s es).k ∧
    s.L * 256 ^ ((run s es).k - s.k) ≤ (run s es).L ∧
    (run s es).L < (s.L + s.R) * 256 ^ ((run s es).k - s.k) := by
  induction es with
  | nil =>
    intro s h _
    simp only [run, Nat.sub_self, Nat.pow_zero, Nat.mul_one]
    obtain ⟨h1, _⟩ := h
    refine ⟨Nat.le_refl _, Nat.le_refl _, ?_⟩; omega
  | cons e es ih =>
    intro s h hall
    have he : EvOk e := hall e (by simp)
    have ih' : Within (step s e) (run (step s e) es) :=
      ih (step s e) (step_ROk s e h he) (fun e' h' => hall e' (by simp [h']))
    obtain ⟨cn1, cn2, cn3⟩ := core_nested s e h he
    exact ih'.of_norm.mono cn3 cn1 cn2

/-- ideal decoder: reads digits of the final number `F` that has `K` shifts in total -/
structure Dec where
  range : Nat
  code : Nat
  k : Nat

def digit (F K k : Nat) : Nat := (F / 256 ^ (K - k - 1)) % 256

def dnorm (F K : Nat) (d : Dec) : Dec :=
  if d.range < 2^24 then { range := d.range * 256, code := d.code * 256 + digit F K d.k, k := d.k + 1 } else d

def dstep (F K : Nat) (d0 : Dec) : Ev → Bool × Dec
  | .bit p _ =>
    let d := dnorm F K d0
    let bound := (d.range / 2^11) * p
    if d.code < bound then (false, { d with range := bound })
    else (true, { d with range := d.range - bound, code := d.code - bound })
  | .direct _ =>
    let d := dnorm F K d0
    let r := d.range / 2
    if d.code < r then (false, { d with range := r })
    else (true, { d with range := r, code := d.code - r })

theorem dstep_eq (F K : Nat) (d : Dec) (e : Ev) :
    dstep F K d e =
      if (dnorm F K d).code < (e.split (dnorm F K d).range).1 then
        (false, { dnorm F K d with range := (e.split (dnorm F K d).range).1 })
      else (true, { dnorm F K d with range := (e.split (dnorm F K d).range).2,
                                     code := (dnorm F K d).code - (e.split (dnorm F K d).range).1 }) := by
  cases e <;> rfl

/-- decoder state `d` is in step with the encoder's pre-normalisation state `c` -/
def Sim (F K : Nat) (c : St) (d : Dec) : Prop :=
  d.range = c.R ∧ d.k = c.k ∧ c.k ≤ K ∧ d.code + c.L = F / 256 ^ (K - c.k)

theorem pre_nested (c : St) (es : List Ev) (h : PreOk c) (hall : ∀ e ∈ es, EvOk e) :
    Within c (run (norm c) es) :=
  Within.of_norm (run_nested es (norm c) (norm_ROk c h) hall)

theorem floor_between (F L R M : Nat) (hM : 0 < M) (h1 : L * M ≤ F) (h2 : F < (L + R) * M) :
    L ≤ F / M ∧ F / M < L + R :=
  ⟨(Nat.le_div_iff_mul_le hM).mpr h1, (Nat.div_lt_iff_lt_mul hM).mpr h2⟩

theorem digit_spec (F K k : Nat) (h : k + 1 ≤ K) :
    F / 256 ^ (K - (k + 1)) = (F / 256 ^ (K - k)) * 256 + digit F K k := by
  unfold digit
  have e : K - k = (K - k - 1) + 1 := by omega
  have e2 : K - (k + 1) = K - k - 1 := by omega
  rw [e2]
  generalize K - k - 1 = m at *
  rw [e, Nat.pow_succ, ← Nat.div_div_eq_div_mul]
  have := Nat.div_add_mod (F / 256 ^ m) 256
  omega

theorem dnorm_sim (F K : Nat) (c : St) (d : Dec) (h : Sim F K c d) (hk : (norm c).k ≤ K) :
    Sim F K (norm c) (dnorm F K d) := by
  obtain ⟨hr, hk', hkK, hc⟩ := h
  rcases norm_cases c with ⟨hlt, hn⟩ | ⟨hlt, hn⟩
  · rw [hn] at hk ⊢
    simp only at hk
    have hd : d.range < 2^24 := by omega
    simp only [dnorm, hd, if_true, Sim]
    refine ⟨by omega, by omega, hk, ?_⟩
    rw [digit_spec F K c.k hk, ← hc, hk']
    ring
  · rw [hn]
    have hd : ¬ d.range < 2^24 := by omega
    simp only [dnorm, hd, if_false]
    exact ⟨hr, hk', hkK, hc⟩

/-- one event: the decoder returns the encoded bit and stays in step -/
theorem dstep_sim (c : St) (d : Dec) (e : Ev) (es : List Ev)
    (hc : PreOk c) (he : EvOk e) (hall : ∀ e' ∈ es, EvOk e')
    (F K : Nat) (hF : F = (run (norm c) (e :: es)).L) (hK : K = (run (norm c) (e :: es)).k)
    (hs : Sim F K c d) :
    (dstep F K d e).1 = evBit e ∧ Sim F K (core (norm c) e) (dstep F K d e).2 := by
  have hn := norm_ROk c hc
  -- the final low lies in the interval the encoder chose for `e`
  obtain ⟨nk, nlo, nhi⟩ := pre_nested (core (norm c) e) es (core_R_pos (norm c) e hn he) hall
  simp only [run, step] at hF hK
  rw [← hK] at nk nlo nhi
  rw [← hF] at nlo nhi
  obtain ⟨_, _, cn3⟩ := core_nested (norm c) e hn he
  obtain ⟨sr, sk, skK, sc⟩ := dnorm_sim F K c d hs (by omega)
  obtain ⟨fl, fh⟩ := floor_between F _ _ _ (Nat.pow_pos (by decide)) nlo nhi
  rw [cn3] at fl fh nk
  rw [dstep_eq, sr]
  rw [core_eq] at fl fh ⊢
  generalize (e.split (norm c).R).1 = bound at *
  generalize evBit e = b at *
  cases b
  · simp only [Bool.false_eq_true, if_false] at fl fh ⊢
    rw [if_pos (by omega)]
    exact ⟨rfl, rfl, sk, skK, sc⟩
  · simp only [if_true] at fl fh ⊢
    rw [if_neg (by omega)]
    exact ⟨rfl, rfl, sk, skK, by simp only; omega⟩

end LzmaVerif.Rc.Ideal
