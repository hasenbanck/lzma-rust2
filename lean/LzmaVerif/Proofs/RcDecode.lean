import LzmaVerif.Proofs.RcEnc
import LzmaVerif.Proofs.RcIdeal
/-!
The real decoder (reading a `List Nat`) refines the ideal decoder (reading base-256 digits of the
number `F` written by the encoder).
-/
namespace LzmaVerif.Rc
open Ideal

theorem num_split_digit (pre post : List Nat) (b : Nat) (hb : b < 256)
    (hpost : ∀ x ∈ post, x < 256) :
    (num (pre ++ b :: post) / 256 ^ post.length) % 256 = b := by
  rw [num_append]
  simp only [num, List.length_cons]
  have hlt := num_lt post hpost
  rw [pow_succ 256 post.length]
  generalize 256 ^ post.length = A at *
  have e : num pre * (A * 256) + (b * A + num post) = num post + (num pre * 256 + b) * A := by ring
  have hA : 0 < A := by omega
  rw [e, Nat.add_mul_div_right _ _ hA, Nat.div_eq_of_lt hlt, Nat.zero_add]
  omega

theorem split_at (bytes : List Nat) (n : Nat) (h : n < bytes.length) :
    ∃ pre b post, bytes = pre ++ b :: post ∧ pre.length = n ∧ post.length = bytes.length - n - 1 := by
  refine ⟨bytes.take n, bytes[n], bytes.drop (n + 1), ?_, ?_, ?_⟩
  · rw [← List.drop_eq_getElem_cons h, List.take_append_drop]
  · rw [List.length_take]; omega
  · rw [List.length_drop]; omega

theorem digit_lt (F K k : Nat) : digit F K k < 256 := by
  unfold digit; exact Nat.mod_lt _ (by decide)

/-- `decode_direct_bits` decides by the sign of the wrapped difference; on a state with
    `code < range < 2^32` that is the comparison of `code` with half the range -/
theorem decodeDirect1_eq (d : Rc.Dec) (hc : d.normalize.code < d.normalize.range)
    (hr : d.normalize.range < 2^32) :
    d.decodeDirect1 =
      if d.normalize.code < d.normalize.range / 2 then
        (false, { d.normalize with range := d.normalize.range / 2 })
      else (true, { d.normalize with range := d.normalize.range / 2,
                                     code := d.normalize.code - d.normalize.range / 2 }) := by
  unfold Dec.decodeDirect1
  generalize d.normalize = n at *
  dsimp only
  by_cases hlt : n.code < n.range / 2
  · have h : n.code + 2^32 - n.range / 2 < 2^32 ∧ 2^31 ≤ n.code + 2^32 - n.range / 2 := by omega
    rw [if_pos hlt, Nat.mod_eq_of_lt h.1, if_pos h.2]
  · have h : n.code + 2^32 - n.range / 2 = (n.code - n.range / 2) + 2^32 ∧
        n.code - n.range / 2 < 2^31 := by omega
    rw [if_neg hlt, h.1, Nat.add_mod_right, Nat.mod_eq_of_lt (Nat.lt_trans h.2 (by decide)),
      if_neg (Nat.not_le.2 h.2)]

def decodeEv (d : Rc.Dec) : Ev → Bool × Rc.Dec
  | .bit p _ => d.decodeBitP p
  | .direct _ => d.decodeDirect1

theorem decodeEv_eq (d : Rc.Dec) (e : Ev) (hc : d.normalize.code < d.normalize.range)
    (hr : d.normalize.range < 2^32) :
    decodeEv d e =
      if d.normalize.code < (e.split d.normalize.range).1 then
        (false, { d.normalize with range := (e.split d.normalize.range).1 })
      else (true, { d.normalize with range := (e.split d.normalize.range).2,
                                     code := d.normalize.code - (e.split d.normalize.range).1 }) := by
  cases e with
  | bit p b => rfl
  | direct b => exact decodeDirect1_eq d hc hr

structure DR (bytes rest : List Nat) (d : Rc.Dec) (i : Ideal.Dec) : Prop where
  range : d.range = i.range
  code : d.code = i.code
  inp : d.inp = (bytes ++ rest).drop (5 + i.k)
  over : d.over = 0

theorem init_some (b1 b2 b3 b4 : Nat) (rest : List Nat) :
    Dec.init (0 :: b1 :: b2 :: b3 :: b4 :: rest)
      = some { range := 0xFFFFFFFF, code := ((b1 * 256 + b2) * 256 + b3) * 256 + b4, inp := rest, over := 0 } := by
  simp [Dec.init]

theorem init_inv {inp : List Nat} {d0 : Rc.Dec} (h : Dec.init inp = some d0) :
    ∃ b1 b2 b3 b4 rest, inp = 0 :: b1 :: b2 :: b3 :: b4 :: rest ∧
      d0 = { range := 0xFFFFFFFF, code := ((b1 * 256 + b2) * 256 + b3) * 256 + b4, inp := rest, over := 0 } := by
  rcases inp with _ | ⟨b0, _ | ⟨b1, _ | ⟨b2, _ | ⟨b3, _ | ⟨b4, rest⟩⟩⟩⟩⟩
  all_goals (try (simp [Dec.init] at h))
  obtain ⟨h0, h1⟩ := h
  subst h0
  exact ⟨b1, b2, b3, b4, rest, rfl, h1.symm⟩

section Bytes
/- the encoder's bytes: `K + 5` of them, followed by `rest` -/
variable (bytes rest : List Nat) (K : Nat) (hlen : bytes.length = K + 5) (hb : ∀ x ∈ bytes, x < 256)
include hlen hb

theorem drop_digit (k : Nat) (hk : k < K) :
    (bytes ++ rest).drop (5 + k) = digit (num bytes) K k :: (bytes ++ rest).drop (5 + (k + 1)) := by
  obtain ⟨pre, b, post, rfl, hpre, hpost⟩ := split_at bytes (5 + k) (by omega)
  have hd : digit (num (pre ++ b :: post)) K k = b := by
    unfold digit
    rw [show K - k - 1 = post.length by omega]
    exact num_split_digit pre post b (hb b (by simp)) (fun x hx => hb x (by simp [hx]))
  rw [hd, ← Nat.add_assoc, ← hpre, List.append_assoc, ← List.drop_drop, List.drop_left]
  rfl

theorem init_spec (hF : num bytes < 256 ^ (K + 4)) :
    ∃ d0, Dec.init (bytes ++ rest) = some d0 ∧ d0.range = 0xFFFFFFFF ∧
      d0.code = num bytes / 256 ^ K ∧ d0.inp = (bytes ++ rest).drop 5 ∧ d0.over = 0 ∧
      bytes.head? = some 0 := by
  rcases bytes with _ | ⟨b0, _ | ⟨b1, _ | ⟨b2, _ | ⟨b3, _ | ⟨b4, tl⟩⟩⟩⟩⟩ <;> cases hlen
  generalize hl : tl.length = K at hF ⊢
  have htl : num tl < 256 ^ K := by
    rw [← hl]; exact num_lt tl (fun x hx => hb x (by simp [hx]))
  have hnum : num (b0 :: b1 :: b2 :: b3 :: b4 :: tl)
      = num tl + (b0 * 256^4 + (((b1 * 256 + b2) * 256 + b3) * 256 + b4)) * 256 ^ K := by
    simp only [num, List.length_cons, hl, pow_succ]
    ring
  have hA : 0 < 256 ^ K := Nat.pow_pos (by decide)
  have h0 : b0 = 0 := by
    by_contra h
    have : 256 ^ 4 * 256 ^ K ≤ (b0 * 256^4 + (((b1 * 256 + b2) * 256 + b3) * 256 + b4)) * 256 ^ K :=
      Nat.mul_le_mul_right _ (by omega)
    rw [hnum, pow_add] at hF
    omega
  subst h0
  refine ⟨{ range := 0xFFFFFFFF, code := ((b1 * 256 + b2) * 256 + b3) * 256 + b4,
            inp := tl ++ rest, over := 0 }, ?_, rfl, ?_, ?_, rfl, rfl⟩
  · simp [Dec.init]
  · simp only
    rw [hnum, Nat.add_mul_div_right _ _ hA, Nat.div_eq_of_lt htl]
    omega
  · simp

theorem normalize_dr (d : Rc.Dec) (i : Ideal.Dec) (h : DR bytes rest d i)
    (hcode : i.code < i.range) (hk : i.range < 2^24 → i.k < K) :
    DR bytes rest d.normalize (dnorm (num bytes) K i) := by
  obtain ⟨hr, hc, hi, ho⟩ := h
  obtain ⟨dr, dc, di, dov⟩ := d
  simp only at hr hc hi ho
  subst hr hc ho
  by_cases hlt : i.range < 2^24
  · have hd := drop_digit bytes rest K hlen hb i.k (hk hlt)
    rw [hd] at hi
    subst hi
    have hdl := digit_lt (num bytes) K i.k
    unfold Dec.normalize dnorm
    rw [if_pos hlt, if_pos hlt]
    refine ⟨rfl, ?_, rfl, rfl⟩
    show (i.code * 256 + digit (num bytes) K i.k) % 2^32 = i.code * 256 + digit (num bytes) K i.k
    apply Nat.mod_eq_of_lt
    omega
  · unfold Dec.normalize dnorm
    rw [if_neg hlt, if_neg hlt]
    exact ⟨rfl, rfl, hi, rfl⟩

theorem decodeEv_dr (d : Rc.Dec) (i : Ideal.Dec) (h : DR bytes rest d i)
    (hcode : i.code < i.range) (hk : i.range < 2^24 → i.k < K) (e : Ev)
    (hcode1 : (dnorm (num bytes) K i).code < (dnorm (num bytes) K i).range)
    (hr1 : (dnorm (num bytes) K i).range < 2^32) :
    (decodeEv d e).1 = (dstep (num bytes) K i e).1 ∧
    DR bytes rest (decodeEv d e).2 (dstep (num bytes) K i e).2 := by
  obtain ⟨hr, hc, hi, ho⟩ := normalize_dr bytes rest K hlen hb d i h hcode hk
  rw [decodeEv_eq d e (by rw [hr, hc]; exact hcode1) (by rw [hr]; exact hr1), dstep_eq, hr, hc]
  split
  · exact ⟨rfl, rfl, hc, hi, ho⟩
  · exact ⟨rfl, rfl, rfl, hi, ho⟩

end Bytes

end LzmaVerif.Rc
