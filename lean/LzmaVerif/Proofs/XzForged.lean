import LzmaVerif.Proofs.Xz
import LzmaVerif.Model.XzStrict
/-!
# The reader compares the Index and the footer with the blocks it decoded (C04)

The reader records the sizes of every block it decodes (`finish_block_record`) and requires the Index to list exactly
these records and the footer's Backward Size to be the size of the Index (`parse_index_and_footer`).  The consequences
here hold for every written stream.
-/
namespace LzmaVerif.Xz
open LzmaVerif Lzma Checks

theorem decode_forged (multi : Bool) (c : Check) (fs : List Filter) (hfs : FiltersOk fs)
    (blocks : List (List Nat × List Nat))
    (hb : ∀ b ∈ blocks, PayloadOk (readerDict fs) b.1 (applyFilters fs b.2) ∧ unfilter fs (applyFilters fs b.2) = b.2)
    (rs : List (Nat × Nat)) (hn : rs.length < 2 ^ 63) (hrs : ∀ x ∈ rs, RecOk x)
    (n : Nat) (cap : Nat) (hcap : ((blocks.map (·.2)).flatten).length ≤ cap) :
    Xz.decode multi (forgedStream c fs blocks rs n) cap
      = if rs ≠ recsOf c fs blocks then .err .invalidData
        else if (ofLe (le 4 (n / 4 - 1)) + 1) * 4 ≠ (indexBytes rs).length then .err .invalidData
        else .ok (blocks.map (·.2)).flatten (forgedStream c fs blocks rs n).length (blocks.map (blkOf fs)).reverse := by
  have h := (readBlocks_walks multi).decode_forged c fs hfs blocks (fun b hbm => blockOk_of fs b (hb b hbm)) rs hn hrs
    n [] cap hcap
  rw [List.append_nil, if_neg (not_not_intro (rfl : true = true)), afterStream_nil] at h
  exact h

/-- **Forged Index.**  Take any written stream and put ANY other list of (representable) records into its Index,
with the Index CRC recomputed, and any Backward Size: the reader rejects the file. -/
theorem reader_rejects_forged_index (multi : Bool) (c : Check) (fs : List Filter) (hfs : FiltersOk fs)
    (blocks : List (List Nat × List Nat))
    (hb : ∀ b ∈ blocks, PayloadOk (readerDict fs) b.1 (applyFilters fs b.2) ∧ unfilter fs (applyFilters fs b.2) = b.2)
    (rs : List (Nat × Nat)) (hn : rs.length < 2 ^ 63) (hrs : ∀ x ∈ rs, RecOk x) (hne : rs ≠ recsOf c fs blocks)
    (n : Nat) (cap : Nat) (hcap : ((blocks.map (·.2)).flatten).length ≤ cap) :
    Xz.decode multi (forgedStream c fs blocks rs n) cap = .err .invalidData := by
  rw [decode_forged multi c fs hfs blocks hb rs hn hrs n cap hcap, if_pos hne]

/-- **Forged Backward Size.**  The right Index, but a footer (CRC recomputed) that announces any other valid
Index size `n` (a multiple of four between 4 and 2^34): rejected. -/
theorem reader_rejects_wrong_backward_size (multi : Bool) (c : Check) (fs : List Filter) (hfs : FiltersOk fs)
    (blocks : List (List Nat × List Nat))
    (hb : ∀ b ∈ blocks, PayloadOk (readerDict fs) b.1 (applyFilters fs b.2) ∧ unfilter fs (applyFilters fs b.2) = b.2)
    (hsz : SizesOk63 c fs blocks)
    (n : Nat) (hn4 : n % 4 = 0) (hge : 4 ≤ n) (hle : n ≤ 2 ^ 34) (hne : n ≠ (indexBytes (recsOf c fs blocks)).length)
    (cap : Nat) (hcap : ((blocks.map (·.2)).flatten).length ≤ cap) :
    Xz.decode multi (forgedStream c fs blocks (recsOf c fs blocks) n) cap = .err .invalidData := by
  obtain ⟨r1, r2⟩ := recsOf_ok c fs blocks hsz
  rw [decode_forged multi c fs hfs blocks hb _ (by rw [r1]; exact hsz.1) r2 n cap hcap,
    if_neg (not_not_intro rfl), (backward_size_iff n hn4 hge).mpr hle, if_pos hne]

theorem blocksBytes_append (c : Check) (fs : List Filter) (xs ys : List (List Nat × List Nat)) :
    blocksBytes c fs (xs ++ ys) = blocksBytes c fs xs ++ blocksBytes c fs ys := by
  simp [blocksBytes]

theorem recsOf_append (c : Check) (fs : List Filter) (xs ys : List (List Nat × List Nat)) :
    recsOf c fs (xs ++ ys) = recsOf c fs xs ++ recsOf c fs ys := by
  simp [recsOf]

theorem streamBytes_split (c : Check) (fs : List Filter) (pre post : List (List Nat × List Nat))
    (b₁ b₂ : List Nat × List Nat) :
    streamBytes c fs (pre ++ b₁ :: b₂ :: post)
      = streamHeaderBytes c ++ (blocksBytes c fs pre ++ ((blockBytes c fs b₁.1 b₁.2).1 ++ ((blockBytes c fs b₂.1 b₂.2).1 ++
          (blocksBytes c fs post ++ (indexBytes (recsOf c fs (pre ++ b₁ :: b₂ :: post)) ++
            footerBytes c (indexBytes (recsOf c fs (pre ++ b₁ :: b₂ :: post))).length))))) := by
  rw [streamBytes_eq]
  simp only [streamBody, blocksBytes_append, blocksBytes_cons, List.append_assoc]

/-- the same file with the byte ranges of the two adjacent blocks `b₁`, `b₂` exchanged (everything else, in
particular the Index and the footer, untouched) -/
def swappedStream (c : Check) (fs : List Filter) (pre post : List (List Nat × List Nat))
    (b₁ b₂ : List Nat × List Nat) : List Nat :=
  streamHeaderBytes c ++ (blocksBytes c fs pre ++ ((blockBytes c fs b₂.1 b₂.2).1 ++ ((blockBytes c fs b₁.1 b₁.2).1 ++
    (blocksBytes c fs post ++ (indexBytes (recsOf c fs (pre ++ b₁ :: b₂ :: post)) ++
      footerBytes c (indexBytes (recsOf c fs (pre ++ b₁ :: b₂ :: post))).length)))))

theorem swappedStream_eq (c : Check) (fs : List Filter) (pre post : List (List Nat × List Nat))
    (b₁ b₂ : List Nat × List Nat) :
    swappedStream c fs pre post b₁ b₂
      = forgedStream c fs (pre ++ b₂ :: b₁ :: post) (recsOf c fs (pre ++ b₁ :: b₂ :: post))
          (indexBytes (recsOf c fs (pre ++ b₁ :: b₂ :: post))).length := by
  simp only [swappedStream, forgedStream, blocksBytes_append, blocksBytes_cons, List.append_assoc, List.append_nil]

theorem swap_perm {α : Type} (pre post : List α) (a b : α) : (pre ++ b :: a :: post).Perm (pre ++ a :: b :: post) :=
  (List.Perm.swap a b post).append_left pre

theorem mem_swap {α : Type} (pre post : List α) (a b x : α) :
    x ∈ pre ++ b :: a :: post ↔ x ∈ pre ++ a :: b :: post :=
  (swap_perm pre post a b).mem_iff

theorem swap_data_length (pre post : List (List Nat × List Nat)) (b₁ b₂ : List Nat × List Nat) :
    (((pre ++ b₂ :: b₁ :: post).map (·.2)).flatten).length = (((pre ++ b₁ :: b₂ :: post).map (·.2)).flatten).length :=
  ((swap_perm pre post b₁ b₂).map _).flatten.length_eq

/-- **C04: swapped blocks are detected.**  Exchanging two adjacent blocks of a written stream whose compressed
sizes or uncompressed sizes differ makes the reader fail (in both modes, whatever the rest of the stream is). -/
theorem block_swap_detected (multi : Bool) (c : Check) (fs : List Filter) (hfs : FiltersOk fs)
    (pre post : List (List Nat × List Nat)) (b₁ b₂ : List Nat × List Nat)
    (hb : ∀ b ∈ pre ++ b₁ :: b₂ :: post,
      PayloadOk (readerDict fs) b.1 (applyFilters fs b.2) ∧ unfilter fs (applyFilters fs b.2) = b.2)
    (hsz : SizesOk63 c fs (pre ++ b₁ :: b₂ :: post))
    (hne : b₁.1.length ≠ b₂.1.length ∨ b₁.2.length ≠ b₂.2.length)
    (cap : Nat) (hcap : (((pre ++ b₁ :: b₂ :: post).map (·.2)).flatten).length ≤ cap) :
    Xz.decode multi (swappedStream c fs pre post b₁ b₂) cap = .err .invalidData := by
  obtain ⟨r1, r2⟩ := recsOf_ok c fs _ hsz
  rw [swappedStream_eq]
  apply reader_rejects_forged_index multi c fs hfs _ (fun b hbm => hb b ((mem_swap pre post b₁ b₂ b).mp hbm))
    _ (by rw [r1]; exact hsz.1) r2 _ _ cap (by rw [swap_data_length]; exact hcap)
  intro h
  simp only [recsOf_append, recsOf_cons, blockBytes_snd] at h
  have h := List.append_cancel_left h
  injection h with h1 h2
  injection h1 with h3 h4
  rcases hne with hne | hne
  · omega
  · exact hne h4

/-- **The residual (a limitation of the format, not of the reader).**  Two adjacent blocks with the same
compressed size and the same uncompressed size have the same Index record, so the file with the two blocks
exchanged IS the stream the writer emits for the exchanged data, and it is accepted as such: XZ has a check per
block and none over the whole stream. -/
theorem block_swap_same_sizes_accepted (c : Check) (fs : List Filter) (hfs : FiltersOk fs)
    (pre post : List (List Nat × List Nat)) (b₁ b₂ : List Nat × List Nat)
    (hb : ∀ b ∈ pre ++ b₁ :: b₂ :: post,
      PayloadOk (readerDict fs) b.1 (applyFilters fs b.2) ∧ unfilter fs (applyFilters fs b.2) = b.2)
    (hsz : SizesOk c fs (pre ++ b₁ :: b₂ :: post))
    (heq : b₁.1.length = b₂.1.length ∧ b₁.2.length = b₂.2.length)
    (rest : List Nat) (cap : Nat) (hcap : (((pre ++ b₁ :: b₂ :: post).map (·.2)).flatten).length ≤ cap) :
    swappedStream c fs pre post b₁ b₂ = streamBytes c fs (pre ++ b₂ :: b₁ :: post) ∧
    Xz.decode false (swappedStream c fs pre post b₁ b₂ ++ rest) cap
      = .ok ((pre ++ b₂ :: b₁ :: post).map (·.2)).flatten (swappedStream c fs pre post b₁ b₂).length
          ((pre ++ b₂ :: b₁ :: post).map (blkOf fs)).reverse := by
  have hrec : recsOf c fs (pre ++ b₂ :: b₁ :: post) = recsOf c fs (pre ++ b₁ :: b₂ :: post) := by
    simp only [recsOf_append, recsOf_cons, blockBytes_snd, heq.1, heq.2]
  have hs : swappedStream c fs pre post b₁ b₂ = streamBytes c fs (pre ++ b₂ :: b₁ :: post) := by
    rw [streamBytes_split, hrec]; rfl
  have hsz' : SizesOk c fs (pre ++ b₂ :: b₁ :: post) := by
    obtain ⟨⟨h1, h2⟩, h3⟩ := hsz
    refine ⟨⟨?_, fun b hbm => h2 b ((mem_swap pre post b₁ b₂ b).mp hbm)⟩, ?_⟩
    · rwa [(swap_perm pre post b₁ b₂).length_eq]
    · unfold IndexFits at h3 ⊢; rw [hrec]; exact h3
  refine ⟨hs, ?_⟩
  rw [hs]
  exact xz_roundtrip_blocks c fs hfs _ (fun b hbm => hb b ((mem_swap pre post b₁ b₂ b).mp hbm)) hsz' rest cap
    (by rw [swap_data_length]; exact hcap)

theorem small_blocks_hyps (c : Check) (blocks : List (List Nat × List Nat))
    (h : ∀ b ∈ blocks, ∃ raw, 1 ≤ raw.length ∧ raw.length ≤ 65536 ∧
      b = (1 :: (raw.length - 1) / 256 :: (raw.length - 1) % 256 :: (raw ++ [0]), raw))
    (hn : blocks.length ≤ 2 ^ 29) :
    (∀ b ∈ blocks, PayloadOk (readerDict [.lzma2 4096]) b.1 (applyFilters [.lzma2 4096] b.2) ∧
      unfilter [.lzma2 4096] (applyFilters [.lzma2 4096] b.2) = b.2) ∧ SizesOk c [.lzma2 4096] blocks := by
  refine ⟨?_, sizesOk_of_blocks _ _ _ (sizesOk63_small c _ (by decide) blocks (by omega) ?_) hn⟩
  · intro b hb
    obtain ⟨raw, h1, h2, rfl⟩ := h b hb
    exact stored_block_ok raw h1 h2
  · intro b hb
    obtain ⟨raw, h1, h2, rfl⟩ := h b hb
    simp only [List.length_cons, List.length_append, List.length_nil]
    omega

/-- `block_swap_detected` instantiated: a 1-byte block and a 2-byte block (any bytes), swapped — an error -/
example (multi : Bool) (x y z : Nat) :
    Xz.decode multi (swappedStream .crc32 [.lzma2 4096] [] [] ([1, 0, 0, x, 0], [x]) ([1, 0, 1, y, z, 0], [y, z])) 3
      = .err .invalidData := by
  obtain ⟨hb, hsz⟩ := small_blocks_hyps .crc32 [([1, 0, 0, x, 0], [x]), ([1, 0, 1, y, z, 0], [y, z])]
    (by
      intro b hb
      simp only [List.mem_cons, List.not_mem_nil, or_false] at hb
      rcases hb with rfl | rfl
      · exact ⟨[x], by simp, by simp, by simp⟩
      · exact ⟨[y, z], by simp, by simp, by simp⟩) (by simp)
  exact block_swap_detected multi .crc32 [.lzma2 4096] (by decide) [] [] _ _ hb hsz.1 (Or.inl (by simp)) 3 (by simp)

/-- `block_swap_same_sizes_accepted` instantiated: two 1-byte blocks swapped — accepted, with the swapped data -/
example (x y : Nat) (rest : List Nat) :
    Xz.decode false (swappedStream .crc32 [.lzma2 4096] [] [] ([1, 0, 0, x, 0], [x]) ([1, 0, 0, y, 0], [y]) ++ rest) 2
      = .ok [y, x] (swappedStream .crc32 [.lzma2 4096] [] [] ([1, 0, 0, x, 0], [x]) ([1, 0, 0, y, 0], [y])).length
          [blkOf [.lzma2 4096] ([1, 0, 0, x, 0], [x]), blkOf [.lzma2 4096] ([1, 0, 0, y, 0], [y])] := by
  have hsz : SizesOk .crc32 [.lzma2 4096] [([1, 0, 0, x, 0], [x]), ([1, 0, 0, y, 0], [y])] :=
    sizesOk_of_blocks _ _ _ (sizesOk63_small _ _ (by decide) _ (by simp) (by simp)) (by simp)
  have := (block_swap_same_sizes_accepted .crc32 [.lzma2 4096] (by decide) [] [] _ _ (stored1_blocks_ok [x, y]) hsz ⟨rfl, rfl⟩ rest 2
    (by simp)).2
  simpa using this

/-- the same two facts on concrete bytes, by evaluation of the reader model -/
example :
    (Xz.decode true (swappedStream .crc32 [.lzma2 4096] [] [] ([1, 0, 0, 65, 0], [65]) ([1, 0, 1, 66, 67, 0], [66, 67])) 16).err?
      = some .invalidData ∧
    (Xz.decode true (streamBytes .crc32 [.lzma2 4096] [([1, 0, 0, 65, 0], [65]), ([1, 0, 1, 66, 67, 0], [66, 67])]) 16).result?
      = some ([65, 66, 67], 84) ∧
    (Xz.decode true (swappedStream .crc32 [.lzma2 4096] [] [] ([1, 0, 0, 65, 0], [65]) ([1, 0, 0, 66, 0], [66])) 16).result?
      = some ([66, 65], 84) := by
  decide +kernel

/-- `reader_rejects_wrong_backward_size` instantiated: the footer announces 12 instead of 8 bytes -/
example (multi : Bool) (x : Nat) :
    Xz.decode multi (forgedStream .crc32 [.lzma2 4096] [([1, 0, 0, x, 0], [x])]
      (recsOf .crc32 [.lzma2 4096] [([1, 0, 0, x, 0], [x])]) 12) 1 = .err .invalidData := by
  apply reader_rejects_wrong_backward_size multi .crc32 [.lzma2 4096] (by decide) [([1, 0, 0, x, 0], [x])]
    (stored1_blocks_ok [x])
    (sizesOk63_small _ _ (by decide) _ (by simp) (by simp)) 12 (by decide) (by decide)
    (by decide) _ 1 (by simp)
  -- the block's record is `(21, 1)` whatever `x` is
  have : (indexBytes (recsOf .crc32 [.lzma2 4096] [([1, 0, 0, x, 0], [x])])).length = 8 :=
    show (indexBytes [(21, 1)]).length = 8 by decide
  omega

#print axioms decode_forged
#print axioms reader_rejects_forged_index
#print axioms reader_rejects_wrong_backward_size
#print axioms block_swap_detected
#print axioms block_swap_same_sizes_accepted

end LzmaVerif.Xz
