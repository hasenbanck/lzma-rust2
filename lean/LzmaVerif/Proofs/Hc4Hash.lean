/-
  (H1) soundness of the 2- and 3-byte hashes of hash234.rs: "the hashing algorithm guarantees that if
  the first byte matches, also the second byte does" (comment at bt4.rs:171, :185).
  (H1)-(H5): the parts of the HC4 result, `Props/C01Hc4.lean`.
-/
import LzmaVerif.Model.Hc4

namespace LzmaVerif.Mf.Hc4

theorem xor_cancel_left {a b c : Nat} (h : a ^^^ b = a ^^^ c) : b = c := by
  have h2 : a ^^^ (a ^^^ b) = a ^^^ (a ^^^ c) := by rw [h]
  rw [← Nat.xor_assoc, ← Nat.xor_assoc, Nat.xor_self, Nat.zero_xor, Nat.zero_xor] at h2
  exact h2

theorem and_mask_mod {x y M n : Nat} (hM : M % 2 ^ n = 2 ^ n - 1) (h : x &&& M = y &&& M) :
    x % 2 ^ n = y % 2 ^ n := by
  have h2 : (x &&& M) % 2 ^ n = (y &&& M) % 2 ^ n := by rw [h]
  rw [Nat.and_mod_two_pow, Nat.and_mod_two_pow, hM, Nat.and_two_pow_sub_one_eq_mod,
    Nat.and_two_pow_sub_one_eq_mod, Nat.mod_mod, Nat.mod_mod] at h2
  exact h2

theorem and_mask_lt (x n : Nat) (h : 0 < n) : x &&& (n - 1) < n :=
  Nat.lt_of_le_of_lt Nat.and_le_right (Nat.sub_lt h Nat.one_pos)

theorem mask_of_size {S k : Nat} (h1 : S % 2 ^ k = 0) (h2 : 0 < S) : (S - 1) % 2 ^ k = 2 ^ k - 1 := by
  have hp : 0 < 2 ^ k := Nat.pow_pos (by decide)
  obtain ⟨q, rfl⟩ := Nat.dvd_of_mod_eq_zero h1
  cases q with
  | zero => exact absurd h2 (Nat.lt_irrefl 0)
  | succ q =>
    rw [Nat.mul_succ, Nat.add_sub_assoc hp, Nat.mul_add_mod_self_left]
    exact Nat.mod_eq_of_lt (Nat.sub_lt hp Nat.one_pos)

theorem mul256_mod (x : Nat) : x * 256 % 2 ^ 8 = 0 := Nat.mul_mod_left x 256
theorem mod16_mod8 (x : Nat) : x % 2 ^ 16 % 2 ^ 8 = x % 2 ^ 8 := Nat.mod_mod_of_dvd x (by decide)
theorem mul256_mod16 (x : Nat) (h : x < 256) : x * 256 % 2 ^ 16 = x * 256 := Nat.mod_eq_of_lt (by omega)

theorem h2_eq (H : HashParams) (m b0 b1 b2 b3 : Nat) :
    (calcHashes H m b0 b1 b2 b3).h2 = (hashByte H b0 ^^^ b1) &&& (H.hash2Size - 1) := rfl

theorem h3_eq (H : HashParams) (m b0 b1 b2 b3 : Nat) :
    (calcHashes H m b0 b1 b2 b3).h3 =
      (hashByte H b0 ^^^ b1 ^^^ u32 (b2 <<< H.shift3)) &&& (H.hash3Size - 1) := rfl

theorem hash2_sound (H : HashParams) (hok : hashOk H) (m m' b0 b1 b2 b3 c1 c2 c3 : Nat)
    (hb1 : b1 < 256) (hc1 : c1 < 256)
    (h : (calcHashes H m b0 b1 b2 b3).h2 = (calcHashes H m' b0 c1 c2 c3).h2) : b1 = c1 := by
  obtain ⟨h2a, h2b, _, _, _⟩ := hok
  rw [h2_eq, h2_eq] at h
  have hM := mask_of_size (k := 8) h2a h2b
  have h1 := and_mask_mod hM h
  rw [Nat.xor_mod_two_pow, Nat.xor_mod_two_pow] at h1
  have h3 := xor_cancel_left h1
  rw [Nat.mod_eq_of_lt hb1, Nat.mod_eq_of_lt hc1] at h3
  exact h3

theorem hash3_sound (H : HashParams) (hok : hashOk H) (m m' b0 b1 b2 b3 c1 c2 c3 : Nat)
    (hb1 : b1 < 256) (hc1 : c1 < 256) (hb2 : b2 < 256) (hc2 : c2 < 256)
    (h : (calcHashes H m b0 b1 b2 b3).h3 = (calcHashes H m' b0 c1 c2 c3).h3) :
    b1 = c1 ∧ b2 = c2 := by
  obtain ⟨_, _, h3a, h3b, hs⟩ := hok
  rw [h3_eq, h3_eq, hs] at h
  have hM := mask_of_size (k := 16) h3a h3b
  have h1 := and_mask_mod hM h
  have e0 : ∀ x : Nat, x < 256 → u32 (x <<< 8) = x * 256 := by
    intro x hx
    rw [Nat.shiftLeft_eq, show (2 : Nat) ^ 8 = 256 from rfl]
    exact Nat.mod_eq_of_lt (by omega)
  have e1 := e0 b2 hb2
  have e2 := e0 c2 hc2
  rw [e1, e2, Nat.xor_assoc, Nat.xor_assoc, Nat.xor_mod_two_pow, Nat.xor_mod_two_pow (b := c1 ^^^ c2 * 256)]
    at h1
  have h3 := xor_cancel_left h1
  -- modulo `2 ^ 8` the shifted third bytes vanish, which gives `b1 = c1`; what is left then gives `b2 = c2`
  have h4 : (b1 ^^^ b2 * 256) % 2 ^ 16 % 2 ^ 8 = (c1 ^^^ c2 * 256) % 2 ^ 16 % 2 ^ 8 := by rw [h3]
  have hmm := mod16_mod8
  rw [hmm, hmm, Nat.xor_mod_two_pow, Nat.xor_mod_two_pow] at h4
  have z1 : b2 * 256 % 2 ^ 8 = 0 := mul256_mod b2
  have z2 : c2 * 256 % 2 ^ 8 = 0 := mul256_mod c2
  rw [z1, z2, Nat.xor_zero, Nat.xor_zero, Nat.mod_eq_of_lt hb1, Nat.mod_eq_of_lt hc1] at h4
  subst h4
  rw [Nat.xor_mod_two_pow, Nat.xor_mod_two_pow (b := c2 * 256)] at h3
  have h5 := xor_cancel_left h3
  refine ⟨rfl, ?_⟩
  rw [mul256_mod16 b2 hb2, mul256_mod16 c2 hc2] at h5
  exact Nat.eq_of_mul_eq_mul_right (by decide : 0 < 256) h5

end LzmaVerif.Mf.Hc4
