/-
  Normal encoder: the invariant of the optimiser over `a : OA` = (`opts[]`, `opt_end`) (`CandOk` / `FromCur` of one entry are
  in `EncNormalInv.lean`).  `p`, `c0`: position and coder state the optimiser started at; `avail0 = min(get_avail(), OPTS - 1)`.
  `Inv cur b a`: entries `≤ cur` are final, entries in `(cur, opt_end]` are at `INFINITY_PRICE` or a valid candidate from
  some `j ≤ cur`, prices of the entries `≤ b` are at most `1152 · i` (`9 · 128`, `litPrice_le`; `b` is `cur` or `cur + 1`).
  `Thr`: what the insertion sites of one `cur` keep: `Inv`, the coder state `cc` of `opts[cur]`, and `opt_end` not below
  `lo` (where the caller saw it), `cur`, `b`.
-/
import LzmaVerif.Proofs.EncNormalInv

namespace LzmaVerif.EncNormal
open LzmaVerif Lzma Rc EncFast EncPrices
open LzmaVerif.Mf.Hc4 (Eqs)

theorem CandOk.congr' {P : NormalParams} {d : Array UInt8} {dict p : Nat} {o o' : Opts} {cur i : Nat}
    (h : CandOk P d dict p o cur i)
    (hg : groupOf P d p (oat o' i) i = groupOf P d p (oat o i) i)
    (hs : Shape (oat o' i) i ↔ Shape (oat o i) i)
    (hj : ∀ j, j ≤ cur → (oat o' j).c = (oat o j).c) :
    CandOk P d dict p o' cur i := by
  unfold CandOk at h ⊢
  rw [hg, hj _ h.2.1]
  exact ⟨hs.mpr h.1, h.2⟩

structure Inv (P : NormalParams) (d : Array UInt8) (dict p : Nat) (c0 : Coder) (avail0 cur b : Nat) (a : OA) : Prop where
  size : a.opts.size = P.opts
  endLe : a.optEnd ≤ avail0
  zero : (oat a.opts 0).c = c0
  fin : ∀ i, 1 ≤ i → i ≤ cur → CandOk P d dict p a.opts (i - 1) i ∧
    (oat a.opts i).c = applyAll (oat a.opts (groupOf P d p (oat a.opts i) i).1).c (groupOf P d p (oat a.opts i) i).2
  pend : ∀ i, cur < i → i ≤ a.optEnd → P.infinity ≤ (oat a.opts i).price ∨ CandOk P d dict p a.opts cur i
  bnd : ∀ i, 1 ≤ i → i ≤ b → i ≤ a.optEnd → (oat a.opts i).price ≤ 1152 * i

section
variable {P : NormalParams} {d : Array UInt8} {dict p : Nat} {c0 : Coder} {avail0 cur b : Nat} {a : OA}

theorem Inv.change (h : Inv P d dict p c0 avail0 cur b a) (a' : OA)
    (hsz : a'.opts.size = P.opts) (hend : a'.optEnd ≤ avail0)
    (hlow : ∀ j, j ≤ cur → oat a'.opts j = oat a.opts j)
    (hhigh : ∀ i, cur < i → i ≤ a'.optEnd →
      (i ≤ a.optEnd ∧ oat a'.opts i = oat a.opts i) ∨ P.infinity ≤ (oat a'.opts i).price ∨
        CandOk P d dict p a'.opts cur i)
    (hb : ∀ i, 1 ≤ i → i ≤ b → i ≤ a'.optEnd → i ≤ a.optEnd ∧ (oat a'.opts i).price ≤ (oat a.opts i).price) :
    Inv P d dict p c0 avail0 cur b a' := by
  refine ⟨hsz, hend, by rw [hlow 0 (Nat.zero_le _)]; exact h.zero, ?_, ?_, ?_⟩
  · intro i h1 hi
    obtain ⟨hc, he⟩ := h.fin i h1 hi
    have hgi := hc.2.1
    refine ⟨hc.congr' (by rw [hlow i hi]) (by rw [hlow i hi]) (fun j hj => by rw [hlow j (by omega)]), ?_⟩
    rw [hlow i hi, hlow _ (by omega)]
    exact he
  · intro i hi hie
    rcases hhigh i hi hie with ⟨hie', heq⟩ | hinf | hc
    · rcases h.pend i hi hie' with hinf | hc
      · left; rw [heq]; exact hinf
      · right
        exact hc.congr' (by rw [heq]) (by rw [heq]) (fun j hj => by rw [hlow j hj])
    · exact Or.inl hinf
    · exact Or.inr hc
  · intro i h1 hib hie
    obtain ⟨hie', hp⟩ := hb i h1 hib hie
    exact Nat.le_trans hp (h.bnd i h1 hib hie')

def Thr (P : NormalParams) (d : Array UInt8) (dict p : Nat) (c0 : Coder) (avail0 cur b : Nat) (cc : Coder) (lo : Nat)
    (a : OA) : Prop :=
  Inv P d dict p c0 avail0 cur b a ∧ (oat a.opts cur).c = cc ∧ lo ≤ a.optEnd ∧ cur ≤ a.optEnd ∧ b ≤ a.optEnd

variable {cc : Coder} {lo : Nat}

/-- `while self.opt_end < t { self.opt_end += 1; self.opts[self.opt_end].reset(); }`; `avail0 < OPTS`: outside the array
    `oat` reads a default entry, which is not at `INFINITY_PRICE` -/
theorem Thr.extend (h : Thr P d dict p c0 avail0 cur b cc lo a) (hav : avail0 < P.opts) (t : Nat) (ht : t ≤ avail0) :
    Thr P d dict p c0 avail0 cur b cc lo (a.extend P t) := by
  obtain ⟨hi, hc, hl, hcu, hb⟩ := h
  unfold OA.extend
  split
  · next hlt =>
    -- the loop resets the entries in `(opt_end, t]` and leaves the others alone
    have hoat : ∀ j, oat (resetFrom P (t - a.optEnd) a.optEnd a.opts) j =
        if a.optEnd < j ∧ j ≤ t then (oat a.opts j).reset P else oat a.opts j := by
      intro j
      rw [oat_resetFrom P _ _ _ j (by rw [hi.size]; omega), Nat.add_sub_of_le (Nat.le_of_lt hlt)]
    refine ⟨hi.change _ (by rw [resetFrom_size, hi.size]) ht (fun j hj => ?_) (fun i hi' hie => ?_)
      fun i h1 hib hie => ⟨by omega, ?_⟩, ?_, Nat.le_of_lt (Nat.lt_of_le_of_lt hl hlt),
      by show cur ≤ t; omega,
      by show b ≤ t; omega⟩
    · rw [hoat, if_neg (by omega)]
    · show _ ∨ _ ≤ (oat (resetFrom P (t - a.optEnd) a.optEnd a.opts) i).price ∨ _
      rw [hoat]
      by_cases hr : a.optEnd < i ∧ i ≤ t
      · rw [if_pos hr]
        exact Or.inr (Or.inl (Nat.le_refl _))
      · rw [if_neg hr]
        exact Or.inl ⟨by have : i ≤ t := hie; omega, rfl⟩
    · show (oat (resetFrom P (t - a.optEnd) a.optEnd a.opts) i).price ≤ _
      rw [hoat, if_neg (by omega)]
    · show (oat (resetFrom P (t - a.optEnd) a.optEnd a.opts) cur).c = cc
      rw [hoat, if_neg (by omega)]
      exact hc
  · exact ⟨hi, hc, hl, hcu, hb⟩

/-- Neither `t ≤ opt_end` nor the price is asked: an entry beyond `opt_end` is reset before it is read, and out of range
    `modify` does nothing. -/
theorem Thr.write (h : Thr P d dict p c0 avail0 cur b cc lo a) (t : Nat) (f : Opt → Opt) (hb : b < t)
    (hcand : ∀ old, FromCur P d dict p cur cc (f old) t) :
    Thr P d dict p c0 avail0 cur b cc lo { a with opts := a.opts.modify t f } := by
  obtain ⟨hi, hc, hl, hcu, hbe⟩ := h
  have hct : cur < t := (hcand default).2.2.1
  have hlow : ∀ j, j < t → oat (a.opts.modify t f) j = oat a.opts j :=
    fun j hj => oat_modify_ne _ _ _ _ (Nat.ne_of_gt hj)
  have hcc : (oat (a.opts.modify t f) cur).c = cc := by rw [hlow cur hct]; exact hc
  refine ⟨hi.change _ (by simp only [Array.size_modify]; exact hi.size) hi.endLe
    (fun j hj => hlow j (Nat.lt_of_le_of_lt hj hct)) (fun i _ hie => ?_)
    (fun i _ hib hie => ⟨hie, Nat.le_of_eq (congrArg Opt.price (hlow i (Nat.lt_of_le_of_lt hib hb)))⟩),
    hcc, hl, hcu, hbe⟩
  rcases oat_modify_any a.opts t i f with heq | ⟨rfl, heq⟩
  · exact Or.inl ⟨hie, heq⟩
  · refine Or.inr (Or.inr (FromCur.candOk ?_))
    rw [hcc, heq]
    exact hcand _

theorem Inv.advance (h : Inv P d dict p c0 avail0 cur b a) (hc : CandOk P d dict p a.opts cur (cur + 1))
    (he : (oat a.opts (cur + 1)).c = applyAll (oat a.opts (groupOf P d p (oat a.opts (cur + 1)) (cur + 1)).1).c
      (groupOf P d p (oat a.opts (cur + 1)) (cur + 1)).2) :
    Inv P d dict p c0 avail0 (cur + 1) b a := by
  refine ⟨h.size, h.endLe, h.zero, fun i h1 hi => ?_, fun i hi hie => ?_, h.bnd⟩
  · by_cases hic : i = cur + 1
    · subst hic
      exact ⟨hc, he⟩
    · exact h.fin i h1 (by omega)
  · exact (h.pend i (by omega) hie).imp_right fun hci => hci.mono (by omega)

theorem Inv.update (h : Inv P d dict p c0 avail0 cur b a) (hreps : P.reps = 4) (hav : avail0 < P.opts)
    (hce : cur + 1 ≤ a.optEnd) (hfin : (oat a.opts (cur + 1)).price < P.infinity) :
    Inv P d dict p c0 avail0 (cur + 1) b { a with opts := updateOptStateAndReps P a.opts (cur + 1) } ∧
      (oat (updateOptStateAndReps P a.opts (cur + 1)) (cur + 1)).price = (oat a.opts (cur + 1)).price := by
  have hts : cur + 1 < a.opts.size := by rw [h.size]; have := h.endLe; omega
  have hcand : CandOk P d dict p a.opts cur (cur + 1) :=
    (h.pend (cur + 1) (Nat.lt_succ_self cur) hce).resolve_left (Nat.not_le.mpr hfin)
  have hX := optStateAndReps_eq P hreps d dict p a.opts cur (cur + 1) hcand
  unfold updateOptStateAndReps
  extract_lets X
  -- the new array `A` differs from the old one in `opts[cur + 1].c` only, which nothing has looked at so far
  have hoat : ∀ j, oat (a.opts.modify (cur + 1) fun o => { o with c := X }) j =
      if cur + 1 = j then { oat a.opts j with c := X } else oat a.opts j := fun j => oat_modify _ _ _ _ hts
  have hsz : (a.opts.modify (cur + 1) fun o => { o with c := X }).size = P.opts := by
    rw [Array.size_modify]
    exact h.size
  generalize a.opts.modify (cur + 1) (fun o => { o with c := X }) = A at hoat hsz ⊢
  have hlow : ∀ j, j ≤ cur → oat A j = oat a.opts j := fun j hj => by rw [hoat, if_neg (by omega)]
  have hp : ∀ j, (oat A j).price = (oat a.opts j).price := by
    intro j
    rw [hoat]
    split <;> rfl
  have hcandA : CandOk P d dict p A cur (cur + 1) := by
    refine hcand.congr' ?_ ?_ fun j hj => by rw [hlow j hj]
    · rw [hoat, if_pos rfl]
      rfl
    · rw [hoat, if_pos rfl]
      exact Iff.rfl
  have hA : Inv P d dict p c0 avail0 cur b { a with opts := A } := by
    refine h.change _ hsz h.endLe hlow (fun i hi hie => ?_) fun i h1 hib hie => ⟨hie, Nat.le_of_eq (hp i)⟩
    by_cases hic : cur + 1 = i
    · subst hic
      exact Or.inr (Or.inr hcandA)
    · exact Or.inl ⟨hie, by show oat A i = _; rw [hoat, if_neg hic]⟩
  refine ⟨hA.advance hcandA ?_, hp _⟩
  show (oat A (cur + 1)).c = applyAll (oat A (groupOf P d p (oat A (cur + 1)) (cur + 1)).1).c _
  rw [hoat (cur + 1), if_pos rfl]
  show X = applyAll (oat A (groupOf P d p (oat a.opts (cur + 1)) (cur + 1)).1).c _
  rw [hlow _ hcand.2.1]
  exact hX

end

def chainOf (P : NormalParams) (d : Array UInt8) (p : Nat) (opts : Opts) : Nat → Nat → List (Sym × Nat)
  | 0, _ => []
  | fuel + 1, i =>
    if i = 0 then []
    else chainOf P d p opts fuel (groupOf P d p (oat opts i) i).1 ++ (groupOf P d p (oat opts i) i).2

theorem chainOf_ok {P : NormalParams} {d : Array UInt8} {dict p : Nat} {c0 : Coder} {avail0 cur b : Nat} {a : OA}
    (h : Inv P d dict p c0 avail0 cur b a) :
    ∀ (fuel i : Nat), i ≤ fuel → i ≤ cur →
      ChainOk d dict (chainOf P d p a.opts fuel i) p c0 ∧ chainLen (chainOf P d p a.opts fuel i) = i ∧
        applyAll c0 (chainOf P d p a.opts fuel i) = (oat a.opts i).c
  | 0, i, hf, _ => by
    have : i = 0 := by omega
    subst this
    exact ⟨trivial, rfl, h.zero.symm⟩
  | fuel + 1, i, hf, hi => by
    rw [chainOf]
    split
    · next h0 => subst h0; exact ⟨trivial, rfl, h.zero.symm⟩
    · next h0 =>
      obtain ⟨hc, he⟩ := h.fin i (by omega) hi
      obtain ⟨_, hg1, hg2, hch, hlen⟩ := hc
      obtain ⟨i1, i2, i3⟩ := chainOf_ok h fuel (groupOf P d p (oat a.opts i) i).1 (by omega) (by omega)
      refine ⟨chainOk_append d dict _ _ p c0 i1 (by rw [i2, i3]; exact hch), by rw [chainLen_append, i2, hlen]; omega, ?_⟩
      rw [applyAll_append, i3, he]

/-- the index the main loop stops at is not final (`update_opt_state_and_reps` has not run for it) -/
theorem chainOf_last {P : NormalParams} {d : Array UInt8} {dict p : Nat} {c0 : Coder} {avail0 cur b : Nat} {a : OA}
    (h : Inv P d dict p c0 avail0 cur b a) (i fuel : Nat) (hi : 1 ≤ i) (hf : i ≤ fuel + 1)
    (hc : CandOk P d dict p a.opts cur i) :
    ChainOk d dict (chainOf P d p a.opts (fuel + 1) i) p c0 ∧ chainLen (chainOf P d p a.opts (fuel + 1) i) = i := by
  rw [chainOf, if_neg (by omega)]
  obtain ⟨_, hg1, hg2, hch, hlen⟩ := hc
  obtain ⟨i1, i2, i3⟩ := chainOf_ok h fuel (groupOf P d p (oat a.opts i) i).1 (by omega) hg1
  exact ⟨chainOk_append d dict _ _ p c0 i1 (by rw [i2, i3]; exact hch), by rw [chainLen_append, i2, hlen]; omega⟩

end LzmaVerif.EncNormal
