/-
  The LZIP writer model in fast mode (`Model/LzipWriter.lean`): per member the raw stream is `LzmaWriter.rawBytes` with end
  marker, so `rawBytes_marker_rt` gives the stream and the codec hypothesis `LzipFile.PayloadOk` of the container theorem
  at once (`member_rt`); the file is `LzipFile.fileBytes` of the members `wireOf` (`membersFast_eq`).
-/
import LzmaVerif.Model.LzipWriter
import LzmaVerif.Proofs.LzmaWriter
import LzmaVerif.Proofs.LzipFile
import LzmaVerif.Proofs.LzipDict
import LzmaVerif.Proofs.Split
import LzmaVerif.Proofs.TotalGuards

namespace LzmaVerif.LzipWriter
open LzmaVerif Mf Lzma EncFast LzmaWriter LzipFile

theorem bytesOf_bytes (c : Array UInt8) : Bytes (bytesOf c) := by
  intro x hx
  simp only [bytesOf, List.mem_map] at hx
  obtain ⟨b, _, rfl⟩ := hx
  exact UInt8.toNat_lt b

theorem bytesOf_length (c : Array UInt8) : (bytesOf c).length = c.size := by
  simp [bytesOf]

theorem bytesOf_toArray (c : Array UInt8) : (bytesOf c).toArray = c.map (fun b => b.toNat) := by
  apply Array.ext'; simp [bytesOf]

theorem cutAt_flatten (d : Array UInt8) : ∀ (ns : List Nat) (off : Nat),
    ((cutAt d off ns).map bytesOf).flatten = ((d.toList.drop off).take ns.sum).map (·.toNat) := by
  intro ns
  induction ns with
  | nil => intro off; simp [cutAt]
  | cons n ns ih =>
    intro off
    simp only [cutAt, List.map_cons, List.flatten_cons, ih, List.sum_cons, bytesOf, Array.toList_extract,
      List.extract_eq_take_drop, Nat.add_sub_cancel_left]
    rw [← List.map_append]
    congr 1
    rw [List.take_add, List.drop_drop]

theorem cutAt_size (d : Array UInt8) : ∀ (ns : List Nat) (off : Nat), ∀ c ∈ cutAt d off ns, c.size ≤ d.size := by
  intro ns
  induction ns with
  | nil => intro off c hc; simp [cutAt] at hc
  | cons n ns ih =>
    intro off c hc
    simp only [cutAt, List.mem_cons] at hc
    rcases hc with rfl | hc
    · rw [Array.size_extract]; omega
    · exact ih _ c hc

theorem cutAt_length (d : Array UInt8) : ∀ (ns : List Nat) (off : Nat), (cutAt d off ns).length = ns.length := by
  intro ns
  induction ns with
  | nil => intro off; rfl
  | cons n ns ih => intro off; simp [cutAt, ih]

theorem cutAt_ne_nil (d : Array UInt8) (ns : List Nat) (off : Nat) (h : ns ≠ []) : cutAt d off ns ≠ [] := by
  cases ns with
  | nil => exact absurd rfl h
  | cons n ns => simp [cutAt]

theorem effDict_bounds (o : LzipOpts) : 4096 ≤ effDict o ∧ effDict o ≤ 2 ^ 29 := by
  unfold effDict
  rw [Lzip.min_eq, Lzip.max_eq]
  omega

theorem memberSizes_spec (o : LzipOpts) (n : Nat) : (memberSizes o n).sum = n ∧ memberSizes o n ≠ [] := by
  unfold memberSizes
  cases h : effMember o with
  | none => simp
  | some lim =>
    have hl : 2 ≤ lim := by
      simp only [effMember, Option.map_eq_some_iff] at h
      obtain ⟨m, _, rfl⟩ := h
      have := (effDict_bounds o).1
      omega
    simp only
    rw [Split.lzipMembers_eq lim hl [n], List.sum_singleton]
    by_cases h0 : n = 0
    · rw [if_pos h0, h0]
      exact ⟨rfl, List.cons_ne_nil _ _⟩
    · rw [if_neg h0]
      exact ⟨Split.ideal_sum lim n,
        fun he => h0 ((Split.ideal_eq_nil_iff lim n).mp he)⟩

theorem chunks_flatten (o : LzipOpts) (d : Array UInt8) : ((chunks o d).map bytesOf).flatten = bytesOf d := by
  unfold chunks
  rw [cutAt_flatten, (memberSizes_spec o d.size).1, List.drop_zero, List.take_of_length_le (by simp)]
  rfl

theorem chunks_ne_nil (o : LzipOpts) (d : Array UInt8) : chunks o d ≠ [] :=
  cutAt_ne_nil d _ 0 (memberSizes_spec o d.size).2

theorem chunks_size (o : LzipOpts) (d : Array UInt8) : ∀ c ∈ chunks o d, c.size ≤ d.size :=
  cutAt_size d _ 0

/-- the member as the container theorem sees it (`[]` only if the encoder fails, which `member_rt` excludes) -/
def wireOf (K : MfConsts) (o : LzipOpts) (db : Nat) (chunk : Array UInt8) : Nat × List Nat × List Nat :=
  (db, (memberLzma K o db chunk).getD [], bytesOf chunk)

/-- without a declared size `construct2` rounds twice, and rounding is idempotent -/
theorem readerDictBuf_none (dict : Nat) : lzmaReaderDictBuf dict none 0 = lzmaDictBuf dict :=
  Total.lzmaDictBuf_idem dict

theorem le_readerDictBuf_none (dict : Nat) : dict ≤ lzmaReaderDictBuf dict none 0 := by
  have := (Total.lzmaDictBuf_bounds dict).1
  rw [readerDictBuf_none]
  omega

theorem readerDictBuf_none_le (dict : Nat) : lzmaReaderDictBuf dict none 0 ≤ max dict 4096 + 15 :=
  readerDictBuf_none dict ▸ (Total.lzmaDictBuf_bounds dict).2.1

section
/-! HC4 with valid constants, and a header byte `db` announcing a dictionary `dict'` at least as large as the
    encoder's -/
variable (K : MfConsts) (hH : K.hc4.ok) (hP : K.fast.ok) (o : LzipOpts) (ho : o.bt4 = false)
  (db dict' : Nat) (hdb : Lzip.decodeDict db = some dict') (hge : effDict o ≤ dict')
include hH hP ho hdb hge

/-- a member's stream is the `.lzma` writer's raw stream with end marker for the dictionary the READER allocates for the
    header byte: it exists and meets the codec hypothesis of the container theorems -/
theorem member_rt (chunk : Array UInt8) :
    ∃ lzma, memberLzma K o db chunk = some lzma ∧ PayloadOk (lzmaReaderDictBuf dict' none 0) lzma (bytesOf chunk) := by
  have hb := effDict_bounds o
  have h1 := le_readerDictBuf_none dict'
  have h2 := readerDictBuf_none_le dict'
  have h3 := (Lzip.decodeDict_some db dict' hdb).2.2.2.2
  obtain ⟨lzma, henc, hdec⟩ := rawBytes_marker_rt lzipParams K hH hP (lzmaOpts o) ho (lzmaReaderDictBuf dict' none 0) chunk
    (show 1 ≤ effDict o by omega) (show min (effDict o) chunk.size ≤ _ by omega) (show effDict o ≤ 2 ^ 32 by omega)
    (by simp only [END_DIST]; omega)
  refine ⟨lzma, by simpa only [memberLzma, memberDictBuf, hdb, Option.getD_some] using henc, fun rest cap hcap => ?_⟩
  rw [bytesOf_toArray]
  exact ⟨_, hdec rest cap (bytesOf_length chunk ▸ hcap)⟩

theorem memberOk (chunk : Array UInt8) (h1 : chunk.size < 2 ^ 64)
    (h2 : (wireOf K o db chunk).2.1.length + 26 < 2 ^ 64) : MemberOk (wireOf K o db chunk) := by
  obtain ⟨lzma, henc, hp⟩ := member_rt K hH hP o ho db dict' hdb hge chunk
  simp only [wireOf, henc, Option.getD_some] at h2 ⊢
  exact ⟨dict', hdb, hp, bytesOf_bytes chunk, by rw [bytesOf_length]; exact h1, h2⟩

theorem membersFast_eq : ∀ cs : List (Array UInt8),
    membersFast K o db cs = some (fileBytes (cs.map (wireOf K o db))) := by
  intro cs
  induction cs with
  | nil => simp [membersFast, fileBytes]
  | cons c cs ih =>
    obtain ⟨lzma, henc, -⟩ := member_rt K hH hP o ho db dict' hdb hge c
    simp only [membersFast, memberFast, henc, Option.map_some, ih]
    simp [fileBytes, wireOf, henc]

end

theorem fileData_chunks (K : MfConsts) (o : LzipOpts) (db : Nat) (d : Array UInt8) :
    fileData ((chunks o d).map (wireOf K o db)) = bytesOf d := by
  rw [← chunks_flatten o d]
  simp [fileData, wireOf, Function.comp_def]

theorem member_length_le (ms : List (Nat × List Nat × List Nat)) (m : Nat × List Nat × List Nat) (hm : m ∈ ms) :
    m.2.1.length + 26 ≤ (fileBytes ms).length := by
  induction ms with
  | nil => simp at hm
  | cons a rest ih =>
    rw [fileBytes_cons, List.length_append, memberBytes_length]
    rcases List.mem_cons.mp hm with rfl | h
    · omega
    · have := ih h; omega

end LzmaVerif.LzipWriter

