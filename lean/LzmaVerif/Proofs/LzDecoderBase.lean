import LzmaVerif.Model.LzDecoder
import LzmaVerif.Model.Lzma
import LzmaVerif.Proofs.MfBase
/-!
Basic facts for the refinement proof of the cyclic dictionary buffer (`Model/LzDecoder.lean`):
array views through `getD`, the `blit` (memmove) lemma, and the characterisation of the unbounded
history copy `Hist.copy` of `Model/Lzma.lean` (size, prefix, period `d+1`, and that a whole period copied
lets the source move two periods back, which is what the overlapping loop of `repeat` does).
-/
namespace LzmaVerif.LzDecoder
open LzmaVerif LzmaVerif.Lzma

theorem getD_def (a : Array Nat) (i : Nat) : a.getD i 0 = (a[i]?).getD 0 := by
  simp [Array.getD_eq_getD_getElem?]

theorem getD_ge (a : Array Nat) (i : Nat) (h : a.size ≤ i) : a.getD i 0 = 0 := by
  simp [Array.getElem?_eq_none h]

theorem getD_push (a : Array Nat) (x i : Nat) :
    (a.push x).getD i 0 = if i = a.size then x else a.getD i 0 := by
  simp only [getD_def, Array.getElem?_push]
  split <;> simp

theorem getD_set! (a : Array Nat) (k v i : Nat) :
    (a.set! k v).getD i 0 = if k = i ∧ k < a.size then v else a.getD i 0 :=
  Mf.getD_set a k v i

theorem getD_extract (a : Array Nat) (s e j : Nat) (he : e ≤ a.size) (hj : s + j < e) :
    (a.extract s e).getD j 0 = a.getD (s + j) 0 := by
  simp only [getD_def, Array.getElem?_extract]
  have : j < min e a.size - s := by omega
  simp [this]

theorem getD_toArray (l : List Nat) (i : Nat) : l.toArray.getD i 0 = l.getD i 0 := by
  simp [List.getD_eq_getElem?_getD]

theorem ext_getD (a b : Array Nat) (hs : a.size = b.size) (h : ∀ i, i < a.size → a.getD i 0 = b.getD i 0) :
    a = b := by
  apply Array.ext hs
  intro i hi hi'
  simpa [Array.getD, hi, hi'] using h i hi

theorem extract_eq_of_getD (a b : Array Nat) (sa ea sb eb : Nat) (hc : ea + sb = eb + sa) (ha : ea ≤ a.size)
    (hb : eb ≤ b.size) (h : ∀ j, sa + j < ea → a.getD (sa + j) 0 = b.getD (sb + j) 0) :
    a.extract sa ea = b.extract sb eb := by
  apply ext_getD
  · rw [Array.size_extract, Array.size_extract, Nat.min_eq_left ha, Nat.min_eq_left hb]
    omega
  · intro i hi
    rw [Array.size_extract, Nat.min_eq_left ha] at hi
    rw [getD_extract _ _ _ _ ha (by omega), getD_extract _ _ _ _ hb (by omega)]
    exact h i (by omega)

theorem blit_size (a : Array Nat) (dest : Nat) (xs : Array Nat) : (blit a dest xs).size = a.size := by
  simp [blit]

theorem blit_getD (a : Array Nat) (dest : Nat) (xs : Array Nat) (i : Nat) (hfit : dest + xs.size ≤ a.size) :
    (blit a dest xs).getD i 0 = if dest ≤ i ∧ i < dest + xs.size then xs.getD (i - dest) 0 else a.getD i 0 := by
  simp only [getD_def, blit, Array.getElem?_ofFn]
  by_cases hi : i < a.size
  · simp [hi]
  · have : ¬ (dest ≤ i ∧ i < dest + xs.size) := by omega
    simp [hi, this]

theorem copyWithin_ok (a : Array Nat) (src n dest : Nat) (h1 : src + n ≤ a.size) (h2 : dest + n ≤ a.size) :
    copyWithin a src n dest = .ok (blit a dest (a.extract src (src + n))) := by
  unfold copyWithin; rw [if_pos ⟨h1, h2⟩]

theorem copyFromFirstHalf_ok (a : Array Nat) (pos back n : Nat) (h1 : pos + n ≤ a.size) (h2 : back + n ≤ pos) :
    copyFromFirstHalf a pos back n = .ok (blit a pos (a.extract back (back + n))) := by
  unfold copyFromFirstHalf; rw [if_pos ⟨by omega, by omega, h2⟩]

theorem back_def (h : Hist) (d : Nat) (hd : d < h.size) : h.back d = h.getD (h.size - 1 - d) 0 := by
  unfold Hist.back; rw [if_pos hd]

theorem back_ge (h : Hist) (d : Nat) (hd : h.size ≤ d) : h.back d = 0 := by
  unfold Hist.back; rw [if_neg (by omega)]

theorem copy_zero (h : Hist) (d : Nat) : Hist.copy h d 0 = h := rfl

theorem copy_succ (h : Hist) (d n : Nat) : Hist.copy h d (n + 1) = Hist.copy (h.push (h.back d)) d n := rfl

theorem size_copy (h : Hist) (d n : Nat) : (Hist.copy h d n).size = h.size + n := by
  induction n generalizing h with
  | zero => rfl
  | succ n ih => rw [copy_succ, ih, Array.size_push]; omega

theorem copy_add (h : Hist) (d a b : Nat) : Hist.copy h d (a + b) = Hist.copy (Hist.copy h d a) d b := by
  induction a generalizing h with
  | zero => simp [copy_zero]
  | succ a ih => rw [Nat.add_right_comm, copy_succ, copy_succ, ih]

theorem copy_getD_lt (h : Hist) (d n i : Nat) (hi : i < h.size) : (Hist.copy h d n).getD i 0 = h.getD i 0 := by
  induction n generalizing h with
  | zero => rfl
  | succ n ih =>
    rw [copy_succ, ih _ (by rw [Array.size_push]; omega), getD_push, if_neg (by omega)]

theorem copy_rec (h : Hist) (d n i : Nat) (hd : d < h.size) (h1 : h.size ≤ i) (h2 : i < h.size + n) :
    (Hist.copy h d n).getD i 0 = (Hist.copy h d n).getD (i - (d + 1)) 0 := by
  induction n generalizing h with
  | zero => omega
  | succ n ih =>
    rw [copy_succ]
    by_cases hi : i = h.size
    · subst hi
      rw [copy_getD_lt _ _ _ _ (by rw [Array.size_push]; omega),
          copy_getD_lt _ _ _ _ (by rw [Array.size_push]; omega),
          getD_push, if_pos rfl, getD_push, if_neg (by omega), back_def _ _ hd]
      congr 1; omega
    · exact ih (h.push (h.back d)) (by rw [Array.size_push]; omega) (by rw [Array.size_push]; omega)
        (by rw [Array.size_push]; omega)

/-- inside the first period the copy reads the original history -/
theorem copy_getD_first (h : Hist) (d c j : Nat) (hd : d < h.size) (hc : c ≤ d + 1) (hj : j < c) :
    (Hist.copy h d c).getD (h.size + j) 0 = h.back (d - j) := by
  rw [copy_rec h d c _ hd (Nat.le_add_right _ _) (Nat.add_lt_add_left hj _), copy_getD_lt _ _ _ _ (by omega),
    back_def _ _ (Nat.lt_of_le_of_lt (Nat.sub_le _ _) hd)]
  congr 1; omega

theorem back_push_zero (h : Hist) (x : Nat) : Hist.back (h.push x) 0 = x := by
  rw [back_def _ _ (by rw [Array.size_push]; omega), getD_push, if_pos (by rw [Array.size_push]; omega)]

theorem back_push_succ (h : Hist) (x j : Nat) : Hist.back (h.push x) (j + 1) = h.back j := by
  by_cases hj : j < h.size
  · rw [back_def _ _ (by rw [Array.size_push]; omega), back_def _ _ hj, getD_push, Array.size_push,
      if_neg (by omega)]
    congr 1; omega
  · rw [back_ge _ _ (by rw [Array.size_push]; omega), back_ge _ _ (by omega)]

/-- when the last two blocks of `d+1` bytes agree, copying from two blocks back is copying from one block back -/
theorem copy_two_blocks (d c : Nat) (t : Hist) (ht : ∀ j, j ≤ d → t.back (j + (d + 1)) = t.back j) :
    Hist.copy t (d + (d + 1)) c = Hist.copy t d c := by
  induction c generalizing t with
  | zero => rfl
  | succ c ih =>
    rw [copy_succ, copy_succ, ht d (Nat.le_refl d)]
    apply ih
    intro j hj
    cases j with
    | zero => rw [Nat.zero_add, back_push_succ, back_push_zero]
    | succ j => rw [Nat.add_right_comm, back_push_succ, back_push_succ, ht j (by omega)]

/-- the doubling step of the overlapping loop of `repeat`: once a whole period has been copied, the
    source may be taken two periods back -/
theorem copy_double (h : Hist) (d c : Nat) (hd : d < h.size) :
    Hist.copy (Hist.copy h d (d + 1)) (d + (d + 1)) c = Hist.copy h d (d + 1 + c) := by
  rw [copy_add h d (d + 1) c]
  apply copy_two_blocks
  intro j hj
  rw [back_def _ _ (by rw [size_copy]; omega), back_def _ _ (by rw [size_copy]; omega), size_copy,
    copy_rec h d _ (h.size + (d + 1) - 1 - j) hd (by omega) (by omega)]
  congr 1; omega

def Ext (H T : Hist) : Prop := H.size ≤ T.size ∧ ∀ i, i < H.size → T.getD i 0 = H.getD i 0

theorem Ext.refl (H : Hist) : Ext H H := ⟨Nat.le_refl _, fun _ _ => rfl⟩

theorem Ext.trans {A B C : Hist} (h1 : Ext A B) (h2 : Ext B C) : Ext A C :=
  ⟨Nat.le_trans h1.1 h2.1, fun i hi => by rw [h2.2 i (by have := h1.1; omega), h1.2 i hi]⟩

theorem ext_copy (h : Hist) (d n : Nat) : Ext h (Hist.copy h d n) :=
  ⟨by rw [size_copy]; omega, fun i hi => copy_getD_lt h d n i hi⟩

theorem ext_push (h : Hist) (b : Nat) : Ext h (h.push b) :=
  ⟨by rw [Array.size_push]; omega, fun i hi => by rw [getD_push, if_neg (by omega)]⟩

end LzmaVerif.LzDecoder
