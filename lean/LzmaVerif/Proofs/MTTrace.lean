import LzmaVerif.Model.MTTrace
/-
What an accepted event log says about the values returned to the real caller: the data returns logged
by the real code (`rt:d:<seq>` events) are exactly the model's `delivered` list, in order.
(The path property itself holds by construction, `Path.ok`.)
-/
namespace LzmaVerif.MT.Trace
open LzmaVerif.MT

/-- the sequence numbers the real calls returned, in log order -/
def dataRets : List Ev → List Nat
  | [] => []
  | .ret (.data q) :: r => q :: dataRets r
  | _ :: r => dataRets r

/-- the unit a call is about to hand to the caller -/
def pend : CPc → List Nat
  | .idle (some (.data q)) => [q]
  | _ => []

def outside : CPc → Bool
  | .idle _ | .dropped => true
  | _ => false

theorem onMsg_delivered (s : Sys) (m : Msg) (rest : List Msg) :
    (onMsg s m rest).delivered = s.delivered ++ pend (onMsg s m rest).pc := by
  cases m with
  | wake => simp [onMsg, pend]
  | result seq =>
    simp only [onMsg]
    split <;> simp_all [pend]

theorem coord_delivered (s s' : Sys) (h : coordStep s = some s') :
    outside s.pc = false ∧ s'.delivered = s.delivered ++ pend s'.pc := by
  cases hp : s.pc <;> simp only [coordStep, hp] at h
  all_goals repeat' split at h
  all_goals cases h
  all_goals simp [outside, pend, onMsg_delivered]

theorem worker_delivered (s s' : Sys) (i : Nat) (h : workerStep s i = some s') :
    s'.delivered = s.delivered ∧ s'.pc = s.pc := by
  revert h
  fun_cases workerStep s i <;> intro h <;> cases h <;> exact ⟨rfl, rfl⟩

theorem caller_delivered (s s' : Sys) (b : Bool) (h : callerStep s b = some s') :
    s'.delivered = s.delivered ∧ s'.pc = (if b then .dropped else .top) ∧ outside s.pc = true := by
  simp only [callerStep] at h
  repeat' split at h
  all_goals cases h
  all_goals simp_all [outside]

theorem pend_of_inside (pc : CPc) (h : outside pc = false) : pend pc = [] := by
  cases pc <;> simp_all [outside, pend]

/-- `rets` = the data returns logged so far; a unit that the model has handed over inside the current
    call is not logged yet -/
def J0 (s : Sys) (inCall : Bool) (rets : List Nat) : Prop :=
  s.delivered = rets ++ (if inCall then pend s.pc else []) ∧ (inCall = false → outside s.pc = true)

variable {s s' : Sys} {c : Bool} {rets : List Nat}

theorem J0_coord (h : J0 s c rets) (hs : coordStep s = some s') : J0 s' c rets := by
  obtain ⟨hin, hd⟩ := coord_delivered s s' hs
  cases c
  · exact nomatch hin.symm.trans (h.2 rfl)
  · have h1 := h.1
    simp only [if_true, pend_of_inside _ hin, List.append_nil] at h1
    exact ⟨by rw [hd, h1]; rfl, nofun⟩

theorem J0_worker {i : Nat} (h : J0 s c rets) (hs : workerStep s i = some s') : J0 s' c rets := by
  obtain ⟨hd, hp⟩ := worker_delivered s s' i hs
  unfold J0 at h ⊢
  rw [hd, hp]; exact h

theorem J0.outside (h : J0 s false rets) : s.delivered = rets :=
  h.1.trans (List.append_nil _)

theorem J0_call (h : J0 s false rets) (hs : callerStep s false = some s') : J0 s' true rets := by
  obtain ⟨hd, hp, _⟩ := caller_delivered s s' false hs
  exact ⟨by simp [hd, hp, h.outside, pend], nofun⟩

theorem J0_drop (h : J0 s false rets) (hs : callerStep s true = some s') : J0 s' false rets := by
  obtain ⟨hd, hp, _⟩ := caller_delivered s s' true hs
  exact ⟨by simp [hd, h.outside], fun _ => by simp [hp, outside]⟩

theorem J0_ret {r : Ret} (h : J0 s true rets) (hp : s.pc = .idle (some r)) :
    J0 s false (rets ++ dataRets [.ret r]) := by
  have h1 := h.1
  simp only [if_true, hp] at h1
  refine ⟨?_, by intro _; simp [hp, outside]⟩
  cases r <;> simp_all [pend, dataRets]

theorem J0_postcall (h : J0 s false rets) (hf : isFinal s.pc = true) : J0 s true rets := by
  have h1 := h.outside
  refine ⟨?_, nofun⟩
  cases hp : s.pc with
  | idle l =>
    cases l with
    | none => simp [hp, isFinal] at hf
    | some r => cases r <;> simp_all [isFinal, pend]
  | _ => simp [hp, isFinal] at hf

variable {cfg : Cfg} {v v' : VS cfg}

theorem Path.step_sys {p p' : Path cfg} {l : Label} (h : p.step l = some p') :
    MT.step p.sys l = some p'.sys := by
  unfold Path.step at h
  split at h
  · cases h
  · rename_i s' hs
    cases h
    exact hs

def J (v : VS cfg) (rets : List Nat) : Prop := J0 v.path.sys v.inCall rets

/-- `v'` comes from `v` by bookkeeping and by steps of the coordinator and the workers, none of which
    logs a return -/
def Inner (v v' : VS cfg) : Prop := ∀ rets, J v rets → J v' rets

theorem Inner.trans {v1 v2 : VS cfg} (h1 : Inner v v1) (h2 : Inner v1 v2) : Inner v v2 :=
  fun rets hj => h2 rets (h1 rets hj)

theorem Inner.of_eq (hs : v'.path.sys = v.path.sys) (hc : v'.inCall = v.inCall) : Inner v v' := fun rets hj => by
  unfold J at hj ⊢
  rw [hs, hc]; exact hj

theorem cStep_inner {pre : Sys → Bool} {post : Sys → Sys → Bool}
    (h : cStep v pre post = .ok v') : Inner v v' := fun rets hj => by
  unfold cStep at h
  split at h
  · cases h
  · split at h
    · cases h
    · next p hp =>
      split at h <;> cases h
      exact J0_coord hj (Path.step_sys hp)

theorem wStep_inner {j : Nat} {pre post : WPc → Bool}
    (h : wStep v j pre post = .ok v') : Inner v v' := fun rets hj => by
  unfold wStep at h
  repeat' split at h
  all_goals cases h
  exact J0_worker hj (Path.step_sys (l := .worker j) ‹_›)

theorem onSpawn_inner {pre : Sys → Bool} {d : Bool}
    (h : onC.onSpawn v pre d = .ok v') : Inner v v' := by
  unfold onC.onSpawn at h
  simp only [bind, Except.bind] at h
  split at h
  · cases h
  · next v1 h1 =>
    split at h <;> (simp only [pure, Except.pure] at h; cases h)
    · exact (cStep_inner h1).trans (.of_eq rfl rfl)
    · exact cStep_inner h1

theorem onC_inner {e : CEv} (h : onC v e = .ok v') : Inner v v' := by
  cases e with
  | top hit => cases hit <;> exact cStep_inner (by simpa only [onC] using h)
  | st k => cases k <;> exact cStep_inner (by simpa only [onC] using h)
  | err _ | tryRecv _ | qlen _ | recv _ => exact cStep_inner (by simpa only [onC] using h)
  | push q =>
    simp only [onC, bind, Except.bind] at h
    split at h
    · cases h
    · next v1 h1 =>
      split at h
      · cases h
      · next v2 h2 =>
        cases h
        exact ((cStep_inner h1).trans (cStep_inner h2)).trans (.of_eq rfl rfl)
  | ldActive _ | nop => cases h; exact .of_eq rfl rfl
  | spawned => cases h
  | spawn _ _ _ | spawnAtLen _ _ => exact onSpawn_inner (by simpa only [onC] using h)
  | spawnAtLoad a d =>
    exact (Inner.of_eq (v' := { v with nEarly := v.nEarly + 1 }) rfl rfl).trans
      (onSpawn_inner (by simpa only [onC] using h))
  | src k =>
    cases k <;> simp only [onC, bind, Except.bind] at h
    case more =>
      repeat' split at h
      all_goals cases h
      exact .of_eq rfl rfl
    all_goals
      split at h
      · cases h
      · next v1 h1 =>
        cases h
        exact (cStep_inner h1).trans (.of_eq rfl rfl)

theorem onObs_inner {e : CEv} (h : onObs v e = .ok v') : Inner v v' := by
  unfold onObs at h
  split at h <;> cases h
  exact .of_eq rfl rfl

theorem ensureSteal_inner (v : VS cfg) (i : Nat) : Inner v (ensureSteal v i) := by
  unfold ensureSteal
  repeat' split
  all_goals exact .of_eq rfl rfl

theorem onW_inner {i : Nat} {e : WEv} (h : onW v i e = .ok v') : Inner v v' := by
  unfold onW at h
  split at h
  · cases h
  · have hes := ensureSteal_inner v i
    cases e with
    | start => simp only at h; split at h <;> cases h; exact .of_eq rfl rfl
    | sd _ | inc | ok _ | fail _ | sent _ _ | dec | setErr | sentWake => exact wStep_inner h
    | pop _ | closed => exact hes.trans (wStep_inner h)
    | wait =>
      simp only at h
      split at h
      · split at h
        · cases h; exact hes.trans (.of_eq rfl rfl)
        · simp only [Except.map] at h
          split at h
          · cases h
          · next v1 h1 =>
            cases h
            exact (hes.trans (wStep_inner h1)).trans (.of_eq rfl rfl)
      · cases h; exact hes.trans (.of_eq rfl rfl)
      · cases h
    | woke => cases h; exact .of_eq rfl rfl
    | exit =>
      simp only at h
      split at h
      · cases h; exact .of_eq rfl rfl
      · exact wStep_inner h
      · cases h

theorem pathStep_sys {l : Label} (h : pathStep v l = .ok v') :
    MT.step v.path.sys l = some v'.path.sys ∧ v'.inCall = v.inCall := by
  unfold pathStep at h
  split at h
  · rename_i p hp
    cases h
    exact ⟨Path.step_sys hp, rfl⟩
  · cases h

theorem onEv_J {e : Ev} (hj : J v rets) (h : onEv v e = .ok v') : J v' (rets ++ dataRets [e]) := by
  have hj0 : ∀ b, v.inCall = b → J0 v.path.sys b rets := fun b hb => hb ▸ hj
  cases e <;> simp only [onEv] at h
  case ret r =>
    split at h
    · cases h
    next hin =>
    split at h <;> cases h
    next hp => exact J0_ret (hj0 true (by simpa using hin)) (by simpa using hp)
  all_goals simp only [dataRets, List.append_nil]
  case call =>
    split at h
    · cases h
    next hin =>
    have hj := hj0 false (by simpa using hin)
    split at h
    · next hf => cases h; exact J0_postcall hj hf
    · simp only [Except.map] at h
      split at h <;> cases h
      next v1 h1 => exact J0_call hj (pathStep_sys h1).1
  case drop =>
    split at h
    · cases h
    next hin =>
    obtain ⟨hs, hc⟩ := pathStep_sys h
    have hin : v.inCall = false := by simpa using hin
    unfold J
    rw [hc, hin]
    exact J0_drop (hj0 false hin) hs
  case c e =>
    split at h
    · cases h; exact hj
    · exact onC_inner h rets hj
  case obs e =>
    split at h
    · cases h; exact hj
    · exact onObs_inner h rets hj
  case w i e => exact onW_inner h rets hj

theorem dataRets_cons (e : Ev) (r : List Ev) : dataRets (e :: r) = dataRets [e] ++ dataRets r := by
  cases e with
  | ret x => cases x <;> simp [dataRets]
  | _ => simp [dataRets]

theorem replayFrom_J {cfg : Cfg} (evs : List Ev) : ∀ (v v' : VS cfg) (k : Nat) (rets : List Nat),
    J v rets → replayFrom v k evs = .ok v' → J v' (rets ++ dataRets evs) := by
  induction evs with
  | nil => intro v v' k rets hj h; simp only [replayFrom] at h; cases h; simpa [dataRets] using hj
  | cons e r ih =>
    intro v v' k rets hj h
    simp only [replayFrom] at h
    split at h
    · rename_i v1 h1
      have hj1 := onEv_J hj h1
      have := ih v1 v' (k + 1) _ hj1 h
      rw [dataRets_cons, ← List.append_assoc]
      exact this
    · cases h

theorem dataRets_congr (e : Ev) (a b : List Ev) (h : dataRets a = dataRets b) :
    dataRets (e :: a) = dataRets (e :: b) := by
  rw [dataRets_cons e a, dataRets_cons e b, h]

theorem dataRets_resolveSpawn (evs : List Ev) : dataRets (resolveSpawn evs) = dataRets evs := by
  fun_induction resolveSpawn evs <;>
    first
    | exact dataRets_congr _ _ _ (by assumption)
    | simp_all [dataRets]

theorem dataRets_placeSpawn (b : Bool) (evs : List Ev) : dataRets (placeSpawn b evs) = dataRets evs := by
  fun_induction placeSpawn b evs <;>
    first
    | exact dataRets_congr _ _ _ (by assumption)
    | (simp_all [dataRets]; done)
    | (split <;> simp_all [dataRets])

theorem dataRets_markStutter (b : Bool) (evs : List Ev) : dataRets (markStutter b evs) = dataRets evs := by
  fun_induction markStutter b evs <;>
    first
    | exact dataRets_congr _ _ _ (by assumption)
    | simp_all [dataRets]

theorem dataRets_prepare (evs : List Ev) : dataRets (prepare evs) = dataRets evs := by
  unfold prepare
  rw [dataRets_markStutter, dataRets_placeSpawn, dataRets_resolveSpawn]

theorem J_start (cfg : Cfg) : J (VS.start cfg) [] := by
  simp [J, J0, VS.start, Path.start, init, outside]

theorem replay_ok {cfg : Cfg} {evs : List Ev} {v : VS cfg} (h : replay cfg evs = .ok v) :
    replayFrom (VS.start cfg) 0 (prepare evs) = .ok v ∧ finalOk v.path.sys = true := by
  unfold replay at h
  split at h
  · next h1 =>
    split at h <;> cases h
    next hf => exact ⟨h1, hf⟩
  · cases h

theorem replay_returns (cfg : Cfg) (evs : List Ev) (v : VS cfg) (h : replay cfg evs = .ok v) :
    dataRets evs = v.path.sys.delivered := by
  obtain ⟨h1, hf⟩ := replay_ok h
  have hj := (replayFrom_J (prepare evs) _ _ 0 [] (J_start cfg) h1).1
  simp only [finalOk, Bool.and_eq_true, beq_iff_eq] at hf
  rw [dataRets_prepare, List.nil_append, hf.1] at hj
  simpa [pend] using hj.symm

end LzmaVerif.MT.Trace
