/-
  Fast encoder: the whole symbol loop.  If `parseRun` takes the symbols collected so far to the first `p` bytes of
  the data, it takes the list `loop` returns to the whole data.
-/
import LzmaVerif.Proofs.EncFastBase
import LzmaVerif.Proofs.EncFastStep

namespace LzmaVerif.EncNormal
open LzmaVerif Mf Lzma EncFast

/-- symbol `s`, covering `len` bytes, is valid at position `q` of the data in coder state `c` -/
def SymAt (d : Array UInt8) (dict q : Nat) (c : Coder) (s : Sym) (len : Nat) : Prop :=
  (s = .lit (byteAt d q) ∧ len = 1) ∨
  (s = .shortRep ∧ len = 1 ∧ byteAt d q = byteAt d (q - (c.rep0 + 1))) ∨
  (∃ i, s = .rep i len ∧ RepOk d q (min (d.size - q) 273) c len i) ∨
  (∃ dist, s = .mtch dist len ∧ ValidMatch d dict q (min 273 (d.size - q)) (len, dist))

end LzmaVerif.EncNormal

namespace LzmaVerif.EncFast
open LzmaVerif Mf Lzma
open LzmaVerif.Mf.Hc4 (Eqs)
open LzmaVerif.Lzma2W (histOf)

def RepsLt (c : Coder) (m : Nat) : Prop := c.rep0 < m ∧ c.rep1 < m ∧ c.rep2 < m ∧ c.rep3 < m

theorem RepsLt.rep {c : Coder} {m : Nat} (h : RepsLt c m) (i : Nat) : c.rep i < m := by
  obtain ⟨h0, h1, h2, h3⟩ := h
  rcases i with _ | _ | _ | i
  · exact h0
  · exact h1
  · exact h2
  · exact h3

theorem RepsLt.mono {c : Coder} {m m' : Nat} (h : RepsLt c m) (hle : m ≤ m') : RepsLt c m' :=
  ⟨Nat.lt_of_lt_of_le h.1 hle, Nat.lt_of_lt_of_le h.2.1 hle, Nat.lt_of_lt_of_le h.2.2.1 hle,
    Nat.lt_of_lt_of_le h.2.2.2 hle⟩

theorem RepsLt.lit {c : Coder} {m : Nat} (h : RepsLt c m) (b : Nat) : RepsLt (c.apply (.lit b)) m := h

theorem RepsLt.shortRep {c : Coder} {m : Nat} (h : RepsLt c m) : RepsLt (c.apply .shortRep) m := h

theorem RepsLt.mtch {c : Coder} {m : Nat} (h : RepsLt c m) (dist len : Nat) (hd : dist < m) :
    RepsLt (c.apply (.mtch dist len)) m := by
  obtain ⟨h0, h1, h2, h3⟩ := h
  exact ⟨hd, h0, h1, h2⟩

theorem RepsLt.repSym {c : Coder} {m : Nat} (h : RepsLt c m) (i len : Nat) :
    RepsLt (c.apply (.rep i len)) m := by
  obtain ⟨h0, h1, h2, h3⟩ := h
  rcases i with _ | _ | _ | i
  · exact ⟨h0, h1, h2, h3⟩
  · exact ⟨h1, h0, h2, h3⟩
  · exact ⟨h2, h0, h1, h3⟩
  · exact ⟨h3, h0, h1, h2⟩

theorem RepsLt.init_lit (b m : Nat) (hm : 1 ≤ m) : RepsLt (Coder.init.apply (.lit b)) m :=
  ⟨hm, hm, hm, hm⟩

theorem dist_lt_dictBuf {dict n dictBuf p x : Nat} (hdb : min dict n ≤ dictBuf) (hp : p ≤ n) (hxp : x < p)
    (hxd : x < dict) : x < dictBuf :=
  Nat.lt_of_lt_of_le (Nat.lt_min.mpr ⟨hxd, Nat.lt_of_lt_of_le hxp hp⟩) hdb

theorem fuel_step {n p len fuel : Nat} (hf : n - p ≤ fuel + 1) (hl : 1 ≤ len) : n - (p + len) ≤ fuel := by
  rw [Nat.sub_add_eq]
  exact Nat.le_trans (Nat.sub_le_sub_left hl _) (Nat.sub_le_of_le_add hf)

/-- what `parseRun` does on one valid symbol -/
theorem sym_run {d : Array UInt8} {dict : Nat} (dictBuf : Nat) (hdb : min dict d.size ≤ dictBuf) (h32 : dict ≤ 2 ^ 32)
    (s : Sym) (len p : Nat) (c : Coder) (hple : p ≤ d.size)
    (hsym : EncNormal.SymAt d dict p c s len)
    (hrp : RepsLt c p) (hrd : RepsLt c dict) :
    (∀ rest, parseRun dictBuf (s :: rest) c (histOf d p) = parseRun dictBuf rest (c.apply s) (histOf d (p + len))) ∧
      RepsLt (c.apply s) (p + len) ∧ RepsLt (c.apply s) dict := by
  have hsz := histOf_size d p
  rcases hsym with ⟨rfl, rfl⟩ | ⟨rfl, rfl, hbyte⟩ | ⟨i, rfl, hi, h2, hl, he⟩ | ⟨dist, rfl, h2, hl, _, hdp, hdd, he⟩
  · exact ⟨fun rest => histOf_succ d p ▸ parseRun_lit dictBuf _ _ _ _ (byteAt_lt d p),
      (hrp.lit _).mono (Nat.le_succ p), hrd.lit _⟩
  · have he : Eqs d p (c.rep0 + 1) 1 := fun i hi => Nat.lt_one_iff.mp hi ▸ hbyte
    exact ⟨fun rest => histOf_copy c.rep0 1 p hrp.1 he ▸
        parseRun_copy_step dictBuf .shortRep _ c _ c.rep0 1 trivial (fun _ hb => nomatch hb) rfl
          (hsz.symm ▸ hrp.1) (dist_lt_dictBuf hdb hple hrp.1 hrd.1),
      hrp.shortRep.mono (Nat.le_succ p), hrd.shortRep⟩
  · exact ⟨fun rest => histOf_copy (c.rep i) len p (hrp.rep i) he ▸
        parseRun_copy_step dictBuf (.rep i len) _ c _ (c.rep i) len
          ⟨hi, h2, Nat.le_trans hl (Nat.min_le_right _ _)⟩ (fun _ hb => nomatch hb) rfl
          (hsz.symm ▸ hrp.rep i) (dist_lt_dictBuf hdb hple (hrp.rep i) (hrd.rep i)),
      (hrp.repSym i len).mono (Nat.le_add_right _ _), hrd.repSym i len⟩
  · exact ⟨fun rest => histOf_copy dist len p hdp he ▸
        parseRun_copy_step dictBuf (.mtch dist len) _ c _ dist len
          ⟨h2, Nat.le_trans hl (Nat.min_le_left _ _), Nat.lt_of_lt_of_le hdd h32⟩ (fun _ hb => nomatch hb) rfl
          (hsz.symm ▸ hdp) (dist_lt_dictBuf hdb hple hdp hdd),
      (hrp.mtch dist len hdp).mono (Nat.le_add_right _ _), hrd.mtch dist len hdd⟩

/-- `c0`, `h0` are where the parse starts; `acc` (newest first) has taken `parseRun` to `c` and the first `p` bytes -/
theorem loop_valid {σ : Type} {F : Finder σ} {d : Array UInt8} {dict : Nat}
    (FS : FinderSound F d dict 273) (P : FastParams) (hP : P.ok) (nice dictBuf : Nat)
    (hdb : min dict d.size ≤ dictBuf) (h32 : dict ≤ 2 ^ 32) (c0 : Coder) (h0 : Hist) :
    ∀ (fuel p : Nat) (c : Coder) (mf : σ) (ms : List Match) (ra : Nat) (acc : List Sym),
      d.size - p ≤ fuel → p ≤ d.size → RepsLt c p → RepsLt c dict →
      FS.R mf → FS.pos mf = p + ra →
      (ra = 0 ∨ (ra = 1 ∧ ∀ m ∈ ms, ValidMatch d dict p (min 273 (d.size - p)) m)) →
      (∀ rest, parseRun dictBuf (acc.reverse ++ rest) c0 h0 = parseRun dictBuf rest c (histOf d p)) →
      ∃ c', parseRun dictBuf (loop F P nice d fuel p c mf ms ra acc) c0 h0 = some (c', histOf d d.size)
  | 0, p, c, mf, ms, ra, acc, hf, hple, _, _, _, _, _, hacc =>
    ⟨c, Nat.le_antisymm hple (Nat.le_of_sub_eq_zero (Nat.le_zero.mp hf)) ▸ parseRun_of_cont hacc⟩
  | fuel + 1, p, c, mf, ms, ra, acc, hf, hple, hrp, hrd, hR, hpos, hra, hacc => by
    simp only [loop]
    split
    · next hp =>
      have hs := nextSymbol_ok FS P hP nice p c mf ms ra hp hR hpos hra
      generalize nextSymbol F P nice d p c mf ms ra = st at hs
      obtain ⟨hl1, hlle, hsym, hmR, hmPos, hmRa⟩ := hs
      obtain ⟨hrun, hrp', hrd'⟩ := sym_run dictBuf hdb h32 st.sym st.len p c hple (hsym.imp_right Or.inr) hrp hrd
      refine loop_valid FS P hP nice dictBuf hdb h32 c0 h0 fuel (p + st.len) _ st.mf st.ms st.ra _
        (fuel_step hf hl1) hlle hrp' hrd' hmR hmPos (hmRa.imp_right fun h => ⟨h.1, h.2.2.2⟩) fun rest => ?_
      rw [List.reverse_cons, List.append_assoc, List.singleton_append, hacc, hrun]
    · next hp =>
      exact ⟨c, Nat.le_antisymm hple (Nat.not_lt.mp hp) ▸ parseRun_of_cont hacc⟩

end LzmaVerif.EncFast
