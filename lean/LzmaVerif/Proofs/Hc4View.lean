/-
  The finder as `find` and `skip` see it: the three hash tables only through their reads (the chain stays an array).
  On this view a step is arithmetic on positions and hashes, so the kernel can evaluate whole runs without the
  hash-table arrays (`Props/C01Hc4.lean`: the run witnesses).
-/
import LzmaVerif.Proofs.Hc4Hash
import LzmaVerif.Proofs.Hc4Inv

namespace LzmaVerif.Mf.Hc4

/-- a state with the three hash tables replaced by their read functions `i ↦ table.getD i 0` -/
structure View where
  t2 : Nat → Nat
  t3 : Nat → Nat
  t4 : Nat → Nat
  chain : Array Nat
  cp : Int
  lz : Nat
  pos : Nat

def State.view (s : State) : View :=
  ⟨(s.h2.getD · 0), (s.h3.getD · 0), (s.h4.getD · 0), s.chain, s.cyclicPos, s.lzPos, s.pos⟩

/-- a write into a slot that exists -/
def upd (t : Nat → Nat) (j v : Nat) : Nat → Nat := fun i => if j = i then v else t i

variable (P : Hc4Params) (c : Cfg) (d : Array UInt8)

def View.skip1 (v : View) : View :=
  if encMovePos P d v.pos ≠ 0 then
    let cp' : Int := if v.cp + 1 = (cyclicSize P c : Int) then 0 else v.cp + 1
    let hs := hashesAt P c d v.pos
    ⟨upd v.t2 hs.h2 (v.lz + 1), upd v.t3 hs.h3 (v.lz + 1), upd v.t4 hs.h4 (v.lz + 1),
      v.chain.setIfInBounds cp'.toNat (v.t4 hs.h4), cp', v.lz + 1, v.pos + 1⟩
  else { v with pos := v.pos + 1 }

def View.skip : Nat → View → View
  | 0, v => v
  | n + 1, v => View.skip n (View.skip1 P c d v)

def View.find (v : View) : List Match :=
  if encMovePos P d v.pos = 0 then []
  else
    let cp' : Int := if v.cp + 1 = (cyclicSize P c : Int) then 0 else v.cp + 1
    let hs := hashesAt P c d v.pos
    findMatches P c d (v.chain.setIfInBounds cp'.toNat (v.t4 hs.h4)) cp' (v.lz + 1) v.pos (encMovePos P d v.pos)
      (v.lz + 1 - v.t2 hs.h2) (v.lz + 1 - v.t3 hs.h3) (v.t4 hs.h4)

/-- the tables have the sizes `HC4::new` gave them, so that every hash is a slot -/
def Sized (s : State) : Prop :=
  s.h2.size = P.hash.hash2Size ∧ s.h3.size = P.hash.hash3Size ∧ s.h4.size = hash4Size P.hash c.dict

theorem view_find (s : State) (hm : 1 ≤ c.mlmax) :
    (find P c d s).1 = s.view.find P c d := by
  by_cases h0 : encMovePos P d s.pos = 0
  · rw [find, if_pos ⟨by omega, h0⟩]
    exact (if_pos h0).symm
  · cases s
    unfold find View.find State.view movePos
    dsimp only at h0 ⊢
    rw [if_neg (fun h => h0 h.2), if_neg h0, if_pos h0]
    simp only [updateTables, setChain]

/-- the access log of `find`, on views (the tables have their initial sizes) -/
def View.findAcc (v : View) : List Access :=
  if encMovePos P d v.pos = 0 then []
  else
    let cp' : Int := if v.cp + 1 = (cyclicSize P c : Int) then 0 else v.cp + 1
    let hs := hashesAt P c d v.pos
    [.data v.pos 0 0, .data v.pos 1 0, .data v.pos 2 0, .data v.pos 3 0, .tbl hs.h2 P.hash.hash2Size,
      .tbl hs.h3 P.hash.hash3Size, .tbl hs.h4 (hash4Size P.hash c.dict), .tbl cp' v.chain.size] ++
    [.sub (v.lz + 1) (v.t2 hs.h2), .sub (v.lz + 1) (v.t3 hs.h3)] ++
    findMatchesAcc P c d (v.chain.setIfInBounds cp'.toNat (v.t4 hs.h4)) cp' (v.lz + 1) v.pos (encMovePos P d v.pos)
      (v.lz + 1 - v.t2 hs.h2) (v.lz + 1 - v.t3 hs.h3) (v.t4 hs.h4)

theorem view_findAcc (s : State) (hm : 1 ≤ c.mlmax)
    (hs : Sized P c s) : findAcc P c d s = s.view.findAcc P c d := by
  by_cases h0 : encMovePos P d s.pos = 0
  · rw [findAcc, if_pos ⟨by omega, h0⟩]
    exact (if_pos h0).symm
  · cases s
    obtain ⟨z2, z3, z4⟩ := hs
    unfold findAcc insertAcc View.findAcc State.view movePos
    dsimp only at h0 z2 z3 z4 ⊢
    rw [if_neg (fun h => h0 h.2), if_neg h0, if_pos h0]
    simp only [updateTables, setChain, z2, z3, z4]

theorem getD_upd (t : Array Nat) (j v i : Nat) (hj : j < t.size) :
    (t.setIfInBounds j v).getD i 0 = upd (t.getD · 0) j v i := by
  rw [getD_set, upd]
  by_cases h : j = i
  · rw [if_pos ⟨h, hj⟩, if_pos h]
  · rw [if_neg (fun h' => h h'.1), if_neg h]

theorem view_skip1 (h2 : 0 < P.hash.hash2Size) (h3 : 0 < P.hash.hash3Size)
    (s : State) (hs : Sized P c s) :
    (skip1 P c d s).view = s.view.skip1 P c d ∧ Sized P c (skip1 P c d s) := by
  obtain ⟨z2, z3, z4⟩ := hs
  have b2 : (hashesAt P c d s.pos).h2 < s.h2.size := z2 ▸ and_mask_lt _ _ h2
  have b3 : (hashesAt P c d s.pos).h3 < s.h3.size := z3 ▸ and_mask_lt _ _ h3
  have b4 : (hashesAt P c d s.pos).h4 < s.h4.size := z4 ▸ and_mask_lt _ _ (Nat.succ_pos _)
  cases s with
  | mk a2 a3 a4 ach acp alz apos =>
  unfold skip1 View.skip1 State.view movePos
  dsimp only
  by_cases h0 : encMovePos P d apos ≠ 0
  · rw [if_pos h0, if_pos h0, if_pos h0]
    refine ⟨?_, Array.size_setIfInBounds.trans z2, Array.size_setIfInBounds.trans z3,
      Array.size_setIfInBounds.trans z4⟩
    simp only [updateTables, setChain, View.mk.injEq, and_true]
    exact ⟨funext fun i => getD_upd _ _ _ i b2, funext fun i => getD_upd _ _ _ i b3,
      funext fun i => getD_upd _ _ _ i b4⟩
  · rw [if_neg h0, if_neg h0, if_neg h0]
    exact ⟨rfl, z2, z3, z4⟩

theorem view_skip (h2 : 0 < P.hash.hash2Size) (h3 : 0 < P.hash.hash3Size)
    (n : Nat) : ∀ s, Sized P c s →
      (skip P c d n s).view = View.skip P c d n s.view ∧ Sized P c (skip P c d n s) := by
  induction n with
  | zero => intro s hs; exact ⟨rfl, hs⟩
  | succ n ih =>
    intro s hs
    obtain ⟨e, hs'⟩ := view_skip1 P c d h2 h3 s hs
    rw [skip, View.skip, ← e]
    exact ih _ hs'

def View.init : View :=
  ⟨fun _ => 0, fun _ => 0, fun _ => 0, Array.replicate (c.dict + P.chainExtra) 0, -1, c.dict + P.lzPosInitExtra, 0⟩

theorem view_init : (init P c).view = View.init P c := by
  simp only [State.view, init, View.init, getD_replicate]

def View.runScriptAux :
    List Nat → View → List (Nat × List Match) → List (Nat × List Match) × View
  | [], v, acc => (acc.reverse, v)
  | op :: rest, v, acc =>
    if decide (1 ≤ v.pos ∧ d.size ≤ v.pos) then (acc.reverse, v)
    else if op = 0 then
      View.runScriptAux rest (v.skip1 P c d) ((v.pos, v.find P c d) :: acc)
    else View.runScriptAux rest (View.skip P c d op v) acc

theorem view_runScriptAux (h2 : 0 < P.hash.hash2Size) (h3 : 0 < P.hash.hash3Size)
    (hm : 1 ≤ c.mlmax) (script : List Nat) : ∀ s acc, Sized P c s →
      (runScriptAux P c d script s acc).1 = (View.runScriptAux P c d script s.view acc).1 ∧
      (runScriptAux P c d script s acc).2.view = (View.runScriptAux P c d script s.view acc).2 ∧
      Sized P c (runScriptAux P c d script s acc).2 := by
  induction script with
  | nil => intro s acc hs; exact ⟨rfl, rfl, hs⟩
  | cons op rest ih =>
    intro s acc hs
    rw [runScriptAux, View.runScriptAux, show decide (1 ≤ s.view.pos ∧ d.size ≤ s.view.pos) = exhausted d s from rfl,
      show s.view.pos = s.pos from rfl]
    split
    · exact ⟨rfl, rfl, hs⟩
    · split
      · obtain ⟨e, hs'⟩ := view_skip1 P c d h2 h3 s hs
        dsimp only
        rw [find_snd P c d s hm, view_find P c d s hm, ← e]
        exact ih _ _ hs'
      · obtain ⟨e, hs'⟩ := view_skip P c d h2 h3 op s hs
        rw [← e]
        exact ih _ _ hs'

theorem runScript_view (h2 : 0 < P.hash.hash2Size) (h3 : 0 < P.hash.hash3Size)
    (hm : 1 ≤ c.mlmax) (script : List Nat) :
    (runScript P c d script).1 = (View.runScriptAux P c d script (View.init P c) []).1 ∧
    (runScript P c d script).2.view = (View.runScriptAux P c d script (View.init P c) []).2 ∧
    Sized P c (runScript P c d script).2 := by
  rw [← view_init]
  exact view_runScriptAux P c d h2 h3 hm script _ _ ⟨Array.size_replicate, Array.size_replicate, Array.size_replicate⟩

end LzmaVerif.Mf.Hc4

