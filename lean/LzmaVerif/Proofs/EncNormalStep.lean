/-
  Normal encoder: what `get_next_symbol` computes before the optimiser runs (`rep_lens`, `rep_best`, `main_len`,
  `opts[1]`), and the symbol a `(back, len)` pair stands for (`symOf`).
-/
import LzmaVerif.Proofs.EncFastSel
import LzmaVerif.Proofs.EncNormalPrice

namespace LzmaVerif.EncNormal
open LzmaVerif Mf Lzma Rc EncFast EncPrices
open LzmaVerif.Mf.Hc4 (Eqs)

/-- `opts[1]` as the first part of `get_next_symbol` leaves it: the literal or the byte-checked short rep -/
def Cand1 (d : Array UInt8) (p : Nat) (c : Coder) (o : Opt) : Prop :=
  o.optPrev = 0 ∧ o.prev1IsLiteral = false ∧
    (o.backPrev = -1 ∨ (o.backPrev = 0 ∧ byteAt d p = byteAt d (p - (c.rep0 + 1)))) ∧ o.price ≤ 1152

def LensOk (d : Array UInt8) (p avail : Nat) (c : Coder) (lens : List Nat) : Prop :=
  lens.length = 4 ∧ ∀ i, i < 4 → lens.getD i 0 = 0 ∨ RepOk d p avail c (lens.getD i 0) i

theorem repLens_ok (P : NormalParams) (hmin : P.matchLenMin = 2) (hreps : P.reps = 4) (d : Array UInt8)
    (p avail : Nat) (c : Coder) : LensOk d p avail c (repLens P d p avail c) := by
  unfold LensOk repLens
  rw [hreps, hmin]
  refine ⟨by simp only [List.length_map, List.length_range], ?_⟩
  intro i hi
  have hs := getMatchLen_spec d p (c.rep i) avail
  rw [List.getD_eq_getElem?_getD, List.getElem?_map, List.getElem?_range hi]
  simp only [Option.map_some, Option.getD_some]
  split
  · exact Or.inl rfl
  · exact Or.inr ⟨by omega, by omega, hs.1, hs.2⟩

theorem foldl_best (v : Nat → Nat) : ∀ (l : List Nat) (b : Nat),
    l.foldl (fun best rep => if v rep > v best then rep else best) b ∈ b :: l ∧
      ∀ x ∈ b :: l, v x ≤ v (l.foldl (fun best rep => if v rep > v best then rep else best) b)
  | [], b => ⟨List.mem_singleton_self b, fun x hx => Nat.le_of_eq (congrArg v (List.mem_singleton.mp hx))⟩
  | y :: ys, b => by
    obtain ⟨hm, hle⟩ := foldl_best v ys (if v y > v b then y else b)
    have hb := hle _ (List.mem_cons_self ..)
    rw [List.foldl_cons]
    refine ⟨?_, fun x hx => ?_⟩
    · rcases List.mem_cons.mp hm with h | h
      · rw [h]
        split
        · exact List.mem_cons_of_mem _ (List.mem_cons_self ..)
        · exact List.mem_cons_self ..
      · exact List.mem_cons_of_mem _ (List.mem_cons_of_mem _ h)
    · rcases List.mem_cons.mp hx with rfl | hx
      · refine Nat.le_trans ?_ hb
        split
        · omega
        · exact Nat.le_refl _
      · rcases List.mem_cons.mp hx with rfl | hx
        · refine Nat.le_trans ?_ hb
          split
          · exact Nat.le_refl _
          · omega
        · exact hle x (List.mem_cons_of_mem _ hx)

theorem repBest_lt (lens : List Nat) (hl : lens.length = 4) : repBest lens < 4 := by
  unfold repBest
  rcases List.mem_cons.mp (foldl_best (fun i => lens.getD i 0) (List.range lens.length) 0).1 with h | h
  · rw [h]
    exact Nat.succ_pos 3
  · exact hl ▸ List.mem_range.mp h

theorem repBest_max (lens : List Nat) (i : Nat) (hi : i < lens.length) :
    lens.getD i 0 ≤ lens.getD (repBest lens) 0 :=
  (foldl_best (fun i => lens.getD i 0) (List.range lens.length) 0).2 i (List.mem_cons_of_mem _ (List.mem_range.mpr hi))

theorem oat_modify_self (opts : Opts) (i : Nat) (f : Opt → Opt) (hi : i < opts.size) :
    oat (opts.modify i f) i = f (oat opts i) := by
  unfold oat
  rw [Array.getD_eq_getD_getElem?, Array.getD_eq_getD_getElem?, Array.getElem?_modify,
    Array.getElem?_eq_getElem hi]
  simp only [if_true, Option.map_some, Option.getD_some]

theorem lastMatch_mem (ms : List Match) (h : ms ≠ []) : lastMatch ms ∈ ms := by
  unfold lastMatch
  cases hms : ms.getLast? with
  | none => exact absurd (List.getLast?_eq_none_iff.mp hms) h
  | some m => simpa only [Option.getD_some] using List.mem_of_getLast? hms

theorem mainLenOf_nil : mainLenOf [] = 0 := rfl

theorem mainLenOf_ne (ms : List Match) (h : ms ≠ []) : mainLenOf ms = (lastMatch ms).1 := by
  unfold mainLenOf
  cases ms with
  | nil => exact absurd rfl h
  | cons m r => simp only [List.isEmpty_cons, Bool.false_eq_true, if_false]

theorem mainLenOf_eq (ms : List Match) : mainLenOf ms = (ms.getLast?.getD (0, 0)).1 := by
  cases ms <;> rfl

theorem initOpt1_ok (E : Env) (p : Nat) (c : Coder) (opts : Opts) (h1 : 1 < opts.size) :
    Cand1 E.d p c (oat (initOpt1 E p c opts) 1) ∧ (initOpt1 E p c opts).size = opts.size := by
  unfold initOpt1
  simp only
  split
  · next hsr =>
    have hlt := hsr.2
    rw [oat_modify_self _ _ _ h1] at hlt
    rw [oat_modify_self _ _ _ (by rw [Array.size_modify]; exact h1)]
    refine ⟨⟨rfl, rfl, Or.inr ⟨rfl, hsr.1.symm⟩, ?_⟩, by simp only [Array.size_modify]⟩
    have := litPrice_le E.pr E.ps (byteAt E.d p) (byteAt E.d (p - (c.rep0 + 1))) (byteAt E.d (p - 1)) p c.state
    simp only [Opt.set1] at hlt ⊢
    omega
  · rw [oat_modify_self _ _ _ h1]
    exact ⟨⟨rfl, rfl, Or.inl rfl, litPrice_le _ _ _ _ _ _ _⟩, by simp only [Array.size_modify]⟩

theorem symOf_lit (P : NormalParams) (d : Array UInt8) (q len : Nat) : symOf P d q (-1) len = .lit (byteAt d q) := by
  simp only [symOf, if_true]

theorem symOf_short (P : NormalParams) (hreps : P.reps = 4) (d : Array UInt8) (q : Nat) : symOf P d q 0 1 = .shortRep := by
  simp only [symOf, hreps]
  rw [if_neg (by decide), if_pos (by decide), if_pos trivial]

theorem symOf_rep (P : NormalParams) (hreps : P.reps = 4) (d : Array UInt8) (q rep len : Nat) (hr : rep < 4)
    (hl : 2 ≤ len) : symOf P d q (rep : Int) len = .rep rep len := by
  simp only [symOf, hreps]
  rw [if_neg (by omega), if_pos (by omega), if_neg (by omega)]
  simp only [Int.toNat_natCast]

theorem symOf_rep0 (P : NormalParams) (hreps : P.reps = 4) (d : Array UInt8) (q len : Nat) (hl : 2 ≤ len) :
    symOf P d q 0 len = .rep 0 len := by
  have := symOf_rep P hreps d q 0 len (by omega) hl
  simpa using this

theorem symOf_mtch (P : NormalParams) (hreps : P.reps = 4) (d : Array UInt8) (q dist len : Nat) :
    symOf P d q ((dist : Int) + (P.reps : Int)) len = .mtch dist len := by
  simp only [symOf, hreps]
  rw [if_neg (by omega), if_neg (by omega)]
  have : ((dist : Int) + ((4 : Nat) : Int) - ((4 : Nat) : Int)).toNat = dist := by omega
  rw [this]

end LzmaVerif.EncNormal
