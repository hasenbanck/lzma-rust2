import LzmaVerif.Proofs.Lzma2
import LzmaVerif.Proofs.XzPayloadEx
/-!
# Truncation of LZMA2 streams

Decoder-only: the chunk loop is monotone in its input (`chunkLoop_ext`, `decode_ext` in `Proofs/Lzma2Reader.lean`): every
read of the loop is a pattern match on header bytes or a length-checked `take` (`ChunkAt.ext`); in particular the body of
an LZMA chunk is cut out with `take comp` BEFORE the range decoder runs, so the range decoder never sees the cut.

`payloadTrunc_of_chunksOk`: `Xz.PayloadTrunc`, with which `Xz.xz_trunc_not_ok` is stated, holds for writer-model payloads
(`Xz.xz_trunc` itself has no such hypothesis).
-/
namespace LzmaVerif.Lzma2
open LzmaVerif Lzma Prog Rc

/-- **A truncated LZMA2 stream is never accepted** (decoder only): accepted with `r.consumed` bytes consumed ⇒ no shorter
    prefix is accepted, whatever the output cap. -/
theorem decode_trunc {dict : Nat} {preset : Array Nat} {input : List Nat} {cap : Nat} {r : DecOk}
    (h : decode dict preset input cap = .ok r) (k : Nat) (hk : k < r.consumed) (cap' : Nat) (r' : DecOk) :
    decode dict preset (input.take k) cap' ≠ .ok r' := by
  intro h'
  -- both runs are runs on `input` under the larger cap, so they agree; the short one cannot have consumed `≥ consumed`
  have hn := Xz.lzma2_consumed_le h'
  have e := decode_ext h' (input.drop k) (Nat.le_max_right cap cap')
  rw [List.take_append_drop, ← List.append_nil input, decode_ext h [] (Nat.le_max_left cap cap')] at e
  cases e
  rw [List.length_take] at hn
  omega

/-- **Truncated writer-model LZMA2 stream.**  For every valid event sequence (hypotheses of `lzma2_roundtrip`): no
    proper prefix of the writer model's bytes is accepted by the reader, whatever the cap. -/
theorem lzma2_trunc (dict : Nat) (preset : Array Nat) (pb : Nat) (hpb : pb ≤ 224)
    (hlclp : (paramsOfProps pb).lc + (paramsOfProps pb).lp ≤ 4)
    (chunks : List Chunk) (data : List Nat) (hok : ChunksOk pb chunks (initW dict preset pb) data)
    (bytes : List Nat) (henc : encodeChunks pb chunks (initW dict preset pb) [] = some bytes)
    (k : Nat) (hk : k < bytes.length) (cap : Nat) (r : DecOk) :
    decode dict preset (bytes.take k) cap ≠ .ok r := by
  obtain ⟨bytes', henc', hdec⟩ := lzma2_roundtrip dict preset pb hpb hlclp chunks data hok
  rw [henc] at henc'
  cases henc'
  have h := hdec [] data.length (Nat.le_refl _)
  rw [List.append_nil] at h
  exact decode_trunc h k hk cap r

theorem payloadTrunc_of_payloadOk {dict : Nat} {payload filtered : List Nat}
    (h : Xz.PayloadOk dict payload filtered) : Xz.PayloadTrunc dict payload := by
  intro i cap hi r
  obtain ⟨chunks, hdec⟩ := h [] filtered.length (Nat.le_refl _)
  rw [List.append_nil] at hdec
  exact decode_trunc hdec i hi cap r

/-- **`Xz.PayloadTrunc`** (the truncation half of `Xz.Strm.OkT`) holds for the LZMA2 payload the writer model produces for
    a valid event sequence. -/
theorem payloadTrunc_of_chunksOk (dict : Nat) (pb : Nat) (hpb : pb ≤ 224)
    (hlclp : (paramsOfProps pb).lc + (paramsOfProps pb).lp ≤ 4)
    (chunks : List Chunk) (filtered payload : List Nat)
    (hok : ChunksOk pb chunks (initW dict #[] pb) filtered)
    (henc : encodeChunks pb chunks (initW dict #[] pb) [] = some payload) :
    Xz.PayloadTrunc dict payload :=
  payloadTrunc_of_payloadOk (payloadOk_of_chunksOk dict pb hpb hlclp chunks filtered payload hok henc)

end LzmaVerif.Lzma2

namespace LzmaVerif.Xz
open LzmaVerif Lzma Checks

/-- a single stored LZMA2 chunk has the truncation property: `PayloadTrunc` is satisfiable together with `PayloadOk`
    (`payloadOk_stored`) -/
theorem payloadTrunc_stored (dict : Nat) (raw : List Nat) (h1 : 1 ≤ raw.length) (h2 : raw.length ≤ 65536) :
    PayloadTrunc dict (1 :: (raw.length - 1) / 256 :: (raw.length - 1) % 256 :: (raw ++ [0])) :=
  Lzma2.payloadTrunc_of_payloadOk (payloadOk_stored dict raw h1 h2)

end LzmaVerif.Xz

#print axioms LzmaVerif.Lzma2.chunkLoop_ext
#print axioms LzmaVerif.Lzma2.decode_ext
#print axioms LzmaVerif.Lzma2.decode_trunc
#print axioms LzmaVerif.Lzma2.lzma2_trunc
#print axioms LzmaVerif.Lzma2.payloadTrunc_of_chunksOk
#print axioms LzmaVerif.Lzma2.payloadTrunc_of_payloadOk
