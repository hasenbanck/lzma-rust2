import LzmaVerif.Proofs.DecodeRaw
import LzmaVerif.Proofs.RcRoundtrip
/-!
# Truncation of raw LZMA streams

Two runs of the DECODER compared (`decRun_extBy`: they agree until the shorter misses a byte).  `decodeRaw_ext`: on a prefix
`decodeRaw` answers `UnexpectedEof` or what it answers on the whole; read one way this is `decodeRaw_ok_ext`, the other way
`decodeRaw_trunc` (accepted with `c` bytes consumed ⇒ `UnexpectedEof` on every shorter prefix).  Only `rc_trunc` speaks of the
range ENCODER's bytes (through `rc_roundtrip`); the statements about the model encoder's output are in `Proofs/Trunc.lean`.
-/
namespace LzmaVerif.Lzma
open LzmaVerif Prog Rc

theorem init_append {input : List Nat} {d0 : Dec} (h : Dec.init input = some d0) (rest : List Nat) :
    ∃ d0', Dec.init (input ++ rest) = some d0' ∧ ExtBy rest d0 d0' := by
  obtain ⟨b1, b2, b3, b4, tl, rfl, rfl⟩ := init_inv h
  exact ⟨_, init_some b1 b2 b3 b4 (tl ++ rest), rfl, rfl, rfl, rfl, rfl⟩

/-- **A truncated range-coder stream makes the decoder run out, for every decision program**: it cannot start (fewer than 5
    bytes) or the run ends having read past the end. -/
theorem decRun_trunc {α : Type} (prog : Prog α) (ps : Probs) (input : List Nat) (d0' : Dec) (a' : α) (ps' : Probs)
    (e' : Dec) (hinit' : Dec.init input = some d0') (hrun' : prog.decRun ps d0' = (a', ps', e'))
    (k : Nat) (hk : k < input.length - e'.normalize.inp.length) :
    Dec.init (input.take k) = none ∨
    ∃ d0 a ps₁ e, Dec.init (input.take k) = some d0 ∧ prog.decRun ps d0 = (a, ps₁, e) ∧ e.normalize.over > 0 := by
  cases hinit : Dec.init (input.take k) with
  | none => exact .inl rfl
  | some d0 =>
    obtain ⟨d0'', hi, hext⟩ := init_append hinit (input.drop k)
    rw [List.take_append_drop, hinit'] at hi
    cases hi
    rcases hrun : prog.decRun ps d0 with ⟨a, ps₁, e⟩
    refine .inr ⟨d0, a, ps₁, e, rfl, hrun, ?_⟩
    rcases decRun_extBy _ _ _ _ _ hext a a' ps₁ ps' e e' hrun hrun' with ho | ⟨_, _, he⟩
    · exact Nat.lt_of_lt_of_le ho (normalize_over_le e)
    -- the same run: had the final normalisation found its byte too, the long run would have left the surplus unread
    · refine (normalize_ext he).resolve_right fun hen => ?_
      have hl := congrArg List.length hen.2.2.2.2
      rw [List.length_append, List.length_drop] at hl
      omega

/-- … in particular for the model encoder's output (hypotheses of `rc_roundtrip`): every proper prefix of the
    encoded bytes makes the decoder run out -/
theorem rc_trunc {α : Type} (prog : Prog α) (bits : List Bool) (ps : Probs) (hps : ProbsOk ps)
    (a : α) (ps' : Probs) (e' : Enc)
    (henc : prog.encRun bits ps Enc.init = some (a, [], ps', e')) (k : Nat) (hk : k < e'.bytes.length) :
    Dec.init (e'.bytes.take k) = none ∨
    ∃ d0 a₁ ps₁ e, Dec.init (e'.bytes.take k) = some d0 ∧ prog.decRun ps d0 = (a₁, ps₁, e) ∧
      e.normalize.over > 0 := by
  obtain ⟨d0', d', hinit, hdec, hinp, _⟩ := rc_roundtrip prog bits ps hps a ps' e' henc []
  rw [List.append_nil] at hinit
  exact decRun_trunc prog ps e'.bytes d0' a ps' d' hinit hdec k (by rw [hinp]; simpa using hk)

/-- what `rawFinish` makes of two final decoder states of which the second has the bytes `x` more left -/
theorem rawResult_ext (preset : Array Nat) (dictBuf : Nat) (size : Option Nat) (len : Nat) (r : LoopRes) {x : List Nat}
    {e e' : Dec} (he : ExtBy x e e') :
    rawResult preset dictBuf size len r e = .err .eof ∨
      rawResult preset dictBuf size (len + x.length) r e' = rawResult preset dictBuf size len r e := by
  have h0 : ¬ e.over > 0 := by rw [he.2.2.1]; exact Nat.lt_irrefl 0
  have h0' : ¬ e'.over > 0 := by rw [he.2.2.2.1]; exact Nat.lt_irrefl 0
  rcases normalize_ext he with ho | hn
  · -- the final normalisation misses a byte: `UnexpectedEof` wherever the decoder normalises, else the same error
    unfold rawResult rawFinish
    cases r.stop <;> cases size <;>
      simp only [Stop.isRepeatErr, Bool.false_eq_true, if_false, if_true, if_pos ho, if_neg h0, if_neg h0', true_or, or_true]
  · right
    have e1 : ¬ e.normalize.over > 0 := by rw [hn.2.2.1]; exact Nat.lt_irrefl 0
    have e2 : ¬ e'.normalize.over > 0 := by rw [hn.2.2.2.1]; exact Nat.lt_irrefl 0
    have e3 : len + x.length - e'.normalize.inp.length = len - e.normalize.inp.length := by
      rw [hn.2.2.2.2, List.length_append]; omega
    unfold rawResult rawFinish
    cases r.stop <;>
      simp only [Stop.isRepeatErr, Bool.false_eq_true, if_false, if_true, if_neg h0, if_neg h0', if_neg e1, if_neg e2, e3]

/-- **`decodeRaw` is monotone in its input**: on a prefix it misses a byte, or it gives the answer it gives on the whole. -/
theorem decodeRaw_ext (pr : Params) (dictBuf : Nat) (preset : Array Nat) (size : Option Nat) (input rest : List Nat)
    (cap : Nat) :
    decodeRaw pr dictBuf preset size input cap = .err .eof ∨
      decodeRaw pr dictBuf preset size (input ++ rest) cap = decodeRaw pr dictBuf preset size input cap := by
  cases hinit : Dec.init input with
  | none =>
    cases input with
    | nil => exact .inl rfl
    | cons b0 tl =>
      by_cases hb : b0 ≠ 0
      · right; simp only [decodeRaw, List.cons_append, if_pos hb]
      · left; simp only [decodeRaw, if_neg hb, hinit]
  | some d0 =>
    obtain ⟨d0', hinit', hext⟩ := init_append hinit rest
    rcases hrun : (rawProg pr dictBuf preset size cap).decRun (rawPs0 pr) d0 with ⟨r, ps, e⟩
    rcases hrun' : (rawProg pr dictBuf preset size cap).decRun (rawPs0 pr) d0' with ⟨r', ps', e'⟩
    rw [decodeRaw_run pr dictBuf preset size cap hinit' hrun', decodeRaw_run pr dictBuf preset size cap hinit hrun,
      List.length_append]
    rcases decRun_extBy _ _ _ _ _ hext r r' ps ps' e e' hrun hrun' with ho | ⟨rfl, _, he⟩
    · exact .inl (rawResult_over0 _ _ _ _ _ _ ho)
    · exact rawResult_ext preset dictBuf size _ r he

/-- the cap only bounds the number of symbols -/
theorem decodeRaw_cap_mono {pr : Params} {dictBuf : Nat} {preset : Array Nat} {size : Option Nat}
    {input : List Nat} {cap cap' : Nat} {out : Array Nat} {c : Nat} {parse : List Sym}
    (h : decodeRaw pr dictBuf preset size input cap = .ok out c parse) (hcap : cap ≤ cap') :
    decodeRaw pr dictBuf preset size input cap' = .ok out c parse := by
  obtain ⟨b1, b2, b3, b4, tl, r, ps, e, rfl, hrun, _, _, hstop⟩ := decodeRaw_ok_inv h
  have hne : r.stop ≠ .fuel := by
    rcases hstop with hs | ⟨hs, _⟩ <;> rw [hs] <;> exact Stop.noConfusion
  rw [decodeRaw_run pr dictBuf preset size cap' (init_some b1 b2 b3 b4 tl) (rawProg_decRun_mono hcap hrun hne),
    ← decodeRaw_run pr dictBuf preset size cap (init_some b1 b2 b3 b4 tl) hrun, h]

/-- **An accepted raw LZMA stream stays accepted, with the same answer, whatever follows it and however much the cap is
    raised.** -/
theorem decodeRaw_ok_ext {pr : Params} {dictBuf : Nat} {preset : Array Nat} {size : Option Nat}
    {input : List Nat} {cap : Nat} {out : Array Nat} {c : Nat} {parse : List Sym}
    (h : decodeRaw pr dictBuf preset size input cap = .ok out c parse) (rest : List Nat) {cap' : Nat}
    (hcap : cap ≤ cap') : decodeRaw pr dictBuf preset size (input ++ rest) cap' = .ok out c parse := by
  have h' := decodeRaw_cap_mono h hcap
  rcases decodeRaw_ext pr dictBuf preset size input rest cap' with e | e
  · cases e.symm.trans h'
  · exact e.trans h'

/-- **A raw LZMA stream on which the model runs into its cap still does so whatever follows it.** -/
theorem decodeRaw_capped_ext {pr : Params} {dictBuf : Nat} {preset : Array Nat} {size : Option Nat}
    {input : List Nat} {cap : Nat} (h : decodeRaw pr dictBuf preset size input cap = .capped) (rest : List Nat) :
    decodeRaw pr dictBuf preset size (input ++ rest) cap = .capped := by
  rcases decodeRaw_ext pr dictBuf preset size input rest cap with e | e
  · cases e.symm.trans h
  · exact e.trans h

/-- **A truncated raw LZMA stream is never accepted** (decoder only): accepted with `c` bytes consumed ⇒ `UnexpectedEof` on
    every shorter prefix. -/
theorem decodeRaw_trunc {pr : Params} {dictBuf : Nat} {preset : Array Nat} {size : Option Nat}
    {input : List Nat} {cap : Nat} {out : Array Nat} {c : Nat} {parse : List Sym}
    (h : decodeRaw pr dictBuf preset size input cap = .ok out c parse) (k : Nat) (hk : k < c) :
    decodeRaw pr dictBuf preset size (input.take k) cap = .err .eof := by
  -- otherwise the prefix is answered like the whole, which consumed more bytes than the prefix has
  refine (decodeRaw_ext pr dictBuf preset size (input.take k) (input.drop k) cap).resolve_right fun e => ?_
  rw [List.take_append_drop, h] at e
  obtain ⟨_, _, _, _, _, _, _, _, _, _, _, hc, _⟩ := decodeRaw_ok_inv e.symm
  rw [List.length_take] at hc
  omega

theorem decodeRaw_trunc_not_ok {pr : Params} {dictBuf : Nat} {preset : Array Nat} {size : Option Nat}
    {input : List Nat} {cap : Nat} {out : Array Nat} {c : Nat} {parse : List Sym}
    (h : decodeRaw pr dictBuf preset size input cap = .ok out c parse) (k : Nat) (hk : k < c)
    (out' : Array Nat) (c' : Nat) (parse' : List Sym) :
    decodeRaw pr dictBuf preset size (input.take k) cap ≠ .ok out' c' parse' := by
  rw [decodeRaw_trunc h k hk]
  intro hc; cases hc

end LzmaVerif.Lzma
