/-
  Simulation: the renormalising HC4 (`Model/Hc4Renorm.lean`, `movePosN` / `findN` / `skipN` / `runScriptN`) reports
  exactly the matches of the logical HC4 (`Model/Hc4.lean`), for every input, script, start value of `lz_pos` and
  normalisation threshold.
-/
import LzmaVerif.Proofs.MfRenorm
import LzmaVerif.Proofs.Hc4Find
namespace LzmaVerif.Mf.Hc4

/-- N: a state of the renormalising finder, L: of the logical one -/
structure Sim (cs : Nat) (sN sL : State) : Prop where
  pos : sN.pos = sL.pos
  cp : sN.cyclicPos = sL.cyclicPos
  lzN : cs ≤ sN.lzPos
  lzL : cs ≤ sL.lzPos
  h2 : TRel cs sN.lzPos sL.lzPos sN.h2 sL.h2
  h3 : TRel cs sN.lzPos sL.lzPos sN.h3 sL.h3
  h4 : TRel cs sN.lzPos sL.lzPos sN.h4 sL.h4
  chain : TRel cs sN.lzPos sL.lzPos sN.chain sL.chain

variable (N : NormParams) (P : Hc4Params) (c : Cfg) (d : Array UInt8)

theorem initN_sim (hP : P.ok) (lzStart : Nat) (hs : cyclicSize P c ≤ lzStart) :
    Sim (cyclicSize P c) (initN P c lzStart) (init P c) := by
  have hL : cyclicSize P c ≤ c.dict + P.lzPosInitExtra := by
    unfold cyclicSize; rw [hP.cyclicExtra, hP.2.2.2.2.1]; exact Nat.le_refl _
  exact ⟨rfl, rfl, hs, hL, TRel.replicate hs hL _, TRel.replicate hs hL _, TRel.replicate hs hL _,
    TRel.replicate hs hL _⟩

theorem movePosN_sim (hN : N.ok) {sN sL : State}
    (h : Sim (cyclicSize P c) sN sL) (avail : Nat) :
    Sim (cyclicSize P c) (movePosN N P c sN avail) (movePos P c sL avail) := by
  obtain ⟨hpos, hcp, hlN, hlL, h2, h3, h4, hch⟩ := h
  unfold movePosN movePos
  by_cases ha : avail ≠ 0
  · rw [if_pos ha, if_pos ha]
    by_cases hm : sN.lzPos + 1 = N.maxPos
    · -- normalisation: `off = maxPos - cyclic_size = (lz_pos + 1) - cyclic_size`
      have hoff : N.offBase - cyclicSize P c = (sN.lzPos + 1) - cyclicSize P c := by rw [hN, ← hm]
      simp only [if_pos hm, normalizeSt, hoff]
      have hc1 : cyclicSize P c ≤ sN.lzPos + 1 := Nat.le_succ_of_le hlN
      exact ⟨by simp only [hpos], by simp only [hcp], Nat.le_of_eq (Nat.sub_sub_self hc1).symm,
        Nat.le_succ_of_le hlL, h2.succ.norm hc1, h3.succ.norm hc1, h4.succ.norm hc1, hch.succ.norm hc1⟩
    · simp only [if_neg hm]
      exact ⟨by simp only [hpos], by simp only [hcp], Nat.le_succ_of_le hlN, Nat.le_succ_of_le hlL, h2.succ,
        h3.succ, h4.succ, hch.succ⟩
  · rw [if_neg ha, if_neg ha]
    exact ⟨by simp only [hpos], hcp, hlN, hlL, h2, h3, h4, hch⟩

/-- the chain walk depends on the entries only through `delta` and the distance test -/
theorem chainLoop_sim (hge : P.chainStopGe = true) {cs lN lL : Nat}
    {chN chL : Array Nat} (hc : TRel cs lN lL chN chL) (cp : Int) (p mll nll : Nat) :
    ∀ (depth curN curL : Nat), ERel cs lN lL curN curL → ∀ (lenBest : Nat) (acc : List Match),
      chainLoop P d chN cs cp lN p mll nll depth curN lenBest acc =
        chainLoop P d chL cs cp lL p mll nll depth curL lenBest acc := by
  intro depth
  induction depth with
  | zero => intro curN curL _ lenBest acc; simp only [chainLoop]
  | succ depth ih =>
    intro curN curL hcur lenBest acc
    simp only [chainLoop, hge, if_true]
    by_cases hlt : lL - curL < cs
    · have hd := hcur.delta_eq hlt
      have e := ih _ _ (hc.get (chainIdx cs cp (lL - curL)).toNat)
      rw [hd]
      simp only [e]
    · have hltN : ¬ lN - curN < cs := fun h => hlt (hcur.lt_iff.mp h)
      have h1 : decide (lN - curN ≥ cs) = true := decide_eq_true (by omega)
      have h2 : decide (lL - curL ≥ cs) = true := decide_eq_true (by omega)
      simp only [h1, h2, if_true]

theorem findMatches_sim (hP : P.ok) {lN lL : Nat}
    {chN chL : Array Nat} (hc : TRel (cyclicSize P c) lN lL chN chL) (cp : Int) (p avail : Nat)
    {e2N e2L e3N e3L curN curL : Nat}
    (h2 : ERel (cyclicSize P c) lN lL e2N e2L) (h3 : ERel (cyclicSize P c) lN lL e3N e3L)
    (hcur : ERel (cyclicSize P c) lN lL curN curL) :
    findMatches P c d chN cp lN p avail (lN - e2N) (lN - e3N) curN =
      findMatches P c d chL cp lL p avail (lL - e2L) (lL - e3L) curL := by
  rw [findMatches_eq P c d hP, findMatches_eq P c d hP, hashHits_congr d p _ (DRel.of h2) (DRel.of h3)]
  simp only [tail, chainLoop_sim P d hP.chainStopGe hc cp p _ _ _ _ _ hcur]

theorem updateTables_lzPos (s : State) (hs : Hashes) : (updateTables s hs).lzPos = s.lzPos := by
  cases s; rfl

theorem setChain_lzPos (s : State) (v : Nat) : (setChain s v).lzPos = s.lzPos := by
  cases s; rfl

theorem updateTables_sim {cs : Nat} {sN sL : State} (h : Sim cs sN sL) (hs : Hashes) :
    Sim cs (updateTables sN hs) (updateTables sL hs) := by
  cases sN; cases sL
  exact ⟨h.pos, h.cp, h.lzN, h.lzL, h.h2.set (ERel.self _ _ _) _, h.h3.set (ERel.self _ _ _) _,
    h.h4.set (ERel.self _ _ _) _, h.chain⟩

theorem setChain_sim {cs : Nat} {sN sL : State} (h : Sim cs sN sL) {vN vL : Nat}
    (hv : ERel cs sN.lzPos sL.lzPos vN vL) : Sim cs (setChain sN vN) (setChain sL vL) := by
  cases sN; cases sL
  have hcp : _ = _ := h.cp
  subst hcp
  exact ⟨h.pos, rfl, h.lzN, h.lzL, h.h2, h.h3, h.h4, h.chain.set hv _⟩

theorem findAfter_sim (hP : P.ok) {s1N s1L : State}
    (h : Sim (cyclicSize P c) s1N s1L) (p avail : Nat) :
    (findAfter P c d s1N p avail).1 = (findAfter P c d s1L p avail).1 ∧
    Sim (cyclicSize P c) (findAfter P c d s1N p avail).2 (findAfter P c d s1L p avail).2 := by
  unfold findAfter
  by_cases hc : avail < c.mlmax ∧ avail = 0
  · rw [if_pos hc, if_pos hc]; exact ⟨rfl, h⟩
  · rw [if_neg hc, if_neg hc]
    have hcur := h.h4.get (hashesAt P c d p).h4
    have hS := setChain_sim (updateTables_sim h (hashesAt P c d p))
      (by rw [updateTables_lzPos, updateTables_lzPos]; exact hcur)
    refine ⟨?_, hS⟩
    dsimp only
    rw [setChain_lzPos, updateTables_lzPos, setChain_lzPos, updateTables_lzPos, hS.cp]
    exact findMatches_sim P c d hP (by have := hS.chain; rwa [setChain_lzPos, updateTables_lzPos,
      setChain_lzPos, updateTables_lzPos] at this) _ p avail (h.h2.get _) (h.h3.get _) hcur

theorem findN_sim (hN : N.ok) (hP : P.ok)
    {sN sL : State} (h : Sim (cyclicSize P c) sN sL) :
    (findN N P c d sN).1 = (find P c d sL).1 ∧
    Sim (cyclicSize P c) (findN N P c d sN).2 (find P c d sL).2 := by
  rw [find_eq_findAfter]
  unfold findN
  rw [h.pos]
  exact findAfter_sim P c d hP (movePosN_sim N P c hN h _) _ _

theorem skip1After_sim {s1N s1L : State}
    {cs : Nat} (h : Sim cs s1N s1L) (p avail : Nat) :
    Sim cs (skip1After P c d s1N p avail) (skip1After P c d s1L p avail) := by
  unfold skip1After
  by_cases ha : avail ≠ 0
  · rw [if_pos ha, if_pos ha]
    exact updateTables_sim (setChain_sim h (h.h4.get _)) _
  · rw [if_neg ha, if_neg ha]; exact h

theorem skip1N_sim (hN : N.ok)
    {sN sL : State} (h : Sim (cyclicSize P c) sN sL) :
    Sim (cyclicSize P c) (skip1N N P c d sN) (skip1 P c d sL) := by
  rw [skip1_eq_skip1After]
  unfold skip1N
  rw [h.pos]
  exact skip1After_sim P c d (movePosN_sim N P c hN h _) _ _

theorem skipN_sim (hN : N.ok) (n : Nat) :
    ∀ {sN sL : State}, Sim (cyclicSize P c) sN sL →
      Sim (cyclicSize P c) (skipN N P c d n sN) (skip P c d n sL) := by
  induction n with
  | zero => intro sN sL h; exact h
  | succ n ih => intro sN sL h; exact ih (skip1N_sim N P c d hN h)

theorem runScriptAuxN_sim (hN : N.ok) (hP : P.ok)
    (script : List Nat) :
    ∀ {sN sL : State} (acc : List (Nat × List Match)), Sim (cyclicSize P c) sN sL →
      (runScriptAuxN N P c d script sN acc).1 = (runScriptAux P c d script sL acc).1 ∧
      Sim (cyclicSize P c) (runScriptAuxN N P c d script sN acc).2 (runScriptAux P c d script sL acc).2 := by
  induction script with
  | nil => intro sN sL acc h; exact ⟨rfl, h⟩
  | cons op rest ih =>
    intro sN sL acc h
    have hex : exhausted d sN = exhausted d sL := by unfold exhausted; rw [h.pos]
    simp only [runScriptAuxN, runScriptAux, hex]
    by_cases he : exhausted d sL = true
    · rw [if_pos he, if_pos he]; exact ⟨rfl, h⟩
    · rw [if_neg he, if_neg he]
      by_cases h0 : op = 0
      · simp only [h0, if_true]
        have hf := findN_sim N P c d hN hP h
        rw [hf.1, h.pos]
        exact ih _ hf.2
      · simp only [h0, if_false]
        exact ih _ (skipN_sim N P c d hN op h)

/-- with the source's `maxPos = 0x7FFFFFFF`: `lz_pos - entry` and the stored values fit 31 bits, whatever the input size -/
def LzB (s : State) : Prop :=
  cyclicSize P c ≤ s.lzPos ∧ s.lzPos < N.maxPos

theorem LzB.congr {N : NormParams} {P : Hc4Params} {c : Cfg} {s s' : State} (h : LzB N P c s) (e : s'.lzPos = s.lzPos) : LzB N P c s' := by
  unfold LzB; rw [e]; exact h

theorem movePosN_lzB (hN : N.ok) (s : State) (avail : Nat) (h : LzB N P c s) :
    LzB N P c (movePosN N P c s avail) := by
  obtain ⟨hlo, hhi⟩ := h
  unfold LzB movePosN
  by_cases ha : avail ≠ 0
  · rw [if_pos ha]
    by_cases hm : s.lzPos + 1 = N.maxPos
    · have hoff : N.offBase - cyclicSize P c = (s.lzPos + 1) - cyclicSize P c := by rw [hN, ← hm]
      simp only [if_pos hm, normalizeSt, hoff]
      constructor <;> omega
    · simp only [if_neg hm]
      constructor <;> omega
  · rw [if_neg ha]; exact ⟨hlo, hhi⟩

theorem findAfter_lzPos (s1 : State) (p avail : Nat) :
    (findAfter P c d s1 p avail).2.lzPos = s1.lzPos := by
  unfold findAfter
  split
  · rfl
  · simp only [setChain_lzPos, updateTables_lzPos]

theorem skip1After_lzPos (s1 : State) (p avail : Nat) :
    (skip1After P c d s1 p avail).lzPos = s1.lzPos := by
  unfold skip1After
  split
  · simp only [setChain_lzPos, updateTables_lzPos]
  · rfl

theorem skipN_lzB (hN : N.ok) (n : Nat) :
    ∀ s, LzB N P c s → LzB N P c (skipN N P c d n s) := by
  induction n with
  | zero => intro s h; exact h
  | succ n ih => intro s h; exact ih _ ((movePosN_lzB N P c hN s _ h).congr (skip1After_lzPos P c d _ _ _))

theorem runScriptAuxN_lzB (hN : N.ok)
    (script : List Nat) : ∀ (s : State) (acc : List (Nat × List Match)), LzB N P c s →
      LzB N P c (runScriptAuxN N P c d script s acc).2 := by
  induction script with
  | nil => intro s acc h; exact h
  | cons op rest ih =>
    intro s acc h
    simp only [runScriptAuxN]
    split
    · exact h
    · split
      · exact ih _ _ ((movePosN_lzB N P c hN s _ h).congr (findAfter_lzPos P c d _ _ _))
      · exact ih _ _ (skipN_lzB N P c d hN op s h)

end LzmaVerif.Mf.Hc4
