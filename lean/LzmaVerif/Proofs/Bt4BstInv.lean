/-
  (B5) (`bt4_tree_matches_valid`, `Props/C01Bt4.lean`) the binary-search-tree invariant `BInv` holds in every
  reachable BT4 state, and in a state satisfying `Inv` and `BInv` every match `find` reports - hash candidates AND
  tree walk, any depth - is a `ValidMatch`.  With the access log in bounds these make up `Good`, the invariant of the
  states reachable under `HypA`.
-/
import LzmaVerif.Proofs.Bt4BstLoop
namespace LzmaVerif.Mf.Bt4

/-- the tree part of the state invariant: `cyclic_pos` is the slot of the last inserted node, and the tree
    array is sorted (`TInv`) over the window of the next descent -/
def BInv (P : Bt4Params) (c : Cfg) (data : Array UInt8) (s : St) : Prop :=
  s.cyclicPos = (s.lzPos - 1) % cyclicSize P c ∧
  TInv data (cyclicSize P c) c.niceLen s.tree (s.lzPos + 1 - cyclicSize P c) s.lzPos

theorem init_binv {P : Bt4Params} {c : Cfg} {data : Array UInt8} (hH : Hyp P c data) (lg : Bool) :
    BInv P c data (init P c lg) := by
  have hcs := cs_eq hH.ok c
  constructor
  · show cyclicSize P c - 1 = (cyclicSize P c - 1) % cyclicSize P c
    rw [Nat.mod_eq_of_lt (by omega)]
  · intro q _ _
    have hz : ∀ i, (init P c lg).tree.getD i 0 = 0 := fun i => getD_replicate _ _
    constructor
    · intro x hx; unfold RS at hx; rw [hz] at hx; exact absurd hx (Reach.not_low (Nat.zero_le _))
    · intro x hx; unfold RS at hx; rw [hz] at hx; exact absurd hx (Reach.not_low (Nat.zero_le _))

variable {P : Bt4Params} {c : Cfg} {data : Array UInt8}

/-- what every walk of a non-pending step starts from -/
structure Descent (P : Bt4Params) (c : Cfg) (data : Array UInt8) (s : St) (k : Ctx) : Prop where
  core : KCore P c data k s.lzPos
  p : k.p = s.pos
  cyc : k.cyclicPos = (stepHs P c data s).st.cyclicPos
  cp : k.cyclicPos = (k.lzPos - 1) % k.cs
  tbl : TblOk k.cs s.lzPos (stepHs P c data s).st.tree
  cur : EntryOk k.cs s.lzPos (stepHs P c data s).cur
  inv : LoopInv data k.cs c.niceLen (k.p + 1) s.lzPos k.p (stepHs P c data s).st.tree
    (shl P (stepHs P c data s).st.cyclicPos + 1) (shl P (stepHs P c data s).st.cyclicPos) 0 0
    (stepHs P c data s).cur
  ti : TInv data k.cs c.niceLen (stepHs P c data s).st.tree (k.p + 1) s.lzPos

theorem step_binv {P : Bt4Params} {c : Cfg} {data : Array UInt8} (hH : Hyp P c data) {s : St}
    (hI : Inv P c data s) (hB : BInv P c data s) :
    (stepHs P c data s).st.cyclicPos = ((stepHs P c data s).st.lzPos - 1) % cyclicSize P c ∧
    TInv data (cyclicSize P c) c.niceLen (stepHs P c data s).st.tree (s.lzPos + 1 - cyclicSize P c) s.lzPos := by
  have hcsv := cs_eq hH.ok c
  have hlz := hI.lz
  have hst : (stepHs P c data s).st.cyclicPos = (if s.cyclicPos + 1 = cyclicSize P c then 0 else s.cyclicPos + 1) ∧
      (stepHs P c data s).st.lzPos = s.lzPos + 1 ∧ (stepHs P c data s).st.tree = s.tree := by
    unfold stepHs; rw [hashStage_st]; exact ⟨rfl, rfl, rfl⟩
  refine ⟨?_, hst.2.2 ▸ hB.2⟩
  rw [hst.1, hst.2.1, hB.1, succ_mod_cases _ _ (by omega)]
  congr 1
  omega

/-- bt4.rs:90-93 / :226-229: the walk starts with the two slots of the new node as holes -/
theorem descent {P : Bt4Params} {c : Cfg} {data : Array UInt8} (hH : Hyp P c data) {s : St}
    (hI : Inv P c data s) (hB : BInv P c data s) (hp : ¬ pending P c data s.pos) (a b : Nat) :
    Descent P c data s (ctxOf P c (stepHs P c data s).st a b) := by
  have S := step hH hI hp
  obtain ⟨hcp, hti⟩ := step_binv hH hI hB
  have h1 : (stepHs P c data s).st.lzPos = s.lzPos + 1 := S.lz
  have h2 : s.lzPos = (stepHs P c data s).st.pos - 1 + cyclicSize P c := (S.core a b).hi
  have h3 := cs_eq hH.ok c
  have hsize : 2 * cyclicSize P c ≤ (stepHs P c data s).st.tree.size := by
    rw [S.inv.treesize, Nat.mul_comm]; exact Nat.mul_le_mul_left _ (ok_factor hH.ok)
  have hti' : TInv data (cyclicSize P c) c.niceLen (stepHs P c data s).st.tree ((stepHs P c data s).st.pos - 1 + 1)
      s.lzPos := by
    rw [show (stepHs P c data s).st.pos - 1 + 1 = s.lzPos + 1 - cyclicSize P c by omega]; exact hti
  have hinit := loopInv_init (p := (stepHs P c data s).st.pos - 1) (by omega) (by omega) (by omega)
    (fun i => (S.inv.treeok i).le) hsize S.cur.le hti'
  rw [← h1, ← shl_eq_sl hH.ok hcp] at hinit
  exact ⟨S.core a b, S.pos, rfl, hcp, S.inv.treeok, S.cur, hinit, hti'⟩

/-- a walk started as `Descent` says ends with the tree sorted over the window of the next step -/
theorem Descent.walk {σ : Type} (hok : P.ok) {s : St} {k : Ctx} (D : Descent P c data s k)
    (hNn : k.niceLimit = min c.niceLen (data.size - k.p)) (hn0 : 0 < k.niceLimit)
    (probe : Probe σ) (J Q : σ → Prop) (hJQ : ∀ x, J x → Q x) (hprobe : ProbeBst c data k probe J Q)
    (x : σ) (hj : J x) (lg : Log) :
    TInv data k.cs c.niceLen
      (walk P data k probe (depthLimit P c) (stepHs P c data s).st.tree (shl P (stepHs P c data s).st.cyclicPos + 1)
        (shl P (stepHs P c data s).st.cyclicPos) 0 0 (stepHs P c data s).cur x lg).1 (k.lzPos + 1 - k.cs) k.lzPos ∧
    Q (walk P data k probe (depthLimit P c) (stepHs P c data s).st.tree (shl P (stepHs P c data s).st.cyclicPos + 1)
        (shl P (stepHs P c data s).st.cyclicPos) 0 0 (stepHs P c data s).cur x lg).2.1 := by
  have h1 := D.core.lz
  have h2 := D.core.hi
  have hpos : k.p = posOf k.cs (s.lzPos + 1) := by unfold posOf; omega
  have hNn' : k.niceLimit = nw data k.cs c.niceLen (s.lzPos + 1) := by unfold nw; rw [← hpos]; exact hNn
  -- from the result of the walk to the invariant with the new node as root
  have hfin : ∀ F, TblOk k.cs s.lzPos F →
      Post data k.cs (k.p + 1) s.lzPos k.niceLimit k.p (stepHs P c data s).st.tree F
        (shl P (stepHs P c data s).st.cyclicPos + 1) (shl P (stepHs P c data s).st.cyclicPos) (stepHs P c data s).cur →
      TInv data k.cs c.niceLen F (k.lzPos + 1 - k.cs) k.lzPos := by
    intro F hF hP
    have hti := D.ti
    rw [← D.cyc, shl_eq_sl hok D.cp, h1, hNn', hpos] at hP
    rw [hpos] at hti
    rw [h1]
    exact (post_top (by omega) (by unfold posOf; omega) hP hti fun i => (hF i).le).lo_mono (by unfold posOf; omega)
  obtain ⟨hpost, hq⟩ := walk_bst hok k D.core D.cp hNn' probe J Q hJQ hprobe (depthLimit P c) _ _ _ 0 0 _ x lg D.inv
    D.tbl D.cur hn0 hn0 hj
  exact ⟨hfin _ (walk_tree P data _ probe _ _ _ _ 0 0 _ x lg D.tbl D.cur).1 hpost, hq⟩

theorem Descent.skipTree (hok : P.ok) {s : St} {nl : Nat}
    (D : Descent P c data s (ctxOf P c (stepHs P c data s).st 0 nl))
    (hNn : nl = min c.niceLen (data.size - s.pos)) (hn0 : 0 < nl) (lg : Log) :
    BInv P c data (skipTree P c data { (stepHs P c data s).st with log := lg } nl (stepHs P c data s).cur) := by
  rw [skipTree_eq, skipLoop_eq_walk]
  exact ⟨D.cp, (D.walk hok (by rw [D.p]; exact hNn) hn0 _ _ _ (fun _ h => h) (skipProbe_bst c data _) () trivial lg).1⟩

theorem skipOne_binv (hH : Hyp P c data) {s : St}
    (hI : Inv P c data s) (hB : BInv P c data s) : BInv P c data (skipOne P c data s) := by
  rcases skipOne_cases hH s with ⟨_, he⟩ | ⟨hp, he⟩
  · rw [he]; exact hB
  · rw [he]
    have hn := hH.nice
    have h3 := (step hH hI hp).avail
    exact (descent hH hI hB hp 0 _).skipTree hH.ok rfl (by omega) _

/-- (B5) for one `find` in a state satisfying both invariants, which it keeps -/
theorem find_bst {P : Bt4Params} {c : Cfg} {data : Array UInt8} (hA : HypA P c data) {s : St}
    (hI : Inv P c data s) (hB : BInv P c data s) :
    BInv P c data (find P c data s).1 ∧
    ∀ m ∈ (find P c data s).2.toList, ValidMatch data c.dict s.pos (min c.mlmax (data.size - s.pos)) m := by
  have hH := hA.toHyp
  by_cases hp : pending P c data s.pos
  · rw [find_pending hH hp]
    exact ⟨hB, fun m hm => by simp at hm⟩
  have S := step hH hI hp
  have D := descent hH hI hB hp (lenLimitOf c (data.size - s.pos)) (niceLimitOf c (data.size - s.pos))
  obtain ⟨hnice, hNL, hfl, _⟩ := limitsA hA hp
  have hcd := stepCd_ok hH hI hp
  have hn3 : 3 ≤ niceLimitOf c (data.size - s.pos) := S.facts.nice3
  have key : BInv P c data (find P c data s).1 ∧ ∀ m ∈ (find P c data s).2.toList,
      ValidMatch data c.dict (stepK P c data s).p (min c.mlmax (data.size - (stepK P c data s).p)) m := by
    rw [find_tail hH hp]
    unfold findTail
    split
    · exact ⟨(descent hH hI hB hp 0 _).skipTree hH.ok hnice (Nat.lt_of_lt_of_le (by decide) hn3) _,
        fun m hm => (hcd.valid m hm).1⟩
    · rename_i hne
      obtain ⟨_, s2, _, _, s5⟩ := hcd.start hH.ok hne hn3
      have := D.walk hH.ok (by rw [D.p]; exact hnice) (Nat.lt_of_lt_of_le (by decide) hn3) _ _ _ (fun _ h => h.2.2)
        (findProbe_bst hH.ok S.facts hNL) (startLenBest P (stepCd P c data s).lenBest, (stepCd P c data s).ms)
        ⟨s2, by show startLenBest P _ < niceLimitOf c _; omega, fun m hm => (hcd.valid m hm).1⟩
        (stepCd P c data s).log
      rw [findLoop_eq_walk]
      exact ⟨⟨D.cp, this.1⟩, this.2⟩
  rw [S.p] at key
  exact key

/-- the states reachable under `HypA`: the table invariant (B1), the sorted tree (B5), the access log in bounds (B4) -/
structure Good (P : Bt4Params) (c : Cfg) (data : Array UInt8) (s : St) : Prop where
  inv : Inv P c data s
  bst : BInv P c data s
  log : LogOk P c data s.log

theorem Good.find (hA : HypA P c data) {s : St} (h : Good P c data s) : Good P c data (find P c data s).1 :=
  ⟨find_inv hA.toHyp h.inv, (find_bst hA h.inv h.bst).1, find_log hA h.inv h.log⟩

theorem Good.skipOne (hA : HypA P c data) {s : St} (h : Good P c data s) : Good P c data (skipOne P c data s) :=
  ⟨skipOne_inv hA.toHyp h.inv, skipOne_binv hA.toHyp h.inv h.bst, skipOne_log hA h.inv h.log⟩

theorem Good.skip (hA : HypA P c data) (n : Nat) {s : St} (h : Good P c data s) : Good P c data (skip P c data n s) :=
  skip_keeps (R := Good P c data) (fun _ => Good.skipOne hA) n h

theorem init_good (hA : HypA P c data) (lg : Bool) : Good P c data (init P c lg) :=
  ⟨init_inv hA.toHyp lg, init_binv hA.toHyp lg, init_log P c data lg⟩

theorem runScript_good (hA : HypA P c data) (script : List Nat) (lg : Bool) :
    Good P c data (runScript P c data script lg).1 :=
  runOps_keeps (R := Good P c data) (fun _ => Good.find hA) (fun _ => Good.skipOne hA) script #[] (init_good hA lg)

end LzmaVerif.Mf.Bt4
