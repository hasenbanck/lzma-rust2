import LzmaVerif.Proofs.EncWindow
/-!
# The encoder window with `flush` calls: the pending bytes keep their history across a window move

`LZMA2Writer::flush` -> `set_flushing` lets the encoder code every byte in the window; the match finder (BT4:
`move_pos(nice_len, 4)`, HC4: `move_pos(4, 4)`) leaves the last `required_for_flushing - 1` positions PENDING
(`pending_size`).  The next `fill_window` first moves the window (if `read_pos` is within `keep_size_after` of the
buffer's end) and then `process_pending_bytes` rewinds `read_pos` by `pending_size` and runs the match finder on those
positions again.  The match finder looks up to `dict_size ≤ keep_size_before - 1` bytes back from EVERY position it
is run at - also from the first rewound one.  `moveOffsetPinned` (the code before `fix: move_window keeps the history of
the pending bytes`) keeps `keep_size_before - 1 + (0..63)` bytes before `read_pos` only: BT4 then indexes the buffer at
up to `-(nice_len - 2)` (panic; out-of-bounds read with the `optimization` feature).

The theorems hold for every search `O`, every sequence of `write` / `flush` calls followed by `finish` (`runEv`) and any
buffer type: they speak of positions only.
-/
namespace LzmaVerif.EncWindow

section
variable {β : Type} (B : BufOps β) (P : Params) (O : Oracle)

structure Core (s : St β) : Prop where
  wp_le : s.win.writePos ≤ P.bufSize
  rp_ge : -1 ≤ s.win.readPos
  rp_lt : s.win.readPos + 1 ≤ s.win.writePos
  rl_le : s.win.readLimit + 1 ≤ s.win.writePos
  /-- the rewind of `process_pending_bytes` stays inside the buffer -/
  pend_le : (s.win.pendingSize : Int) ≤ s.win.readPos + 1
  /-- `keep_size_before - 1` bytes of history before the FIRST PENDING byte (where `process_pending_bytes` re-runs
      the match finder), or nothing was discarded yet -/
  lookback : s.win.base = 0 ∨ (P.keepBefore : Int) ≤ s.win.readPos - s.win.pendingSize + 1
  ra_ge : -1 ≤ s.readAhead
  ra_le : s.readAhead ≤ P.maxAhead
  low_ok : s.low = false

/-- where the run is: `E` finishing; `N` normal (`read_limit + keep_size_after ≤ write_pos`, nothing pending);
    `F` inside `flush` (`read_limit = write_pos - 1`; the pending bytes are the last ones); `I` idle after a `flush`
    (everything coded, up to `required_for_flushing - 1` bytes pending, no symbol can be coded) -/
inductive Tag where | E | N | F | I

def Ph (t : Tag) (s : St β) : Prop :=
  match t with
  | .E => s.win.finishing = true
  | .N => s.win.finishing = false ∧ s.win.pendingSize = 0 ∧ s.win.readLimit + P.keepAfter ≤ s.win.writePos
  | .F => s.win.finishing = false ∧ s.win.readLimit = (s.win.writePos : Int) - 1 ∧
      (s.win.pendingSize = 0 ∨ (s.win.pendingSize : Int) + (s.win.writePos - s.win.readPos) ≤ P.reqFlush)
  | .I => s.win.finishing = false ∧ s.readAhead = -1 ∧ s.win.readLimit ≤ s.win.readPos ∧
      (s.win.pendingSize = 0 ∨ s.win.pendingSize < P.reqFlush)

structure FInv (s : St β) : Prop where
  core : Core P s
  phase : ∃ t, Ph P t s

/-- the last part of `Ph .F`: the pending bytes are the last ones before `write_pos` -/
def PendLast (s : St β) : Prop :=
  s.win.pendingSize = 0 ∨ (s.win.pendingSize : Int) + (s.win.writePos - s.win.readPos) ≤ P.reqFlush

theorem FInv.pend_small {s : St β} (h : FInv P s) (hf : s.win.finishing = false) :
    s.win.pendingSize = 0 ∨ s.win.pendingSize < P.reqFlush := by
  obtain ⟨t, ht⟩ := h.phase
  have := h.core.rp_lt
  cases t with
  | E => exact absurd (hf.symm.trans ht) (by decide)
  | N => exact Or.inl ht.2.1
  | F =>
    rcases ht.2.2 with h0 | h1
    · exact Or.inl h0
    · exact Or.inr (by omega)
  | I => exact ht.2.2.2

/-- between two calls of the caller: phase `N`, or `I` after a `flush` -/
structure AtRest (s : St β) : Prop where
  core : Core P s
  phase : Ph P .N s ∨ Ph P .I s

theorem AtRest.pend_small {s : St β} (h : AtRest P s) :
    s.win.finishing = false ∧ (s.win.pendingSize = 0 ∨ s.win.pendingSize < P.reqFlush) :=
  h.phase.elim (fun t => ⟨t.1, Or.inl t.2.1⟩) (fun t => ⟨t.1, t.2.2.2⟩)

theorem Core.init : Core P (St.init B P) := by
  constructor <;> simp [St.init, Win.init]

theorem Ph.init : Ph P .I (St.init B P) := by simp [Ph, St.init, Win.init]

theorem FInv.init : FInv P (St.init B P) := ⟨Core.init B P, .I, Ph.init B P⟩

theorem mfStep_pending (e : Nat) (s : St β) :
    let p' := (mfStep B P e s).win.pendingSize
    (p' = s.win.pendingSize ∨ p' = s.win.pendingSize + 1) ∧
    (s.win.finishing = false →
      (p' = s.win.pendingSize + 1 ↔ ((s.win.writePos : Int) - (s.win.readPos + 1)).toNat < P.reqFlush)) := by
  have hw : (mfStep B P e s).win = (movePos P s.win).1 := rfl
  dsimp only
  rw [hw, (movePos_spec P s.win).1]
  dsimp only
  split
  · rename_i hc
    exact ⟨Or.inr rfl, fun _ => ⟨fun _ => hc.1, fun _ => rfl⟩⟩
  · rename_i hc
    exact ⟨Or.inl rfl, fun hf => ⟨fun h => absurd h (by omega), fun h => absurd ⟨h, Or.inr hf⟩ hc⟩⟩

theorem mfStep_core (e : Nat) (s : St β) (h : Core P s) (hroom : s.win.readPos + 2 ≤ s.win.writePos) :
    Core P (mfStep B P e s) ∧ (s.win.finishing = false → PendLast P s → PendLast P (mfStep B P e s)) := by
  obtain ⟨f, p, r, _⟩ := mfStep_frame B P e s
  obtain ⟨q1, q2⟩ := mfStep_pending B P e s
  have h1 := h.rp_ge; have h2 := h.pend_le; have h3 := h.lookback; have hwp := f.wp
  have hlow : (mfStep B P e s).low = s.low := by
    have : histOk P (mfStep B P e s).win = true := by
      unfold histOk
      rw [f.base, p]
      rcases h3 with h0 | hk
      · simp [h0]
      · simp [show (P.keepBefore : Int) ≤ s.win.readPos + 1 + 1 by omega]
    show (s.low || !histOk P (mfStep B P e s).win) = s.low
    rw [this, Bool.not_true, Bool.or_false]
  refine ⟨⟨f.wp ▸ h.wp_le, by omega, by omega, by rw [f.rl, f.wp]; exact h.rl_le, by omega, by rw [f.base]; omega,
    r ▸ h.ra_ge, r ▸ h.ra_le, hlow.trans h.low_ok⟩, fun hnf hQ => ?_⟩
  have q := q2 hnf
  unfold PendLast at hQ ⊢
  omega

theorem advance_core (e : Nat) : ∀ (k : Nat) (s : St β), Core P s → s.win.readPos + k + 1 ≤ s.win.writePos →
    Core P (advance B P e k s) ∧ (s.win.finishing = false → PendLast P s → PendLast P (advance B P e k s))
  | 0, _, h, _ => ⟨h, fun _ hQ => hQ⟩
  | k + 1, s, h, hroom => by
    obtain ⟨f, p, _, _⟩ := mfStep_frame B P e s
    obtain ⟨c1, q1⟩ := mfStep_core B P e s h (by omega)
    obtain ⟨c2, q2⟩ := advance_core e k (mfStep B P e s) c1 (by rw [f.wp, p]; omega)
    exact ⟨c2, fun hnf hQ => q2 (f.fin.trans hnf) (q1 hnf hQ)⟩

theorem processPending_facts (s : St β) (h : Core P s) :
    let s' := processPending B P s
    Core P s' ∧ SameWin s.win s'.win ∧ s'.win.readPos = s.win.readPos ∧
    (s.win.readPos < s.win.readLimit → s.win.finishing = false → PendLast P s') ∧
    (¬ s.win.readPos < s.win.readLimit → s' = s) := by
  dsimp only
  unfold processPending
  dsimp only
  split
  · rename_i hc
    have hrp := h.rp_ge; have hpl := h.pend_le; have hlt := h.rp_lt; have hlb := h.lookback
    -- the rewound state: `read_pos` back by the pending bytes, none pending
    have c0 : Core P { s with win := { s.win with readPos := s.win.readPos - s.win.pendingSize, pendingSize := 0 } } :=
      ⟨h.wp_le, by dsimp only; omega, by dsimp only; omega, h.rl_le, by dsimp only; omega, by dsimp only; omega,
        h.ra_ge, h.ra_le, h.low_ok⟩
    obtain ⟨c1, q1⟩ := advance_core B P (s.win.base + s.encPos.toNat) s.win.pendingSize _ c0 (by dsimp only; omega)
    obtain ⟨f, p, _, _⟩ := advance_frame B P (s.win.base + s.encPos.toNat) s.win.pendingSize
      { s with win := { s.win with readPos := s.win.readPos - s.win.pendingSize, pendingSize := 0 } }
    exact ⟨c1, ⟨f.wp, f.base, f.rl, f.fin, f.buf⟩, p.trans (Int.sub_add_cancel _ _), fun _ hnf => q1 hnf (Or.inl rfl),
      fun hn => absurd hc.2 hn⟩
  · rename_i hc
    exact ⟨h, SameWin.refl _, rfl, fun hl _ => Or.inl (by omega), fun _ => rfl⟩

/-- few bytes can be pending compared with the reserve of the buffer (`required_for_flushing ≤ nice_len ≤ 273`,
    `reserve ≥ 256 KiB`) -/
def Params.FlushSmall (P : Params) : Prop := P.reqFlush + Consts.MOVE_BLOCK_ALIGN ≤ 262144

/-- also across a window move `keep_size_before - 1` bytes stay before the first pending byte -/
theorem fillCore_facts (hrep : P.pinnedMove = false) (hkA : 1 ≤ P.keepAfter) (s : St β) (input : List Nat) (h : Core P s)
    (hps : s.win.pendingSize + Consts.MOVE_BLOCK_ALIGN ≤ 262144) :
    ∃ s1, (fillWindow B P s input).1 = processPending B P s1 ∧ Core P s1 ∧ s1.readAhead = s.readAhead ∧
      s1.win.pendingSize = s.win.pendingSize ∧ s1.win.finishing = s.win.finishing ∧
      ((P.keepAfter ≤ s1.win.writePos ∧ s1.win.readLimit = (s1.win.writePos : Int) - P.keepAfter) ∨
       (s1.win.readLimit - s1.win.readPos = s.win.readLimit - s.win.readPos ∧
        s1.win.readLimit - (s1.win.writePos : Int) ≤ s.win.readLimit - s.win.writePos)) := by
  refine ⟨{ s with win := (fillCore B P s.win input).1 }, rfl, ?_⟩
  dsimp only
  rw [fillCore_eq]
  have hwp := h.wp_le; have hge := h.rp_ge; have hlt := h.rp_lt; have hrl := h.rl_le; have hpl := h.pend_le
  have hlb := h.lookback
  obtain ⟨off, m1, m2, m3, m4, m5, m6, m7⟩ := preMove_pos B P s.win (Or.inl hrep) h.rp_lt hps
  obtain ⟨-, l2, l3, -, l5, l6, l7, l8, l9⟩ := fillIn_fields B P (preMove B P s.win) input (by omega)
  generalize fillIn B P (preMove B P s.win) input = r at *
  generalize preMove B P s.win = w1 at *
  have hlb' : r.1.base = 0 ∨ (P.keepBefore : Int) ≤ r.1.readPos - r.1.pendingSize + 1 := by
    rw [l5, l6, l7]
    omega
  clear m7 hlb
  have hlim : r.1.readLimit + 1 ≤ r.1.writePos ∧
      ((P.keepAfter ≤ r.1.writePos ∧ r.1.readLimit = (r.1.writePos : Int) - P.keepAfter) ∨
       (r.1.readLimit - r.1.readPos = s.win.readLimit - s.win.readPos ∧
        r.1.readLimit - (r.1.writePos : Int) ≤ s.win.readLimit - s.win.writePos)) := by
    rcases l9 with h1 | ⟨_, h2⟩
    · exact ⟨by omega, Or.inl h1⟩
    · exact ⟨by omega, Or.inr (by omega)⟩
  refine ⟨⟨l3, ?_, ?_, hlim.1, ?_, hlb', h.ra_ge, h.ra_le, h.low_ok⟩, rfl, l7.trans m5, l8.trans m6, hlim.2⟩
  · show -1 ≤ r.1.readPos
    omega
  · show r.1.readPos + 1 ≤ r.1.writePos
    omega
  · show (r.1.pendingSize : Int) ≤ r.1.readPos + 1
    omega

theorem symbolStep_FInv (hP : P.WF) (s : St β) (t : Tag) (h : Core P s) (ht : Ph P t s)
    (he : hasEnoughData s.win (s.readAhead + 1) = true) :
    let s' := (symbolStep B P O s).1
    Core P s' ∧ Ph P t s' ∧ SameWin s.win s'.win ∧ s.encPos + 1 ≤ s'.encPos := by
  dsimp only
  have he' := (hasEnough_iff s.win _).mp he
  have hlt := h.rp_lt; have hrl := h.rl_le; have hra := h.ra_ge
  obtain ⟨hadv1, hadv2, hadv3⟩ := clampAdv_bounds s.readAhead
    (if s.win.readPos = -1 then ((1 : Nat), (1 : Nat), false) else O s.trace).1 P.maxAhead
    ((s.win.writePos : Int) - 1 - s.win.readPos) hra h.ra_le (by omega) (by omega)
  unfold symbolStep
  dsimp only
  generalize (if s.win.readPos = -1 then ((1 : Nat), (1 : Nat), false) else O s.trace) = d at *
  generalize clampAdv _ _ _ _ = adv at *
  obtain ⟨hlen1, hlen2⟩ := clampLen_bounds d.2.1 (s.readAhead + adv) hadv3
  generalize clampLen _ _ = len at *
  obtain ⟨hc, fl⟩ := advance_core B P (s.win.base + s.encPos.toNat) adv s h (by omega)
  obtain ⟨f, p, _, _⟩ := advance_frame B P (s.win.base + s.encPos.toNat) adv s
  generalize advance B P (s.win.base + s.encPos.toNat) adv s = a at *
  have hwp := f.wp
  refine ⟨⟨hc.wp_le, hc.rp_ge, hc.rp_lt, hc.rl_le, hc.pend_le, hc.lookback, ?_, ?_, hc.low_ok⟩, ?_, f, ?_⟩
  · show -1 ≤ s.readAhead + adv - len
    omega
  · show s.readAhead + adv - len ≤ P.maxAhead
    omega
  · cases t with
    | E => exact f.fin.trans ht
    | N =>
      obtain ⟨t1, t2, t3⟩ := ht
      refine ⟨f.fin.trans t1, ?_, by rw [f.rl, f.wp]; exact t3⟩
      -- `keep_size_after = EXTRA_SIZE_AFTER + match_len_max` bytes lie ahead of the symbol start, `maxAhead ≤
      -- EXTRA_SIZE_AFTER` of them are skipped, `match_len_max ≥ required_for_flushing` remain
      have hq := fl t1 (Or.inl t2)
      have := hP.ahead_le; have := hP.flush_le
      have hk : P.keepAfter = P.extraAfter + P.matchLenMax := rfl
      unfold PendLast at hq
      show a.win.pendingSize = 0
      omega
    | F => exact ⟨f.fin.trans ht.1, by rw [f.rl, f.wp]; exact ht.2.1, fl ht.1 ht.2.2⟩
    | I =>
      obtain ⟨_, t2, t3, _⟩ := ht
      omega
  · show s.win.readPos - s.readAhead + 1 ≤ a.win.readPos - (s.readAhead + adv - len)
    omega

theorem encodeLoop_FInv (hP : P.WF) (hs : Bool) (fuel : Nat) (s : St β) (t : Tag) (h : Core P s) (ht : Ph P t s) :
    let s' := (encodeLoop B P O hs fuel s).1
    Core P s' ∧ Ph P t s' ∧ SameWin s.win s'.win ∧
    (hs = false → s.unenc < fuel → hasEnoughData s'.win (s'.readAhead + 1) = false) := by
  fun_induction encodeLoop B P O hs fuel s with
  | case1 s => exact ⟨h, ht, SameWin.refl _, fun _ hf => absurd hf (Nat.not_lt_zero _)⟩
  | case2 f s he r hstop =>
    obtain ⟨c1, p1, f1, -⟩ := symbolStep_FInv B P O hP s t h ht he
    exact ⟨c1, p1, f1, fun hh => absurd hstop (by simp [hh])⟩
  | case3 f s he r hstop ih =>
    obtain ⟨c1, p1, f1, e1⟩ : Core P r.1 ∧ Ph P t r.1 ∧ SameWin s.win r.1.win ∧ s.encPos + 1 ≤ r.1.encPos :=
      symbolStep_FInv B P O hP s t h ht he
    obtain ⟨c2, p2, f2, d2⟩ := ih c1 p1
    refine ⟨c2, p2, f1.trans f2, fun hh hf => d2 hh ?_⟩
    have he' := (hasEnough_iff s.win _).mp he
    have := h.rl_le; have := f1.wp
    unfold St.unenc at hf ⊢
    unfold St.encPos at hf ⊢ e1
    omega
  | case4 f s he => exact ⟨h, ht, SameWin.refl _, fun _ _ => by simpa using he⟩

theorem fillWindow_FInv (hP : P.WF) (hrep : P.pinnedMove = false) (hfs : P.FlushSmall) (s : St β) (input : List Nat)
    (h : AtRest P s) : AtRest P (fillWindow B P s input).1 := by
  obtain ⟨hfin, hpend⟩ := h.pend_small
  obtain ⟨h, ht⟩ := h
  have hkA : 1 ≤ P.keepAfter := by have := hP.mlm_pos; show 1 ≤ P.extraAfter + P.matchLenMax; omega
  have hkA2 : P.reqFlush ≤ P.keepAfter := by have := hP.flush_le; show P.reqFlush ≤ P.extraAfter + P.matchLenMax; omega
  obtain ⟨s1, hs', c1, r1, g7, g8, g10⟩ :=
    fillCore_facts B P hrep hkA s input h (by unfold Params.FlushSmall at hfs; omega)
  -- `s1` after the bytes went in, `s'` after `process_pending_bytes`
  rw [hs']
  obtain ⟨c2, f2, p2, run, idle⟩ := processPending_facts B P s1 c1
  generalize hs : processPending B P s1 = s' at *
  refine ⟨c2, ?_⟩
  have hfin1 := g8.trans hfin
  have := c1.rp_lt
  rcases ht with ⟨_, t2, t3⟩ | ⟨_, t2, t3, t4⟩
  · -- nothing pending: `process_pending_bytes` does nothing
    rw [← hs, processPending_none B P s1 (g7.trans t2)]
    exact Or.inl ⟨hfin1, g7.trans t2, by omega⟩
  · by_cases hl : s1.win.readPos < s1.win.readLimit
    · -- `read_limit` has passed `read_pos`: `keep_size_after ≥ required_for_flushing` bytes are ahead, nothing stays pending
      have hα : P.keepAfter ≤ s1.win.writePos ∧ s1.win.readLimit = (s1.win.writePos : Int) - P.keepAfter :=
        g10.resolve_right (fun hβ => by omega)
      have hq := run hl hfin1
      have := f2.wp
      unfold PendLast at hq
      refine Or.inl ⟨f2.fin.trans hfin1, by omega, ?_⟩
      rw [f2.rl, f2.wp, hα.2]
      omega
    · rw [idle hl]
      exact Or.inr ⟨hfin1, r1.trans t2, by omega, g7 ▸ t4⟩

theorem writeLoop_FInv (hP : P.WF) (hrep : P.pinnedMove = false) (hfs : P.FlushSmall) (fuel : Nat) (s : St β)
    (rest : List Nat) (h : AtRest P s) : AtRest P (writeLoop B P O fuel s rest) := by
  fun_induction writeLoop B P O fuel s rest with
  | case1 | case3 => exact h
  | case2 =>
    obtain ⟨h, ht⟩ := h
    exact ⟨⟨h.wp_le, h.rp_ge, h.rp_lt, h.rl_le, h.pend_le, h.lookback, h.ra_ge, h.ra_le, h.low_ok⟩, ht⟩
  | case4 f s rest hr r s2 ih =>
    obtain ⟨c1, t1⟩ : AtRest P r.1 := fillWindow_FInv B P hP hrep hfs s rest h
    rcases t1 with t1 | t1
    · obtain ⟨c2, t2, -⟩ := encodeLoop_FInv B P O hP P.lzma2 (r.1.unenc + 1) r.1 .N c1 t1
      exact ih ⟨c2, Or.inl t2⟩
    · obtain ⟨c2, t2, -⟩ := encodeLoop_FInv B P O hP P.lzma2 (r.1.unenc + 1) r.1 .I c1 t1
      exact ih ⟨c2, Or.inr t2⟩

/-- `set_flushing` (`fin = false`) and `set_finishing` (`fin = true`) at once -/
theorem setLimit_facts (s : St β) (fin : Bool) (h : Core P s) :
    let s' := processPending B P { s with win := { s.win with readLimit := (s.win.writePos : Int) - 1, finishing := fin } }
    Core P s' ∧ s'.win.finishing = fin ∧ s'.win.readLimit = (s'.win.writePos : Int) - 1 ∧
    (fin = false → s.win.pendingSize = 0 ∨ s.win.pendingSize < P.reqFlush → PendLast P s') := by
  dsimp only
  have c1 : Core P { s with win := { s.win with readLimit := (s.win.writePos : Int) - 1, finishing := fin } } :=
    ⟨h.wp_le, h.rp_ge, h.rp_lt, Int.le_of_eq (Int.sub_add_cancel _ _), h.pend_le, h.lookback, h.ra_ge, h.ra_le, h.low_ok⟩
  obtain ⟨c2, f2, -, run, idle⟩ := processPending_facts B P _ c1
  refine ⟨c2, f2.fin, by rw [f2.rl, f2.wp], fun hf hp => ?_⟩
  by_cases hl : s.win.readPos < (s.win.writePos : Int) - 1
  · exact run hl hf
  · -- `read_pos = write_pos - 1`: nothing is run again
    rw [idle hl]
    have := h.rp_lt
    exact hp.imp id (fun hp => by dsimp only; omega)

/-- `LZMA2Writer::flush`: everything in the window gets coded; fewer than `required_for_flushing` bytes stay pending -/
theorem flush_FInv (hP : P.WF) (s : St β) (h : AtRest P s) : Core P (flush B P O s) ∧ Ph P .I (flush B P O s) := by
  unfold flush
  dsimp only
  obtain ⟨hfin, hpend⟩ := h.pend_small
  obtain ⟨c2, u1, u2, u3⟩ := setLimit_facts B P s s.win.finishing h.core
  obtain ⟨c3, ⟨v1, v2, v3⟩, -, d3⟩ := encodeLoop_FInv B P O hP false ((setFlushing B P s).unenc + 1) (setFlushing B P s) .F c2
    ⟨u1.trans hfin, u2, u3 hfin hpend⟩
  have hne := (not_congr (hasEnough_iff _ _)).mp (by rw [d3 rfl (Nat.lt_succ_self _)]; decide)
  have := c3.ra_ge; have := c3.rp_lt
  exact ⟨c3, v1, by omega, by omega, v3.imp id (fun hp => by omega)⟩

theorem finish_FInv (hP : P.WF) (s : St β) (h : Core P s) : Core P (finish B P O s) ∧ Ph P .E (finish B P O s) := by
  obtain ⟨c2, u1, -⟩ := setLimit_facts B P s true h
  obtain ⟨c3, t3, -⟩ := encodeLoop_FInv B P O hP false ((setFinishing B P s).unenc + 1) (setFinishing B P s) .E c2 u1
  exact ⟨c3, t3⟩

theorem runEvs_FInv (hP : P.WF) (hrep : P.pinnedMove = false) (hfs : P.FlushSmall) :
    ∀ (evs : List Ev) (s : St β), AtRest P s → AtRest P (runEvs B P O s evs)
  | [], _, h => h
  | .write p :: es, s, h =>
    runEvs_FInv hP hrep hfs es _ (writeLoop_FInv B P O hP hrep hfs (2 * p.length + s.unenc + 1) s p h)
  | .flush :: es, s, h =>
    runEvs_FInv hP hrep hfs es _ ⟨(flush_FInv B P O hP s h).1, Or.inr (flush_FInv B P O hP s h).2⟩

/-- `FInv` at the end of every run with `flush` calls (`runEvs_FInv`: after every `write` and `flush` of it). -/
theorem flush_inv_runEv (hP : P.WF) (hrep : P.pinnedMove = false) (hfs : P.FlushSmall) (evs : List Ev) :
    FInv P (runEv B P O evs) := by
  obtain ⟨c, -⟩ := runEvs_FInv B P O hP hrep hfs evs (St.init B P) ⟨Core.init B P, Or.inr (Ph.init B P)⟩
  obtain ⟨c2, t2⟩ := finish_FInv B P O hP _ c
  exact ⟨c2, .E, t2⟩

/-- `low` (`St.low`, model) stays clear in every run with `flush` calls; in the terms of the Rust code:
    `Props.Flush.flush_runs_keep_history`. -/
theorem flush_runs_keep_history (hP : P.WF) (hrep : P.pinnedMove = false) (hfs : P.FlushSmall) (evs : List Ev) :
    (runEv B P O evs).low = false :=
  (flush_inv_runEv B P O hP hrep hfs evs).core.low_ok

/-- the window move in a state with pending bytes; in the terms of the Rust code:
    `Props.Flush.window_move_keeps_pending_history`. -/
theorem flush_inv_move_offset (hP : P.WF) (hrep : P.pinnedMove = false) (hfs : P.FlushSmall) (s : St β) (input : List Nat)
    (h : FInv P s) (hf : s.win.finishing = false) (hmove : (P.bufSize : Int) - P.keepAfter ≤ s.win.readPos) :
    let r := fillCore B P s.win input
    (Consts.MOVE_BLOCK_ALIGN : Int) ≤ moveOffsetRaw P s.win ∧ Consts.MOVE_BLOCK_ALIGN ≤ moveOffset P s.win ∧
    (P.keepBefore : Int) ≤ r.1.readPos - r.1.pendingSize + 1 ∧ 0 ≤ r.1.readPos - r.1.pendingSize ∧
    (input ≠ [] → 0 < r.2) := by
  dsimp only
  have c := h.core
  have hps : s.win.pendingSize + Consts.MOVE_BLOCK_ALIGN ≤ 262144 := by
    unfold Params.FlushSmall at hfs
    rcases h.pend_small P hf with t0 | t0 <;> omega
  obtain ⟨hraw, hge, hle⟩ := moveOffset_bounds P s.win (Or.inl hrep) hmove hps
  have hw1 : preMove B P s.win = moveWindow B P s.win := if_pos hmove
  rw [fillCore_eq, hw1]
  obtain ⟨e1, -, e3, -, e5, -⟩ := moveWindow_fields B P s.win
  obtain ⟨-, -, -, hfull, l5, -, l7, -, -⟩ := fillIn_fields B P (moveWindow B P s.win) input
    (e3 ▸ Nat.le_trans (Nat.sub_le _ _) c.wp_le)
  have hraw2 : moveOffsetRaw P s.win = s.win.readPos + 1 - P.keepBefore - s.win.pendingSize := rfl
  have := hP.kb_pos; have := c.rp_lt; have := c.wp_le; have := align_ok.2
  refine ⟨hraw, hge, by omega, by omega, fun hne => Nat.pos_of_ne_zero fun hz => ?_⟩
  have := hfull hz hne
  omega

end

/-- the parameters of the real encoders satisfy the side conditions of the flush theorems -/
theorem mkParams_flush (dict nice : Nat) (mode : Mode) (mf : MF) (lzma2 : Bool) (hn2 : nice ≤ Consts.MATCH_LEN_MAX) :
    (mkParams dict nice mode mf lzma2).pinnedMove = false ∧ (mkParams dict nice mode mf lzma2).FlushSmall := by
  refine ⟨rfl, ?_⟩
  have hM : Consts.MATCH_LEN_MAX = 273 := rfl
  have hA : Consts.MOVE_BLOCK_ALIGN = 64 := rfl
  show (match mf with | .hc4 => 4 | .bt4 => nice) + Consts.MOVE_BLOCK_ALIGN ≤ 262144
  cases mf <;> simp only <;> omega

/-! The state of the reproducer (`LZMA2Writer`, fast mode, BT4, `nice_len = 273`, `dict_size = 64 KiB`: `keep_size_before
= 65537`, `keep_size_after = 545`, `buf_size = 360994`) after `write(360769 bytes); flush()`: everything is coded
(`read_pos = write_pos - 1 = 360768`), the last 272 positions are pending. -/

def reproParams (pinned : Bool) : Params := { mkParams 65536 273 .fast .bt4 true with pinnedMove := pinned }

def reproState : St Unit :=
  { win := { buf := (), readPos := 360768, readLimit := 360768, writePos := 360769, pendingSize := 272 } }

/-- the state satisfies the invariant (phase `I`), for `moveOffsetPinned` and `moveOffset` alike -/
theorem reproState_FInv (pinned : Bool) : FInv (reproParams pinned) reproState := by
  cases pinned <;>
    exact ⟨⟨by decide, by decide, by decide, by decide, by decide, by decide, by decide, by decide, by decide⟩, .I,
      ⟨by decide, by decide, by decide, by decide⟩⟩

/-- **Witness.**  With `moveOffsetPinned` the next `fill_window` (5000 more bytes) moves the window by 295232 bytes,
    `process_pending_bytes` rewinds to buffer position 65264 and the match finder is run at 65265: fewer than
    `keep_size_before - 1 = 65536` bytes of history are left (`low` is set; BT4 then reads `buf[read_pos - delta]` with
    `delta` up to `dict_size = 65536`: index -271 = `-(nice_len - 2)`, the extreme case, the alignment slack being 0).
    `moveOffset` moves by 294912 bytes only and the flag stays clear (by `fillWindow_FInv`). -/
theorem pinned_move_loses_pending_history :
    moveOffset (reproParams true) reproState.win = 295232 ∧
    (fillWindow noBuf (reproParams true) reproState (List.replicate 5000 0)).1.low = true ∧
    moveOffset (reproParams false) reproState.win = 294912 ∧
    (fillWindow noBuf (reproParams false) reproState (List.replicate 5000 0)).1.low = false := by
  refine ⟨by decide +kernel, by decide +kernel, by decide +kernel, ?_⟩
  have hP : (reproParams false).WF := mkParams_WF 65536 273 .fast .bt4 true (by decide) (by decide) (by decide)
  exact (fillWindow_FInv noBuf _ hP rfl (mkParams_flush 65536 273 .fast .bt4 true (by decide)).2 reproState _
    ⟨(reproState_FInv false).core, Or.inr ⟨by decide, by decide, by decide, by decide⟩⟩).core.low_ok

/-- small parameters for runs with contents-free evaluation -/
def tinyF : Params :=
  { dictSize := 8, extraBefore := 1, extraAfter := 3, matchLenMax := 4, niceLen := 4, reqFlush := 4, reqFinish := 2,
    maxAhead := 3, lzma2 := true }

theorem reproParams_eq : reproParams false = mkParams 65536 273 .fast .bt4 true := rfl

example : (reproParams false).WF ∧ (reproParams false).pinnedMove = false ∧ (reproParams false).FlushSmall := by
  rw [reproParams_eq]
  exact ⟨mkParams_WF _ _ _ _ _ (by decide) (by decide) (by decide), (mkParams_flush 65536 273 .fast .bt4 true (by decide)).1,
    (mkParams_flush 65536 273 .fast .bt4 true (by decide)).2⟩

/-- `flush_inv_move_offset` applies to the reproducer's state: it is not finishing and the window must move -/
example : reproState.win.finishing = false ∧
    ((reproParams false).bufSize : Int) - (reproParams false).keepAfter ≤ reproState.win.readPos := by decide

/-- a run with `flush` calls that leaves bytes pending and codes them later: a flush after 6 bytes
    (`required_for_flushing = 4`: three bytes stay pending) -/
example : (runEvs noBuf tinyF (policyOracle 0) (St.init noBuf tinyF) [.write (cyclicBytes 0 6), .flush]).win.pendingSize = 3 ∧
    (runEv noBuf tinyF (policyOracle 0) [.write (cyclicBytes 0 6), .flush, .write (cyclicBytes 6 30), .flush]).low = false := by
  decide +kernel

theorem refAdvance_pinned (P : Params) (b : Bool) (inp : List Nat) (e : Nat) : ∀ (k : Nat) (c : RSt),
    refAdvance { P with pinnedMove := b } inp e k c = refAdvance P inp e k c
  | 0, _ => rfl
  | k + 1, c => refAdvance_pinned P b inp e k (refMf P inp e c)

theorem refSymbol_pinned (P : Params) (b : Bool) (O : Oracle) (inp : List Nat) (c : RSt) :
    refSymbol { P with pinnedMove := b } O inp c = refSymbol P O inp c := by
  unfold refSymbol
  simp only [refAdvance_pinned]

theorem refRun_pinned (P : Params) (b : Bool) (O : Oracle) (inp : List Nat) : ∀ (f : Nat) (c : RSt),
    refRun { P with pinnedMove := b } O inp f c = refRun P O inp f c
  | 0, _ => rfl
  | f + 1, c => by rw [refRun, refRun, refSymbol_pinned, refRun_pinned P b O inp f]

/-- in runs without `flush` both offsets show the search the same views: both runs equal the reference run, which
    does not look at `pinnedMove` (in the terms of the Rust code: `Props.Flush.repair_invisible_without_flush`) -/
theorem repair_invisible_without_flush (P : Params) (hP : P.WF) (O : Oracle) (parts : List (List Nat)) :
    traceOf listBuf { P with pinnedMove := true } O parts = traceOf listBuf { P with pinnedMove := false } O parts := by
  have h1 : ({ P with pinnedMove := true } : Params).WF := ⟨hP.mlm_pos, hP.flush_le, hP.fin_le, hP.ahead_le, hP.ahead_before, hP.kb_pos, hP.cap⟩
  have h2 : ({ P with pinnedMove := false } : Params).WF := ⟨hP.mlm_pos, hP.flush_le, hP.fin_le, hP.ahead_le, hP.ahead_before, hP.kb_pos, hP.cap⟩
  rw [trace_eq_ref _ h1, trace_eq_ref _ h2]
  unfold refTrace
  rw [refRun_pinned P true, refRun_pinned P false]

#print axioms flush_inv_runEv
#print axioms repair_invisible_without_flush
#print axioms flush_runs_keep_history
#print axioms flush_inv_move_offset
#print axioms mkParams_flush
#print axioms reproState_FInv
#print axioms pinned_move_loses_pending_history

end LzmaVerif.EncWindow
