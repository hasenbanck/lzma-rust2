import LzmaVerif.Model.XzStrict
import LzmaVerif.Proofs.XzForged
/-!
# Interoperability: the strict decoder of `Model/XzStrict.lean` against the writer model and the crate's reader

S1: the writer's output passes every strict rule exactly when it respects liblzma's size limits
(`writer_output_strict_iff`, `writer_output_strict_concat`); the strict loop `Walks` (`readBlocksS_walks`), so these are
the corollaries the crate's reader has.  S2: whatever the strict decoder accepts the reader accepts alike, one induction
over both loops (`readBlocksS_lax`).  S3: concrete files the reader accepts and the strict decoder rejects.
-/
namespace LzmaVerif.XzStrict
open LzmaVerif Lzma Checks Xz

/-! ## S2: the strict decoder accepts a subset of what the crate's reader accepts, with the same result -/

/-- The two loops side by side, from an aligned position with `recs` the records of `blks`: each rule only the
strict loop has can do nothing but reject, and the rules they share decide alike. -/
theorem readBlocksS_lax (total cap : Nat) : ∀ (fuel : Nat) (chk : Check) (inp acc : List Nat) (blks : List Block)
    (recs : List (Nat × Nat)) (d : List Nat) (n : Nat) (b : List Block),
    recs = blks.map (blockRecord chk) → Aligned total inp →
    readBlocksS total fuel chk inp acc blks recs cap = .ok d n b →
    readBlocks true total fuel chk inp acc blks cap = .ok d n b := by
  intro fuel
  induction fuel with
  | zero => intro chk inp acc blks recs d n b _ _ h; cases h
  | succ fuel ih =>
    intro chk inp acc blks recs d n b hrl ⟨hle, hal⟩
    rw [readBlocksS, readBlocks]
    cases hH : parseBlockHeader inp with
    | error e => exact nofun
    | ok v =>
      obtain ⟨_ | hd, inp'⟩ := v
      · simp only []
        cases hI : parseIndex inp' with
        | error e => exact nofun
        | ok v =>
          obtain ⟨irecs, isize, inp''⟩ := v
          refine of_guard_ok nofun fun hcanon => ?_
          refine of_guard_ok nofun fun hrec => ?_
          refine of_guard_ok nofun fun _ => ?_
          simp only []
          rw [if_neg (by rw [Decidable.not_not.mp hrec, hrl]; simp),
            if_neg (by rw [Decidable.not_not.mp hrec, hrl]; exact not_not_intro rfl)]
          cases hF : parseFooter inp'' with
          | error e => exact nofun
          | ok v =>
            obtain ⟨bs, flags, rest⟩ := v
            refine of_guard_ok nofun fun hfl => ?_
            refine of_guard_ok nofun fun hbs => ?_
            -- the size the reader computed is the number of bytes the Index occupies
            have hsz : (bs + 1) * 4 = isize := by
              have hl := congrArg List.length (Decidable.not_not.mp hcanon)
              rw [List.length_take] at hl
              rw [parseIndex_size hI, ← hl, Decidable.not_not.mp hbs]
              omega
            simp only []
            rw [if_neg (not_not_intro hsz), if_neg hfl, if_neg (not_not_intro trivial)]
            cases hN : nextStream (rest.length + 1) rest 0 with
            | error e => exact nofun
            | ok o =>
              obtain _ | ⟨chk', rest'⟩ := o
              · exact id
              · obtain ⟨k, hk1, hk2⟩ := nextStream_len _ hN
                have hfl := parseFooter_len hF
                exact ih _ _ _ _ _ _ _ _ rfl ⟨by omega, by omega⟩
      · -- the strict decoder pads relative to the block, the reader relative to the file: the same when aligned
        obtain ⟨hl1, hl2, -⟩ := parseBlockHeader_len hH
        simp only []
        rw [decodeBlockBody_cb chk hd (total - inp'.length) hd.size inp' cap (by omega)]
        cases headerStrict inp with
        | error e => exact nofun
        | ok cu =>
          refine of_guard_ok nofun fun _ => ?_
          cases hB : decodeBlockBody chk hd hd.size inp' cap with
          | capped => exact nofun
          | err e => exact nofun
          | ok blk rest =>
            obtain ⟨hb1, hb2, hb3⟩ := decodeBlockBody_len hB
            refine of_guard_ok nofun fun _ => ?_
            refine of_guard_ok nofun fun _ => ?_
            refine of_guard_ok nofun fun hc => ?_
            simp only []
            rw [if_neg hc]
            exact ih _ _ _ _ _ _ _ _ (by rw [hrl, List.map_cons, blockRecord, hb3]) ⟨by omega, by omega⟩

/-- **S2.**  Whatever the strict decoder accepts, the crate's reader (multi-stream mode) accepts with the same
data, the same consumed count and the same block list. -/
theorem strict_implies_lax (inp : List Nat) (cap : Nat) (d : List Nat) (n : Nat) (b : List Block)
    (h : decodeStrict inp cap = .ok d n b) : Xz.decode true inp cap = .ok d n b := by
  unfold decodeStrict at h
  unfold Xz.decode
  generalize hH : parseStreamHeader inp = H at h ⊢
  cases H with
  | error e => cases h
  | ok v =>
    obtain ⟨chk, rest⟩ := v
    simp only [] at h ⊢
    have hl := parseStreamHeader_len hH
    exact readBlocksS_lax _ cap _ _ _ _ _ _ _ _ _ rfl ⟨by omega, by omega⟩ h

/-! ## S1: the writer's output passes every strict rule -/

theorem mbStrict_small (b : Nat) (r : List Nat) (hb : b < 128) : mbStrict (b :: r) = .ok (b, r) := by
  have h63 : ¬ (b > 2 ^ 63 - 1) := by omega
  have hmb : mb b = [b] := by
    simp only [mb, XzInt.encode, h63, if_false, Option.getD_some, XzInt.encodeFuel, hb, if_true]
  unfold mbStrict
  rw [mbSlice_small b r hb]
  simp only [hmb, List.cons_append, List.nil_append, if_true]

theorem skipFilters_ok : ∀ (fs : List Filter), (∀ f ∈ fs, AnyOk f) → ∀ r,
    skipFilters fs.length ((fs.map encFilter).flatten ++ r) = .ok r := by
  intro fs
  induction fs with
  | nil => intro _ r; rfl
  | cons f fs ih =>
    intro h r
    obtain ⟨id, psz, props, he, h1, h2, h3, -⟩ := encFilter_shape f (h f List.mem_cons_self)
    simp only [List.length_cons, List.map_cons, List.flatten_cons, List.append_assoc, skipFilters, he,
      List.cons_append]
    rw [mbStrict_small id _ h1]
    simp only [bind, Except.bind]
    rw [mbStrict_small psz _ (by omega)]
    simp only []
    have hl : ¬ ((props ++ ((fs.map encFilter).flatten ++ r)).length < psz) := by
      rw [List.length_append]; omega
    rw [if_neg hl]
    have hd : List.drop psz (props ++ ((fs.map encFilter).flatten ++ r)) = (fs.map encFilter).flatten ++ r := by
      rw [← h3, List.drop_left]
    simp only [hd]
    exact ih (fun g hg => h g (List.mem_cons_of_mem _ hg)) r

theorem headerStrict_ok (fs : List Filter) (hfs : FiltersOk fs) (r : List Nat) :
    headerStrict (blockHeaderBytes fs ++ r) = .ok (none, none) := by
  obtain ⟨sz, k, he, -, -, hlen, hlen1⟩ := blockHeaderBytes_parts fs hfs
  have hlen4 := hfs.1
  have hsk := skipFilters_ok fs (filtersOk_any fs hfs)
    (List.replicate k 0 ++ le 4 (crc32 (sz :: (fs.length - 1) :: ((fs.map encFilter).flatten ++ List.replicate k 0))))
  rw [he]
  have hL := le_length 4 (crc32 (sz :: (fs.length - 1) :: ((fs.map encFilter).flatten ++ List.replicate k 0)))
  generalize (fs.map encFilter).flatten = filt at *
  generalize le 4 _ = L at *
  generalize fs.length = n at *
  have hhd : ((n - 1) :: (filt ++ (List.replicate k 0 ++ L))).length = (sz + 1) * 4 - 1 := by
    simp only [List.length_cons, List.length_append, List.length_replicate]; omega
  rw [List.cons_append, headerStrict]
  refine bind_eq_ok.mpr ⟨_, takeN_append _ _ _ hhd, ?_⟩
  refine guard_eq_ok.mpr ⟨by rw [List.getD_cons_zero]; omega, ?_⟩
  refine bind_eq_ok.mpr ⟨(none, filt ++ (List.replicate k 0 ++ L)), if_neg (by rw [List.getD_cons_zero]; omega), ?_⟩
  refine bind_eq_ok.mpr ⟨(none, filt ++ (List.replicate k 0 ++ L)), if_neg (by rw [List.getD_cons_zero]; omega), ?_⟩
  refine bind_eq_ok.mpr ⟨List.replicate k 0 ++ L, ?_, rfl⟩
  rw [List.getD_cons_zero, show (n - 1) % 4 + 1 = n by omega]
  exact hsk

theorem dropLast_any_isLzma2 (fs : List Filter) (hfs : FiltersOk fs) :
    (fs.map readerFilter).dropLast.any isLzma2 = false := by
  rw [Bool.eq_false_iff]
  intro hany
  rw [List.any_eq_true] at hany
  obtain ⟨f, hf, hm⟩ := hany
  have := mem_dropLast_pre fs hfs f hf
  cases f <;> simp_all [PreOk, isLzma2]

/-- the strict loop, the record list it keeps being that of the blocks read -/
def loopS (total fuel : Nat) (c : Check) (inp acc : List Nat) (blks : List Block) (cap : Nat) : Out :=
  readBlocksS total fuel c inp acc blks (blks.map (blockRecord c)) cap

/-- with `limitsOk` as its limit on the Index; `Walks.decode_stream`, `Walks.decode_forged`, `Walks.decode_cat` apply -/
theorem readBlocksS_walks : Walks limitsOk loopS (afterWith loopS) decodeStrict where
  decode := fun _ _ => rfl
  block := by
    -- the alignment is not needed: the strict decoder pads relative to the block
    intro c fs hfs b hb tail acc blks total fuel cap _ hcap
    obtain ⟨h1, h2, h3⟩ := hb
    rw [blockBytes_fst]
    conv => lhs; unfold loopS readBlocksS
    simp only [List.append_assoc]
    rw [parseBlockHeader_ok fs hfs, headerStrict_ok fs hfs]
    simp only [dropLast_any_isLzma2 fs hfs, Bool.false_eq_true, if_false]
    have := decodeBlockBody_ok c fs hfs b.1 b.2 tail (blockHeaderBytes fs).length cap (blockHeaderBytes_mod4 fs) h1 h2
      (by omega)
    simp only [hdrOf] at this
    rw [this]
    have hng : ¬ (acc.length + (blkOf fs (b.1, b.2)).data.length > cap) := by
      simp only [blkOf]; omega
    simp only [sizeFieldOk, not_true_eq_false, hng, if_false]
    rfl
  index := by
    intro c rs hn hrs n rest acc blks total fuel cap
    obtain ⟨p1, p2⟩ := parse_index rs hn hrs (footerBytes c n ++ rest)
    conv => lhs; unfold loopS readBlocksS
    rw [p1]
    simp only []
    rw [p2]
    have e1 : (indexBytes rs ++ (footerBytes c n ++ rest)).length - (footerBytes c n ++ rest).length
        = (indexBytes rs).length := by
      rw [List.length_append]; omega
    simp only [e1, List.take_left, ne_eq, not_true_eq_false, if_false]
    rw [parseFooter_ok]
    simp only [not_true_eq_false, if_false]
    rfl

/-- The size limits a stream must respect to be representable in the format / acceptable to liblzma:
the stream and its uncompressed data are shorter than 2^63 bytes (`LZMA_VLI_MAX`), and the Index field is at most
2^34 bytes (`LZMA_BACKWARD_SIZE_MAX`: the footer stores `size / 4 - 1` in 32 bits). -/
def StreamLimits (c : Check) (fs : List Filter) (blocks : List (List Nat × List Nat)) : Prop :=
  (streamBytes c fs blocks).length < 2 ^ 63 ∧ (blocksData blocks).length < 2 ^ 63 ∧
  (indexBytes (recsOf c fs blocks)).length ≤ 2 ^ 34

theorem ceil4_block (c : Check) (fs : List Filter) (p d : List Nat) :
    ceil4 (blockBytes c fs p d).2.1 = (blockBytes c fs p d).1.length := by
  rw [blockBytes_fst, blockBytes_snd]
  simp only [List.length_append, List.length_replicate, compute_length, ceil4]
  have := blockHeaderBytes_mod4 fs
  have := size_mod4 c
  omega

theorem sum_ceil4_recsOf (c : Check) (fs : List Filter) : ∀ (blocks : List (List Nat × List Nat)),
    ((recsOf c fs blocks).map fun r => ceil4 r.1).sum = (blocksBytes c fs blocks).length := by
  intro blocks
  induction blocks with
  | nil => simp [recsOf, blocksBytes]
  | cons b blocks ih =>
    rw [recsOf_cons, blocksBytes_cons]
    simp only [List.map_cons, List.sum_cons, List.length_append]
    rw [ih, ceil4_block]

theorem sum_snd_recsOf (c : Check) (fs : List Filter) : ∀ (blocks : List (List Nat × List Nat)),
    ((recsOf c fs blocks).map fun r => r.2).sum = (blocksData blocks).length := by
  intro blocks
  induction blocks with
  | nil => simp [recsOf, blocksData]
  | cons b blocks ih =>
    rw [recsOf_cons, blockBytes_snd]
    simp only [List.map_cons, List.sum_cons, blocksData, List.flatten_cons, List.length_append]
    simp only [blocksData] at ih
    rw [ih]

theorem streamBytes_length (c : Check) (fs : List Filter) (blocks : List (List Nat × List Nat)) :
    (streamBytes c fs blocks).length
      = 12 + (blocksBytes c fs blocks).length + (indexBytes (recsOf c fs blocks)).length + 12 := by
  rw [streamBytes_eq, List.length_append, streamHeaderBytes_length]
  simp only [streamBody, List.length_append, footerBytes_length]
  omega

theorem recsOf_ge5 (c : Check) (fs : List Filter) (blocks : List (List Nat × List Nat)) :
    ∀ x ∈ recsOf c fs blocks, 5 ≤ x.1 := by
  intro x hx
  simp only [recsOf, List.map_map, List.mem_map, Function.comp] at hx
  obtain ⟨b, hb, rfl⟩ := hx
  have := blockHeaderBytes_pos fs
  rw [blockBytes_snd]
  simp only
  omega

theorem limitsOk_iff (c : Check) (fs : List Filter) (blocks : List (List Nat × List Nat)) :
    limitsOk (recsOf c fs blocks) (indexBytes (recsOf c fs blocks)).length = true ↔ StreamLimits c fs blocks := by
  unfold limitsOk StreamLimits
  simp only [Bool.and_eq_true, decide_eq_true_eq, List.all_eq_true]
  rw [sum_ceil4_recsOf, sum_snd_recsOf, streamBytes_length]
  constructor
  · rintro ⟨⟨⟨_, h1⟩, h2⟩, h3⟩
    exact ⟨by omega, by omega, h3⟩
  · rintro ⟨h1, h2, h3⟩
    exact ⟨⟨⟨recsOf_ge5 c fs blocks, by omega⟩, by omega⟩, h3⟩

theorem StreamLimits.sizesOk63 {c : Check} {fs : List Filter} {blocks : List (List Nat × List Nat)}
    (h : StreamLimits c fs blocks) : SizesOk63 c fs blocks :=
  sizesOk63_of_length c fs blocks h.1 h.2.1

theorem StreamLimits.sizesOk {c : Check} {fs : List Filter} {blocks : List (List Nat × List Nat)}
    (h : StreamLimits c fs blocks) : SizesOk c fs blocks :=
  ⟨h.sizesOk63, h.2.2⟩

theorem decodeStrict_written (c : Check) (fs : List Filter) (hfs : FiltersOk fs) (blocks : List (List Nat × List Nat))
    (hb : ∀ b ∈ blocks, BlockOk fs b) (hsz : SizesOk63 c fs blocks) (cap : Nat)
    (hcap : (blocksData blocks).length ≤ cap) :
    decodeStrict (streamBytes c fs blocks) cap
      = if limitsOk (recsOf c fs blocks) (indexBytes (recsOf c fs blocks)).length = true then
          .ok (blocksData blocks) (streamBytes c fs blocks).length (blocks.map (blkOf fs)).reverse
        else .err .invalidData := by
  have h := readBlocksS_walks.decode_stream c fs hfs blocks hb hsz [] cap hcap
  rw [List.append_nil, afterWith_none _ _ [] _ _ _ (nextStream_nil 0 0)] at h
  rw [h]
  by_cases hl : limitsOk (recsOf c fs blocks) (indexBytes (recsOf c fs blocks)).length = true
  · rw [if_pos hl, if_pos ⟨hl, ((limitsOk_iff c fs blocks).mp hl).2.2⟩]
  · rw [if_neg hl, if_neg (not_and_of_not_left _ hl)]

/-- **S1.**  The strict decoder accepts a written stream, with the result the crate's reader gives
(`xz_roundtrip_blocks`), iff it is within `StreamLimits`; hypotheses as there, with only the 63-bit half of `SizesOk`. -/
theorem writer_output_strict_iff (c : Check) (fs : List Filter) (hfs : FiltersOk fs)
    (blocks : List (List Nat × List Nat))
    (hb : ∀ b ∈ blocks, PayloadOk (readerDict fs) b.1 (applyFilters fs b.2) ∧ unfilter fs (applyFilters fs b.2) = b.2)
    (hsz : SizesOk63 c fs blocks) (cap : Nat) (hcap : ((blocks.map (·.2)).flatten).length ≤ cap) :
    decodeStrict (streamBytes c fs blocks) cap
        = .ok (blocks.map (·.2)).flatten (streamBytes c fs blocks).length (blocks.map (blkOf fs)).reverse
      ↔ StreamLimits c fs blocks := by
  rw [decodeStrict_written c fs hfs blocks (fun b hbm => blockOk_of fs b (hb b hbm)) hsz cap hcap, ← limitsOk_iff]
  split
  · exact iff_of_true rfl ‹_›
  · exact iff_of_false nofun ‹_›

def _root_.LzmaVerif.Xz.Strm.Limits (s : Strm) : Prop := StreamLimits s.c s.fs s.blocks

/-- **S1 (concatenated streams).**  `xz_concat_list` for the strict decoder, every stream within `Limits`. -/
theorem writer_output_strict_concat (s₀ : Strm) (h₀ : s₀.Ok) (l₀ : s₀.Limits) (ss : List (Nat × Strm))
    (hss : ∀ x ∈ ss, x.1 % 4 = 0 ∧ x.2.Ok ∧ x.2.Limits)
    (t : Nat) (ht : t % 4 = 0) (cap : Nat) (hcap : (s₀.data ++ catData ss).length ≤ cap) :
    decodeStrict (s₀.bytes ++ (catBytes ss ++ List.replicate t 0)) cap
      = .ok (s₀.data ++ catData ss) (s₀.bytes ++ (catBytes ss ++ List.replicate t 0)).length (finalBlks ss s₀.blks) := by
  rw [readBlocksS_walks.decode_cat s₀ h₀ ((limitsOk_iff _ _ _).mpr l₀) ss
    (fun x hx => ⟨(hss x hx).1, (hss x hx).2.1, (limitsOk_iff _ _ _).mpr (hss x hx).2.2⟩) t cap hcap, if_neg (by omega)]

theorem streamLimits_of (c : Check) (fs : List Filter) (blocks : List (List Nat × List Nat))
    (h1 : (streamBytes c fs blocks).length < 2 ^ 63) (h2 : ((blocks.map (·.2)).flatten).length < 2 ^ 63)
    (hn : blocks.length ≤ 2 ^ 29) : StreamLimits c fs blocks :=
  ⟨h1, h2, indexFits_of_blocks c fs blocks (sizesOk63_of_length c fs blocks h1 h2) hn⟩

theorem writer_output_strict' (c : Check) (fs : List Filter) (hfs : FiltersOk fs)
    (blocks : List (List Nat × List Nat))
    (hb : ∀ b ∈ blocks, PayloadOk (readerDict fs) b.1 (applyFilters fs b.2) ∧ unfilter fs (applyFilters fs b.2) = b.2)
    (hlen : (streamBytes c fs blocks).length < 2 ^ 63) (hdat : ((blocks.map (·.2)).flatten).length < 2 ^ 63)
    (hn : blocks.length ≤ 2 ^ 29)
    (cap : Nat) (hcap : ((blocks.map (·.2)).flatten).length ≤ cap) :
    decodeStrict (streamBytes c fs blocks) cap
      = .ok (blocks.map (·.2)).flatten (streamBytes c fs blocks).length (blocks.map (blkOf fs)).reverse :=
  (writer_output_strict_iff c fs hfs blocks hb (sizesOk63_of_length c fs blocks hlen hdat) cap hcap).mpr
    (streamLimits_of c fs blocks hlen hdat hn)

/-! ## S3: what laxity remains in the crate's reader

The crate's reader compares Index records, Backward Size and the block header's size fields with the decoded blocks
(`finish_block_record`, `parse_index_and_footer`); it does not enforce

* the reserved bits `0x3C` of the Block Flags (`lax_not_strict_witness`),
* the shortest form of multibyte integers, in the block header (`lax_not_strict_witness_vli`) and in the Index,
  where it even computes padding, CRC32 and size from the re-encoded integers (`lax_not_strict_witness_index_vli`),
* "LZMA2 only as the last filter" (a chain with an inner LZMA2 stacks two LZMA2 decoders: outside the model,
  `.capped`), and liblzma's 2^63 limits on whole-stream sizes (unreachable).

`Unpadded Size ≥ 5` and `Index ≤ 2^34` are implied by these comparisons.  The files below are accepted by
`Xz.decode` and rejected by `decodeStrict` (and by `xz -t`, liblzma 5.8.2). -/

/-- A 56-byte file whose only defect is the reserved Block Flags bit `0x04` (block header CRC32 recomputed). -/
def laxWitness : List Nat :=
  [0xfd, 0x37, 0x7a, 0x58, 0x5a, 0x00, 0x00, 0x01, 0x69, 0x22, 0xde, 0x36,      -- stream header (CRC32 check)
   0x02, 0x04, 0x21, 0x01, 0x00, 0x00, 0x00, 0x00, 0x24, 0x03, 0xd8, 0x22,      -- block header, flags = 0x04
   0x01, 0x00, 0x00, 0x41, 0x00, 0x00, 0x00, 0x00, 0x8b, 0x9e, 0xd9, 0xd3,      -- LZMA2 (stored "A"), padding, check
   0x00, 0x01, 0x15, 0x01, 0xa9, 0x63, 0x34, 0x60,                              -- index: 1 record (21, 1)
   0x90, 0x42, 0x99, 0x0d, 0x01, 0x00, 0x00, 0x00, 0x00, 0x01, 0x59, 0x5a]      -- footer

/-- A 60-byte file whose only defect is the filter id 0x21 written in two bytes (`A1 00`) in the block header. -/
def laxWitnessVli : List Nat :=
  [0xfd, 0x37, 0x7a, 0x58, 0x5a, 0x00, 0x00, 0x01, 0x69, 0x22, 0xde, 0x36,
   0x03, 0x00, 0xa1, 0x00, 0x01, 0x00, 0x00, 0x00, 0x00, 0x00, 0x00, 0x00, 0xee, 0x75, 0x7b, 0x86,
   0x01, 0x00, 0x00, 0x41, 0x00, 0x00, 0x00, 0x00, 0x8b, 0x9e, 0xd9, 0xd3,
   0x00, 0x01, 0x19, 0x01, 0xa5, 0x2c, 0x81, 0xcc,
   0x90, 0x42, 0x99, 0x0d, 0x01, 0x00, 0x00, 0x00, 0x00, 0x01, 0x59, 0x5a]

/-- A 57-byte file whose Index writes the number of records in two bytes (`81 00`); padding, CRC32 and Backward
Size are those of the canonical 8-byte Index, which is what the crate's reader computes. -/
def laxWitnessIndexVli : List Nat :=
  [0xfd, 0x37, 0x7a, 0x58, 0x5a, 0x00, 0x00, 0x01, 0x69, 0x22, 0xde, 0x36,
   0x02, 0x00, 0x21, 0x01, 0x00, 0x00, 0x00, 0x00, 0x37, 0x27, 0x97, 0xd6,
   0x01, 0x00, 0x00, 0x41, 0x00, 0x00, 0x00, 0x00, 0x8b, 0x9e, 0xd9, 0xd3,
   0x00, 0x81, 0x00, 0x15, 0x01, 0xa9, 0x63, 0x34, 0x60,
   0x90, 0x42, 0x99, 0x0d, 0x01, 0x00, 0x00, 0x00, 0x00, 0x01, 0x59, 0x5a]

theorem out_of_result (o : Out) (d : List Nat) (n : Nat) (h : o.result? = some (d, n)) : ∃ b, o = .ok d n b := by
  cases o with
  | ok d' n' b =>
    simp only [Out.result?, Option.some.injEq, Prod.mk.injEq] at h
    exact ⟨b, by rw [h.1, h.2]⟩
  | err e => cases h
  | capped => cases h

theorem out_of_err (o : Out) (e : Xz.Err) (h : o.err? = some e) : o = .err e := by
  cases o with
  | ok d n b => cases h
  | err e' => simp only [Out.err?, Option.some.injEq] at h; rw [h]
  | capped => cases h

/-- **S3.**  A concrete file that the crate's reader accepts (in both modes) and the strict decoder — like
liblzma ("Unsupported options") — rejects: a reserved Block Flags bit is set. -/
theorem lax_not_strict_witness :
    (∃ b, Xz.decode true laxWitness 16 = .ok [0x41] 56 b) ∧ (∃ b, Xz.decode false laxWitness 16 = .ok [0x41] 56 b) ∧
    decodeStrict laxWitness 16 = .err .invalidInput :=
  ⟨out_of_result _ _ _ (by decide +kernel), out_of_result _ _ _ (by decide +kernel), out_of_err _ _ (by decide +kernel)⟩

theorem lax_not_strict_witness_vli :
    (∃ b, Xz.decode true laxWitnessVli 16 = .ok [0x41] 60 b) ∧ decodeStrict laxWitnessVli 16 = .err .invalidData :=
  ⟨out_of_result _ _ _ (by decide +kernel), out_of_err _ _ (by decide +kernel)⟩

theorem lax_not_strict_witness_index_vli :
    (∃ b, Xz.decode true laxWitnessIndexVli 16 = .ok [0x41] 57 b) ∧
    decodeStrict laxWitnessIndexVli 16 = .err .invalidData :=
  ⟨out_of_result _ _ _ (by decide +kernel), out_of_err _ _ (by decide +kernel)⟩

/-- Index record (21, **2**) for a block of 1 byte, Index CRC32 recomputed -/
def forgedIndexWitness : List Nat :=
  [0xfd, 0x37, 0x7a, 0x58, 0x5a, 0x00, 0x00, 0x01, 0x69, 0x22, 0xde, 0x36,
   0x02, 0x00, 0x21, 0x01, 0x00, 0x00, 0x00, 0x00, 0x37, 0x27, 0x97, 0xd6,
   0x01, 0x00, 0x00, 0x41, 0x00, 0x00, 0x00, 0x00, 0x8b, 0x9e, 0xd9, 0xd3,
   0x00, 0x01, 0x15, 0x02, 0x13, 0x32, 0x3d, 0xf9,
   0x90, 0x42, 0x99, 0x0d, 0x01, 0x00, 0x00, 0x00, 0x00, 0x01, 0x59, 0x5a]

/-- right record (21, 1), Backward Size 2 (= 12 bytes) instead of 1 (= 8 bytes), footer CRC32 recomputed -/
def forgedBackwardWitness : List Nat :=
  [0xfd, 0x37, 0x7a, 0x58, 0x5a, 0x00, 0x00, 0x01, 0x69, 0x22, 0xde, 0x36,
   0x02, 0x00, 0x21, 0x01, 0x00, 0x00, 0x00, 0x00, 0x37, 0x27, 0x97, 0xd6,
   0x01, 0x00, 0x00, 0x41, 0x00, 0x00, 0x00, 0x00, 0x8b, 0x9e, 0xd9, 0xd3,
   0x00, 0x01, 0x15, 0x01, 0xa9, 0x63, 0x34, 0x60,
   0x3e, 0x30, 0x0d, 0x8b, 0x02, 0x00, 0x00, 0x00, 0x00, 0x01, 0x59, 0x5a]

theorem forged_witnesses_rejected :
    Xz.decode true forgedIndexWitness 16 = .err .invalidData ∧ Xz.decode false forgedIndexWitness 16 = .err .invalidData ∧
    decodeStrict forgedIndexWitness 16 = .err .invalidData ∧
    Xz.decode true forgedBackwardWitness 16 = .err .invalidData ∧
    Xz.decode false forgedBackwardWitness 16 = .err .invalidData ∧
    decodeStrict forgedBackwardWitness 16 = .err .invalidData :=
  ⟨out_of_err _ _ (by decide +kernel), out_of_err _ _ (by decide +kernel), out_of_err _ _ (by decide +kernel),
   out_of_err _ _ (by decide +kernel), out_of_err _ _ (by decide +kernel), out_of_err _ _ (by decide +kernel)⟩

/-- `forgedIndexWitness` differs from a file the writer model emits (which both decoders accept) only in the record's
second field and the Index CRC32 -/
theorem witness_base_accepted :
    streamBytes .crc32 [.lzma2 4096] [([1, 0, 0, 0x41, 0], [0x41])] =
      forgedIndexWitness.take 39 ++ [0x01, 0xa9, 0x63, 0x34, 0x60] ++ forgedIndexWitness.drop 44 ∧
    (∃ b, decodeStrict (streamBytes .crc32 [.lzma2 4096] [([1, 0, 0, 0x41, 0], [0x41])]) 16 = .ok [0x41] 56 b) :=
  ⟨by decide +kernel, out_of_result _ _ _ (by decide +kernel)⟩

/-! ## Forged Index / footer: the strict decoder (general form; the reader's counterpart is
`Xz.reader_rejects_forged_index` / `Xz.reader_rejects_wrong_backward_size` in `Proofs/XzForged.lean`) -/

theorem strict_rejects_forged (c : Check) (fs : List Filter) (hfs : FiltersOk fs)
    (blocks : List (List Nat × List Nat))
    (hb : ∀ b ∈ blocks, PayloadOk (readerDict fs) b.1 (applyFilters fs b.2) ∧ unfilter fs (applyFilters fs b.2) = b.2)
    (rs : List (Nat × Nat)) (hn : rs.length < 2 ^ 63) (hrs : ∀ x ∈ rs, RecOk x) (n : Nat)
    (hne : rs ≠ recsOf c fs blocks ∨ (ofLe (le 4 (n / 4 - 1)) + 1) * 4 ≠ (indexBytes rs).length)
    (cap : Nat) (hcap : ((blocks.map (·.2)).flatten).length ≤ cap) :
    decodeStrict (forgedStream c fs blocks rs n) cap = .err .invalidData := by
  have h := readBlocksS_walks.decode_forged c fs hfs blocks (fun b hbm => blockOk_of fs b (hb b hbm)) rs hn hrs n []
    cap hcap
  rw [List.append_nil] at h
  rw [h]
  rcases hne with h | h
  · rw [if_pos h]
  · rw [if_pos h, ite_self, ite_self]

theorem forged_index_rejected_by_both (c : Check) (fs : List Filter) (hfs : FiltersOk fs)
    (blocks : List (List Nat × List Nat))
    (hb : ∀ b ∈ blocks, PayloadOk (readerDict fs) b.1 (applyFilters fs b.2) ∧ unfilter fs (applyFilters fs b.2) = b.2)
    (rs : List (Nat × Nat)) (hn : rs.length < 2 ^ 63) (hrs : ∀ x ∈ rs, RecOk x)
    (hne : rs ≠ recsOf c fs blocks) (n : Nat) (cap : Nat) (hcap : ((blocks.map (·.2)).flatten).length ≤ cap) :
    Xz.decode true (forgedStream c fs blocks rs n) cap = .err .invalidData ∧
    decodeStrict (forgedStream c fs blocks rs n) cap = .err .invalidData :=
  ⟨reader_rejects_forged_index true c fs hfs blocks hb rs hn hrs hne n cap hcap,
   strict_rejects_forged c fs hfs blocks hb rs hn hrs n (Or.inl hne) cap hcap⟩

/-! ## The boundary of S1 and of the round trip is real

`write_stream_footer` computes `((index_size / 4) - 1) as u32` — a silent truncation when the Index is larger than
2^34 bytes (more than about 2^33 blocks).  The model (`footerBytes`: `le 4 (indexLen / 4 - 1)`) has the same
behaviour.  Such a stream is rejected by the strict decoder and — since the reader compares the Backward Size with
the Index — by the crate's own reader. -/

/-- a block holding the single byte 0x41 as a stored LZMA2 chunk -/
def tinyBlock : List Nat × List Nat := ([1, 0, 0, 0x41, 0], [0x41])

theorem index_ge_records (rs : List (Nat × Nat)) (h : ∀ x ∈ rs, RecOk x) : rs.length ≤ (indexBytes rs).length := by
  obtain ⟨rl, _⟩ := recBytes_spec rs h
  rw [indexBytes_eq]
  simp only [List.length_cons, List.length_append]
  omega

/-- **The writer's own output beyond the limit**: `N > 2^34` tiny blocks.  All 63-bit conditions hold; the
crate's reader and the strict decoder both reject the stream (wrong Backward Size). -/
theorem writer_index_overflow (c : Check) (N : Nat) (hN : 2 ^ 34 < N) (hN2 : N < 2 ^ 63) :
    Xz.decode false (streamBytes c [.lzma2 4096] (List.replicate N tinyBlock)) N = .err .invalidData ∧
    decodeStrict (streamBytes c [.lzma2 4096] (List.replicate N tinyBlock)) N = .err .invalidData := by
  have hfs : FiltersOk [.lzma2 4096] := by decide
  have hb : ∀ b ∈ List.replicate N tinyBlock,
      PayloadOk (readerDict [.lzma2 4096]) b.1 (applyFilters [.lzma2 4096] b.2) ∧
        unfilter [.lzma2 4096] (applyFilters [.lzma2 4096] b.2) = b.2 := by
    intro b hbm
    rw [List.eq_of_mem_replicate hbm]
    exact stored1_blocks_ok [0x41] _ (List.mem_singleton.mpr rfl)
  have hsz : SizesOk63 c [.lzma2 4096] (List.replicate N tinyBlock) := by
    refine sizesOk63_small c _ (by decide) _ (by rw [List.length_replicate]; exact hN2) (fun b hbm => ?_)
    rw [List.eq_of_mem_replicate hbm]
    exact ⟨by decide, by decide⟩
  have hcap : (((List.replicate N tinyBlock).map (·.2)).flatten).length ≤ N := by
    simp [tinyBlock]
  have hbig : ¬ (indexBytes (recsOf c [.lzma2 4096] (List.replicate N tinyBlock))).length ≤ 2 ^ 34 := by
    obtain ⟨r1, r2⟩ := recsOf_ok c [.lzma2 4096] _ hsz
    have := index_ge_records _ r2
    rw [r1, List.length_replicate] at this
    omega
  have h1 := xz_roundtrip_iff c [.lzma2 4096] hfs _ hb hsz [] N hcap
  rw [List.append_nil, if_neg hbig] at h1
  exact ⟨h1, by
    rw [decodeStrict_written c _ hfs _ (fun b hbm => blockOk_of _ b (hb b hbm)) hsz N hcap,
      if_neg (fun hl => hbig ((limitsOk_iff _ _ _).mp hl).2.2)]⟩

theorem streamLimits_of_sizes (c : Check) (fs : List Filter) (blocks : List (List Nat × List Nat))
    (hsz : SizesOk63 c fs blocks) (hn : blocks.length ≤ 2 ^ 29) (hbb : (blocksBytes c fs blocks).length < 2 ^ 62)
    (hd : (blocksData blocks).length < 2 ^ 63) : StreamLimits c fs blocks := by
  have hi : (indexBytes (recsOf c fs blocks)).length ≤ 2 ^ 34 := indexFits_of_blocks c fs blocks hsz hn
  refine ⟨?_, hd, hi⟩
  rw [streamBytes_length]
  omega

theorem two_blocks_limits (c : Check) (x y : Nat) :
    StreamLimits c [.lzma2 4096] [([1, 0, 0, x, 0], [x]), ([1, 0, 0, y, 0], [y])] := by
  have hc : c.size ≤ 32 := by cases c <;> decide
  apply streamLimits_of_sizes
  · exact sizesOk63_small c _ (by decide) _ (by simp) (by simp)
  · simp
  · simp only [blocksBytes, List.map_cons, List.map_nil, List.flatten_cons, List.flatten_nil, blockBytes_fst,
      List.length_append, List.length_cons, List.length_nil, List.length_replicate, hdr_lzma2_len12, compute_length]
    omega
  · simp [blocksData]

/-- S1 instantiated: two real blocks, any check type, any two byte values — all hypotheses discharged -/
example (c : Check) (x y : Nat) :
    decodeStrict (streamBytes c [.lzma2 4096] [([1, 0, 0, x, 0], [x]), ([1, 0, 0, y, 0], [y])]) 2
      = .ok [x, y] (streamBytes c [.lzma2 4096] [([1, 0, 0, x, 0], [x]), ([1, 0, 0, y, 0], [y])]).length
          [blkOf [.lzma2 4096] ([1, 0, 0, y, 0], [y]), blkOf [.lzma2 4096] ([1, 0, 0, x, 0], [x])] := by
  exact (writer_output_strict_iff c [.lzma2 4096] (by decide) _ (stored1_blocks_ok [x, y])
    (two_blocks_limits c x y).sizesOk63 2 (by simp)).mpr (two_blocks_limits c x y)

/-- the hypotheses of `writer_output_strict'` (length form) for the same stream -/
example (c : Check) (x y : Nat) :
    (streamBytes c [.lzma2 4096] [([1, 0, 0, x, 0], [x]), ([1, 0, 0, y, 0], [y])]).length < 2 ^ 63 ∧
    (([([1, 0, 0, x, 0], [x]), ([1, 0, 0, y, 0], [y])].map (·.2)).flatten).length < 2 ^ 63 ∧
    [(([1, 0, 0, x, 0] : List Nat), ([x] : List Nat)), ([1, 0, 0, y, 0], [y])].length ≤ 2 ^ 29 :=
  ⟨(two_blocks_limits c x y).1, (two_blocks_limits c x y).2.1, by simp⟩

/-- S1 (concatenation) instantiated: a CRC32 stream with two blocks, 8 bytes of padding, an (empty) SHA-256 stream
with a delta + LZMA2 chain, 4 bytes of padding, a CRC64 stream with two blocks, 12 bytes of trailing padding -/
example (x y z : Nat) :
    decodeStrict
      ((Strm.mk .crc32 [.lzma2 4096] [([1, 0, 0, x, 0], [x]), ([1, 0, 0, x, 0], [x])]).bytes ++
        (catBytes [(8, Strm.mk .sha256 [.delta 4, .lzma2 65536] []),
                   (4, Strm.mk .crc64 [.lzma2 4096] [([1, 0, 0, y, 0], [y]), ([1, 0, 0, z, 0], [z])])]
          ++ List.replicate 12 0)) 4
      = .ok [x, x, y, z]
          ((Strm.mk .crc32 [.lzma2 4096] [([1, 0, 0, x, 0], [x]), ([1, 0, 0, x, 0], [x])]).bytes ++
            (catBytes [(8, Strm.mk .sha256 [.delta 4, .lzma2 65536] []),
                   (4, Strm.mk .crc64 [.lzma2 4096] [([1, 0, 0, y, 0], [y]), ([1, 0, 0, z, 0], [z])])]
              ++ List.replicate 12 0)).length
          [blkOf [.lzma2 4096] ([1, 0, 0, z, 0], [z]), blkOf [.lzma2 4096] ([1, 0, 0, y, 0], [y])] := by
  have ok2 : ∀ (c : Check) (u v : Nat), (Strm.mk c [.lzma2 4096] [([1, 0, 0, u, 0], [u]), ([1, 0, 0, v, 0], [v])]).Ok ∧
      (Strm.mk c [.lzma2 4096] [([1, 0, 0, u, 0], [u]), ([1, 0, 0, v, 0], [v])]).Limits := by
    intro c u v
    exact ⟨Strm.ok_of _ _ _ (by decide) (stored1_blocks_ok [u, v]) (two_blocks_limits c u v).sizesOk, two_blocks_limits c u v⟩
  have ok0 : (Strm.mk .sha256 [.delta 4, .lzma2 65536] []).Ok ∧ (Strm.mk .sha256 [.delta 4, .lzma2 65536] []).Limits := by
    have hs : SizesOk .sha256 [.delta 4, .lzma2 65536] [] := sizesOk_nil _ _
    exact ⟨Strm.ok_of _ _ _ (by decide) (by intro b hb; cases hb) hs,
      streamLimits_of_sizes _ _ _ hs.1 (by simp) (by simp [blocksBytes]) (by simp [blocksData])⟩
  have := writer_output_strict_concat _ (ok2 .crc32 x x).1 (ok2 .crc32 x x).2
    [(8, Strm.mk .sha256 [.delta 4, .lzma2 65536] []),
     (4, Strm.mk .crc64 [.lzma2 4096] [([1, 0, 0, y, 0], [y]), ([1, 0, 0, z, 0], [z])])]
    (by
      intro p hp
      simp only [List.mem_cons, List.not_mem_nil, or_false] at hp
      rcases hp with rfl | rfl
      · exact ⟨by decide, ok0.1, ok0.2⟩
      · exact ⟨(by decide : 4 % 4 = 0), (ok2 .crc64 y z).1, (ok2 .crc64 y z).2⟩)
    12 (by decide) 4 (by simp [Strm.data, blocksData, catData])
  simpa [Strm.data, blocksData, catData, finalBlks, Strm.blks] using this

/-- S2 instantiated on an accepted file (`witness_base_accepted`) -/
example : ∃ b, Xz.decode true (streamBytes .crc32 [.lzma2 4096] [([1, 0, 0, 0x41, 0], [0x41])]) 16 = .ok [0x41] 56 b := by
  obtain ⟨b, hb⟩ := witness_base_accepted.2
  exact ⟨b, strict_implies_lax _ _ _ _ _ hb⟩

/-- the hypotheses of `writer_index_overflow` are satisfiable: 2^35 tiny blocks -/
example : decodeStrict (streamBytes .crc32 [.lzma2 4096] (List.replicate (2 ^ 35) tinyBlock)) (2 ^ 35)
    = .err .invalidData :=
  (writer_index_overflow .crc32 (2 ^ 35) (by decide) (by decide)).2

/-- `forged_index_rejected_by_both` instantiated: the record (21, 2) instead of (21, 1), any announced Index
length `n`, any byte `x` -/
example (x n : Nat) :
    Xz.decode true (forgedStream .crc32 [.lzma2 4096] [([1, 0, 0, x, 0], [x])] [(21, 2)] n) 1 = .err .invalidData ∧
    decodeStrict (forgedStream .crc32 [.lzma2 4096] [([1, 0, 0, x, 0], [x])] [(21, 2)] n) 1 = .err .invalidData := by
  have hne : [(21, 2)] ≠ recsOf .crc32 [.lzma2 4096] [([1, 0, 0, x, 0], [x])] := by
    simp [recsOf, blockBytes_snd, hdr_lzma2_len12, Check.size]
  exact forged_index_rejected_by_both .crc32 [.lzma2 4096] (by decide) _ (stored1_blocks_ok [x]) [(21, 2)] (by decide)
    (by intro r hr; rw [List.mem_singleton] at hr; subst hr; exact ⟨by decide, by decide, by decide⟩) hne n 1 (by simp)

#print axioms writer_output_strict'
#print axioms writer_output_strict_concat
#print axioms writer_output_strict_iff
#print axioms writer_index_overflow
#print axioms strict_implies_lax
#print axioms lax_not_strict_witness
#print axioms lax_not_strict_witness_vli
#print axioms lax_not_strict_witness_index_vli
#print axioms forged_witnesses_rejected
#print axioms witness_base_accepted
#print axioms strict_rejects_forged
#print axioms forged_index_rejected_by_both
#print axioms limitsOk_iff
#print axioms streamLimits_of
#print axioms headerStrict_ok
#print axioms decodeStrict_written
#print axioms parseIndex_size

end LzmaVerif.XzStrict
