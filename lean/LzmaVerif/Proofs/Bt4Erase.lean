/-
  The access log is an observer only: switching it off changes neither the tables nor the reported matches - proved
  per stage and for both tree walks; what is not proved is said at the end.  (The driver runs the model without the
  log; (B4), `bt4_indices_in_bounds` of `Props/C01Bt4.lean`, is stated about the run with the log.)
-/
import LzmaVerif.Proofs.Bt4Inv
namespace LzmaVerif.Mf.Bt4

def St.core (s : St) : St := { s with log := none }

theorem push_none (a : Access) : Log.push none a = none := rfl

theorem walk_none {σ : Type} (P : Bt4Params) (data : Array UInt8) (k : Ctx) (probe : Probe σ)
    (hprobe : ∀ st lg m delta, probe st none m delta =
      ((probe st lg m delta).1, (probe st lg m delta).2.1, (probe st lg m delta).2.2.1, none))
    (depth : Nat) (tree : Array Nat) (ptr0 ptr1 len0 len1 cur : Nat) (st : σ) (lg : Log) :
    walk P data k probe depth tree ptr0 ptr1 len0 len1 cur st none =
      ((walk P data k probe depth tree ptr0 ptr1 len0 len1 cur st lg).1,
       (walk P data k probe depth tree ptr0 ptr1 len0 len1 cur st lg).2.1, none) := by
  fun_induction walk P data k probe depth tree ptr0 ptr1 len0 len1 cur st lg with
  | case1 => rfl
  | case2 depth tree ptr0 ptr1 len0 len1 cur st lg delta hstop =>
    rw [walk_stop rfl hstop]; rfl
  | case3 depth tree ptr0 ptr1 len0 len1 cur st lg delta hstop pair r hnice =>
    rw [walk_relink rfl (hprobe st lg _ _) hstop hnice]; rfl
  | case4 depth tree ptr0 ptr1 len0 len1 cur st lg delta hstop pair r hnice lg1 hlt tree1 ih =>
    rw [walk_right rfl (hprobe st lg _ _) hstop hnice hlt]; exact ih
  | case5 depth tree ptr0 ptr1 len0 len1 cur st lg delta hstop pair r hnice lg1 hlt tree1 ih =>
    rw [walk_left rfl (hprobe st lg _ _) hstop hnice hlt]; exact ih

theorem findLoop_none (P : Bt4Params) (data : Array UInt8) (k : Ctx)
    (depth : Nat) (tree : Array Nat) (ptr0 ptr1 len0 len1 cur lenBest : Nat) (ms : Array Match) (lg : Log) :
    findLoop P data k depth tree ptr0 ptr1 len0 len1 cur lenBest ms none =
      ((findLoop P data k depth tree ptr0 ptr1 len0 len1 cur lenBest ms lg).1,
       (findLoop P data k depth tree ptr0 ptr1 len0 len1 cur lenBest ms lg).2.1, none) := by
  rw [findLoop_eq_walk, findLoop_eq_walk,
    walk_none P data k _ (fun _ _ _ _ => rfl) depth tree ptr0 ptr1 len0 len1 cur _ lg]

theorem skipInner_none (data : Array UInt8) (p delta niceLimit fuel len : Nat) (lg : Log) :
    skipInner data p delta niceLimit fuel len none =
      ((skipInner data p delta niceLimit fuel len lg).1, (skipInner data p delta niceLimit fuel len lg).2.1, none) := by
  fun_induction skipInner data p delta niceLimit fuel len lg with
  | case1 len lg => simp only [skipInner]
  | case2 fuel len lg len1 heq =>
    simp only [skipInner]; rw [if_pos heq]
  | case3 fuel len lg len1 hne lg1 hby =>
    simp only [skipInner]; rw [if_neg hne, if_pos hby]; simp only [push_none]; rfl
  | case4 fuel len lg len1 hne lg1 hby ih =>
    simp only [skipInner]; rw [if_neg hne, if_neg hby]; simp only [push_none]; exact ih

theorem skipProbe_none (data : Array UInt8) (p niceLimit : Nat) (st : Unit) (lg : Log) (m delta : Nat) :
    skipProbe data p niceLimit st none m delta =
      ((skipProbe data p niceLimit st lg m delta).1, (skipProbe data p niceLimit st lg m delta).2.1,
        (skipProbe data p niceLimit st lg m delta).2.2.1, none) := by
  unfold skipProbe
  simp only [push_none]
  split
  · rw [skipInner_none data p delta niceLimit niceLimit m ((lg.push (.byte p m delta)).push (.byte p m 0))]
  · rfl

theorem skipLoop_none (P : Bt4Params) (data : Array UInt8) (k : Ctx)
    (depth : Nat) (tree : Array Nat) (ptr0 ptr1 len0 len1 cur : Nat) (lg : Log) :
    skipLoop P data k depth tree ptr0 ptr1 len0 len1 cur none =
      ((skipLoop P data k depth tree ptr0 ptr1 len0 len1 cur lg).1, none) := by
  rw [skipLoop_eq_walk, skipLoop_eq_walk,
    walk_none P data k _ (skipProbe_none data k.p k.niceLimit) depth tree ptr0 ptr1 len0 len1 cur () lg]

theorem movePos_core (P : Bt4Params) (c : Cfg) (n : Nat) (s : St) :
    movePos P c n s.core = ((movePos P c n s).1.core, (movePos P c n s).2) := by
  rw [movePos_eq, movePos_eq]
  show (if (n - s.pos < c.niceLen ∧ n - s.pos < P.minAvailFinishing) ∨ n - s.pos = 0 then _ else _) = _
  split <;> rfl

theorem hashStage_core (P : Bt4Params) (c : Cfg) (data : Array UInt8) (s : St) :
    hashStage P c data s.core =
      { st := (hashStage P c data s).st.core, delta2 := (hashStage P c data s).delta2,
        delta3 := (hashStage P c data s).delta3, cur := (hashStage P c data s).cur } := by
  cases s; rfl

theorem ctxOf_core (P : Bt4Params) (c : Cfg) (s : St) (a b : Nat) : ctxOf P c s.core a b = ctxOf P c s a b := rfl

theorem hashCands_none (P : Bt4Params) (data : Array UInt8) (p cs d2 d3 : Nat) (lg : Log) :
    hashCands P data p cs d2 d3 none = { hashCands P data p cs d2 d3 lg with log := none } := by
  unfold hashCands
  simp only [push_none, ite_self]
  split <;> rfl

theorem extendCands_none (data : Array UInt8) (p lim : Nat) (cd : Cands) :
    extendCands data p lim { cd with log := none } = { extendCands data p lim cd with log := none } := by
  unfold extendCands
  split <;> rfl

/- Not proved: the assembled statement `find P c data s.core = ((find P c data s).1.core, (find P c data s).2)` and
   the same for `skip` / `runScript`. -/

end LzmaVerif.Mf.Bt4
