import LzmaVerif.Model.XzInt
import Mathlib.Tactic.Ring
import Mathlib.Tactic.IntervalCases
/-! The multibyte integer round trip is proved from any state of the reader (`parseReaderAux_encodeFuel`), so that
`Xz.mb_spec` and C02's `multibyte_rt` are instances. -/
namespace LzmaVerif.XzInt

theorem encodeFuel_length (f : Nat) : ∀ v, (encodeFuel f v).length = sizeForFuel f v := by
  induction f with
  | zero => intro v; rfl
  | succ f ih =>
    intro v
    unfold encodeFuel sizeForFuel
    split
    · rfl
    · rw [List.length_cons, ih, Nat.add_comm]

theorem encodeFuel_lt (f : Nat) : ∀ v, ∀ x ∈ encodeFuel f v, x < 256 := by
  induction f with
  | zero => intro v x hx; cases hx
  | succ f ih =>
    intro v x hx
    unfold encodeFuel at hx
    split at hx
    · rw [List.mem_singleton] at hx; omega
    · rcases List.mem_cons.mp hx with rfl | hx
      · omega
      · exact ih _ x hx

theorem sizeForFuel_pos (f v : Nat) : 1 ≤ sizeForFuel (f + 1) v := by
  unfold sizeForFuel; split <;> omega

theorem sizeForFuel_le (f : Nat) : ∀ k v, v < 128 ^ (k + 1) → sizeForFuel f v ≤ k + 1 := by
  induction f with
  | zero => intro k v _; exact Nat.zero_le _
  | succ f ih =>
    intro k v hv
    unfold sizeForFuel
    split
    · omega
    · cases k with
      | zero => omega
      | succ k =>
        have := ih k (v / 128) ((Nat.div_lt_iff_lt_mul (by decide)).mpr (by rwa [Nat.pow_succ] at hv))
        omega

theorem sizeForFuel_le_nine (f : Nat) {v : Nat} (hv : v < 2 ^ 63) : sizeForFuel f v ≤ 9 :=
  sizeForFuel_le f 8 v (by rwa [show (128 : Nat) ^ (8 + 1) = 2 ^ 63 by decide])

/-- The reader gets back what the writer encoded, from any state: the encoder must not run out of fuel
(`v < 128 ^ fe`, `fe ≠ 0`), nor the reader (`≤ fp`), and the last byte must still pass the reader's `shift < 63` test. -/
theorem parseReaderAux_encodeFuel (fe : Nat) : ∀ (v fp shift acc n : Nat) (rest : List Nat),
    v < 128 ^ fe → fe ≠ 0 → sizeForFuel fe v ≤ fp → shift + 7 * sizeForFuel fe v < 70 →
    parseReaderAux fp (encodeFuel fe v ++ rest) shift acc n
      = .ok (acc + v * 2 ^ shift) (n + sizeForFuel fe v) := by
  induction fe with
  | zero => intro _ _ _ _ _ _ _ h; exact absurd rfl h
  | succ fe ih =>
    intro v fp shift acc n rest hv _ hfp hs
    unfold encodeFuel
    unfold sizeForFuel at hfp hs ⊢
    obtain ⟨fp, rfl⟩ : ∃ k, fp = k + 1 := ⟨fp - 1, by split at hfp <;> omega⟩
    split
    · rename_i hlt
      rw [if_pos hlt] at hs
      simp only [List.cons_append, List.nil_append, parseReaderAux,
        if_neg (show ¬ shift ≥ 63 by omega), if_pos hlt, Nat.mod_eq_of_lt hlt]
    · rename_i hlt
      rw [if_neg hlt] at hfp hs
      have hv' : v / 128 < 128 ^ fe := (Nat.div_lt_iff_lt_mul (by decide)).mpr (by rwa [Nat.pow_succ] at hv)
      simp only [List.cons_append, parseReaderAux, if_neg (show ¬ shift ≥ 63 by omega),
        if_neg (show ¬ v % 128 + 128 < 128 by omega)]
      have hfe : fe ≠ 0 := by rintro rfl; rw [Nat.pow_zero] at hv'; omega
      rw [ih _ _ _ _ _ _ hv' hfe (by omega) (by omega), show (v % 128 + 128) % 128 = v % 128 by omega,
        Nat.add_assoc n, Nat.add_assoc acc]
      congr 2
      -- the low group at `shift`, the rest at `shift + 7`
      conv => rhs; rw [← Nat.div_add_mod v 128]
      rw [Nat.pow_add]; ring

def propSize (p : Nat) : Nat := (2 + p % 2) * 2 ^ (p / 2 + 11)

theorem propSize_mono (p : Nat) : propSize p < propSize (p + 1) := by
  unfold propSize
  rcases Nat.mod_two_eq_zero_or_one p with h | h
  · have h1 : (p + 1) % 2 = 1 := by omega
    have h2 : (p + 1) / 2 = p / 2 := by omega
    rw [h, h1, h2]
    have : 0 < 2 ^ (p / 2 + 11) := Nat.pow_pos (by decide)
    omega
  · have h1 : (p + 1) % 2 = 0 := by omega
    have h2 : (p + 1) / 2 = p / 2 + 1 := by omega
    rw [h, h1, h2]
    have : 2 ^ (p / 2 + 1 + 11) = 2 * 2 ^ (p / 2 + 11) := by
      rw [show p / 2 + 1 + 11 = (p / 2 + 11) + 1 by omega, Nat.pow_succ]; omega
    have : 0 < 2 ^ (p / 2 + 11) := Nat.pow_pos (by decide)
    omega

theorem findProp_spec (d : Nat) : ∀ (fuel p r : Nat), findProp d fuel p = some r →
    p ≤ r ∧ r < 40 ∧ d ≤ propSize r ∧ ∀ q, p ≤ q → q < r → propSize q < d := by
  intro fuel
  induction fuel with
  | zero => intro p r h; simp [findProp] at h
  | succ fuel ih =>
    intro p r h
    simp only [findProp] at h
    split at h
    · cases h
    · rename_i hp
      split at h
      · rename_i hs
        simp only [Option.some.injEq] at h
        subst h
        exact ⟨Nat.le_refl _, by omega, hs, fun q h1 h2 => by omega⟩
      · rename_i hs
        obtain ⟨i1, i2, i3, i4⟩ := ih (p + 1) r h
        refine ⟨by omega, i2, i3, ?_⟩
        intro q h1 h2
        by_cases hq : q = p
        · subst hq; unfold propSize; omega
        · exact i4 q (by omega) h2

theorem findProp_total (d : Nat) : ∀ (fuel p : Nat), p + fuel ≥ 41 → p ≤ 39 → d ≤ propSize 39 →
    ∃ r, findProp d fuel p = some r := by
  intro fuel
  induction fuel with
  | zero => intro p h1 h2; omega
  | succ fuel ih =>
    intro p h1 h2 h3
    simp only [findProp]
    have : ¬ p ≥ 40 := by omega
    simp only [this, if_false]
    by_cases hs : (2 + p % 2) * 2 ^ (p / 2 + 11) ≥ d
    · exact ⟨p, by simp only [hs, if_true]⟩
    · simp only [hs, if_false]
      have hp : p ≠ 39 := by
        intro hc; subst hc; unfold propSize at h3; omega
      exact ih (p + 1) (by omega) (by omega) h3

end LzmaVerif.XzInt
