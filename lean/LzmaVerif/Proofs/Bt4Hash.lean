/-
  (B3) (`bt4_hash_candidates_valid`, `Props/C01Bt4.lean`) the hash candidates of `find` (bt4.rs:168-210): matches and
  `len_best` are those of `Mf.hashHits` (`extendCands_eq`), a table entry is a `Mf.CandOk` by `hashes_sound`
  (`entry_cand`), so `Mf.hashHits_ok` gives `CandsOk`.
-/
import LzmaVerif.Proofs.Bt4Inv
import LzmaVerif.Proofs.Hc4Hash
import LzmaVerif.Proofs.MfCands
namespace LzmaVerif.Mf

/-- `hash234.rs`: the comments at bt4.rs:170-173 and :183-186 -/
theorem hashes_sound (H : HashParams)
    (h2 : 0 < H.hash2Size ∧ H.hash2Size % 256 = 0)
    (h3 : 0 < H.hash3Size ∧ H.hash3Size % 65536 = 0 ∧ H.shift3 = 8)
    (m b0 b1 b2 b3 b1' b2' b3' : Nat) (l1 : b1 < 256) (l2 : b2 < 256) (l1' : b1' < 256) (l2' : b2' < 256) :
    ((calcHashes H m b0 b1 b2 b3).h2 = (calcHashes H m b0 b1' b2' b3').h2 → b1 = b1') ∧
    ((calcHashes H m b0 b1 b2 b3).h3 = (calcHashes H m b0 b1' b2' b3').h3 → b1 = b1' ∧ b2 = b2') :=
  have hok : Hc4.hashOk H := ⟨h2.2, h2.1, h3.2.1, h3.1, h3.2.2⟩
  ⟨Hc4.hash2_sound H hok m m b0 b1 b2 b3 b1' b2' b3' l1 l1',
    Hc4.hash3_sound H hok m m b0 b1 b2 b3 b1' b2' b3' l1 l1' l2 l2'⟩

namespace Bt4

variable {P : Bt4Params} {c : Cfg} {data : Array UInt8}

theorem hashCands_last {P : Bt4Params} (hok : P.ok) (data : Array UInt8) (p cs d2 d3 : Nat) (lg : Log)
    (h : (hashCands P data p cs d2 d3 lg).ms.size > 0) :
    (hashCands P data p cs d2 d3 lg).delta2 < cs ∧
    ((hashCands P data p cs d2 d3 lg).delta2 = d2 ∨ (hashCands P data p cs d2 d3 lg).delta2 = d3) ∧
    (hashCands P data p cs d2 d3 lg).lenBest ≤ 3 := by
  revert h
  unfold hashCands
  rw [ok_h2Len hok, ok_h3Len hok]
  by_cases m3 : ((d2 != d3 && ltOrLe P.d3Strict d3 cs) && byteAt data (p - d3) == byteAt data p) = true
  · simp only [m3, if_true]
    rw [Bool.and_eq_true, Bool.and_eq_true, ok_d3_iff hok] at m3
    exact fun _ => ⟨m3.1.2, Or.inr trivial, Nat.le_refl 3⟩
  · by_cases m2 : (ltOrLe P.d2Strict d2 cs && byteAt data (p - d2) == byteAt data p) = true
    · simp only [m3, m2, if_true, Bool.false_eq_true, if_false]
      rw [Bool.and_eq_true, ok_d2_iff hok] at m2
      exact fun _ => ⟨m2.1, Or.inl trivial, Nat.le_succ 2⟩
    · simp only [m3, m2, Bool.false_eq_true, if_false]
      exact fun h => absurd h (Nat.lt_irrefl 0)

theorem ltOrLe_hit {b : Bool} (hb : b = true) (cs p δ : Nat) :
    (ltOrLe b δ cs && (byteAt data (p - δ) == byteAt data p)) = decide (Hit data cs p δ) := by
  subst hb
  exact (Bool.decide_and (δ < cs) (byteAt data (p - δ) = byteAt data p)).symm

/-- the matches and `len_best` after bt4.rs:168-210 are those of the stage BT4 shares with HC4 -/
theorem extendCands_eq (hok : P.ok) (p cs d2 d3 lim : Nat) (lg : Log) :
    (extendCands data p lim (hashCands P data p cs d2 d3 lg)).ms = (hashHits data cs p lim d2 d3).1.toArray ∧
    (extendCands data p lim (hashCands P data p cs d2 d3 lg)).lenBest = (hashHits data cs p lim d2 d3).2 := by
  simp only [hashCands, extendCands, hashHits, Bool.and_assoc, ltOrLe_hit (data := data) (ok_d2 hok),
    ltOrLe_hit (data := data) (ok_d3 hok), ok_h2Len hok, ok_h3Len hok, ok_dist hok]
  by_cases h2 : Hit data cs p d2 <;> by_cases h3 : Hit data cs p d3 <;> by_cases hne : d2 = d3 <;>
    simp [h2, h3, hne]

theorem valid_of_prefix {k : Ctx} {hi : Nat}
    (hk : KFacts P c data k hi) (delta L : Nat) (d1 : 1 ≤ delta) (d2 : delta ≤ k.p) (d3 : delta ≤ c.dict)
    (hL2 : 2 ≤ L) (hL : L ≤ k.lenLimit)
    (heq : ∀ i, i < L → byteAt data (k.p + i) = byteAt data (k.p + i - delta)) :
    ValidMatch data c.dict k.p (min c.mlmax (data.size - k.p)) (L, delta - 1) := by
  have h1 := hk.lenLim
  have h2 := hk.inData
  refine ⟨hL2, by rw [← h1]; exact hL, by show k.p + L ≤ _; omega, by show delta - 1 + 1 ≤ _; omega,
    by show delta - 1 + 1 ≤ _; omega, ?_⟩
  intro i hi
  show byteAt data (k.p + i) = byteAt data (k.p + i - (delta - 1 + 1))
  rw [show delta - 1 + 1 = delta by omega]
  exact heq i hi

theorem cand_prefix (hok : P.ok) (p delta : Nat)
    (d2 : delta ≤ p) (hb : byteAt data (p - delta) = byteAt data p) :
    ((hashesAt P c data (p - delta)).h2 = (hashesAt P c data p).h2 →
      ∀ i, i < 2 → byteAt data (p + i) = byteAt data (p + i - delta)) ∧
    ((hashesAt P c data (p - delta)).h3 = (hashesAt P c data p).h3 →
      ∀ i, i < 3 → byteAt data (p + i) = byteAt data (p + i - delta)) := by
  have hs := hashes_sound P.hash (ok_hash2 hok) (ok_hash3 hok) (hash4Size P.hash c.dict - 1)
    (byteAt data p) (byteAt data (p - delta + 1)) (byteAt data (p - delta + 2)) (byteAt data (p - delta + 3))
    (byteAt data (p + 1)) (byteAt data (p + 2)) (byteAt data (p + 3))
    (byteAt_lt _ _) (byteAt_lt _ _) (byteAt_lt _ _) (byteAt_lt _ _)
  unfold hashesAt
  rw [hb]
  constructor
  · intro h i hi
    have := hs.1 h
    rcases (by omega : i = 0 ∨ i = 1) with rfl | rfl
    · exact hb.symm
    · rw [show p + 1 - delta = p - delta + 1 by omega]; exact this.symm
  · intro h i hi
    have := hs.2 h
    rcases (by omega : i = 0 ∨ i = 1 ∨ i = 2) with rfl | rfl | rfl
    · exact hb.symm
    · rw [show p + 1 - delta = p - delta + 1 by omega]; exact this.1.symm
    · rw [show p + 2 - delta = p - delta + 2 by omega]; exact this.2.symm

theorem entry_cand (hok : P.ok) {k : Ctx} {hi e : Nat}
    (hk : KCore P c data k hi) (he : EntryOk k.cs hi e) :
    ((e ≠ 0 → (hashesAt P c data (e - k.cs - 1)).h2 = (hashesAt P c data k.p).h2) →
      CandOk data c.dict k.p 2 (k.lzPos - e)) ∧
    ((e ≠ 0 → (hashesAt P c data (e - k.cs - 1)).h3 = (hashesAt P c data k.p).h3) →
      CandOk data c.dict k.p 3 (k.lzPos - e)) := by
  have core : k.lzPos - e < c.dict + 1 → 1 ≤ k.lzPos - e ∧ k.lzPos - e ≤ k.p ∧ e ≠ 0 ∧
      e - k.cs - 1 = k.p - (k.lzPos - e) := by
    intro hlt
    rw [← hk.cs] at hlt
    obtain ⟨d1, d2, _⟩ := delta_of_entry hk he hlt
    have hlz := hk.lz
    have hhi := hk.hi
    have hne : e ≠ 0 := by intro h; subst h; omega
    refine ⟨d1, d2, hne, ?_⟩
    rcases he with h | h
    · exact absurd h hne
    · omega
  constructor
  · intro hs hlt
    obtain ⟨d1, d2, hne, hq⟩ := core hlt
    exact ⟨d1, d2, fun hb => (cand_prefix hok _ _ d2 hb).1 (hq ▸ hs hne)⟩
  · intro hs hlt
    obtain ⟨d1, d2, hne, hq⟩ := core hlt
    exact ⟨d1, d2, fun hb => (cand_prefix hok _ _ d2 hb).2 (hq ▸ hs hne)⟩

/-- what the rest of `find` needs to know of the matches `ms` and of `len_best = lb` after the hash candidates -/
structure CandsOk (c : Cfg) (data : Array UInt8) (k : Ctx) (lb : Nat) (ms : Array Match) : Prop where
  valid : ∀ m ∈ ms.toList, ValidMatch data c.dict k.p (min c.mlmax (data.size - k.p)) m ∧ m.1 ≤ lb
  incr : ms.toList.Pairwise fun a b => a.1 < b.1
  count : ms.size = 0 ∧ lb = 0 ∨ 0 < ms.size ∧ ms.size + 1 ≤ lb ∧ ms.size ≤ 2

theorem CandsOk.start (hok : P.ok) {k : Ctx} {lb nl : Nat} {ms : Array Match} (h : CandsOk c data k lb ms)
    (hne : ¬ (ms.size > 0 ∧ geOrGt P.niceStopGe lb nl = true)) (hn3 : 3 ≤ nl) :
    lb ≤ startLenBest P lb ∧ 2 ≤ startLenBest P lb ∧ ms.size + 1 ≤ startLenBest P lb ∧ ms.size + 2 ≤ nl ∧
    (startLenBest P lb = P.lenBestFloor ∨ startLenBest P lb < nl) := by
  have hfl := ok_floor hok
  have hlt : 0 < ms.size → lb < nl := fun hsz => Nat.lt_of_not_le fun h' => hne ⟨hsz, (ok_nice_iff hok).2 h'⟩
  unfold startLenBest
  rcases h.count with hc | hc
  · split <;> omega
  · have := hlt hc.1
    split <;> omega

theorem cands_ok (hok : P.ok) {k : Ctx} {hi e2 e3 : Nat}
    (hk : KFacts P c data k hi) (he2 : EntryOk k.cs hi e2) (he3 : EntryOk k.cs hi e3)
    (hs2 : e2 ≠ 0 → (hashesAt P c data (e2 - k.cs - 1)).h2 = (hashesAt P c data k.p).h2)
    (hs3 : e3 ≠ 0 → (hashesAt P c data (e3 - k.cs - 1)).h3 = (hashesAt P c data k.p).h3) (lg : Log) :
    CandsOk c data k (extendCands data k.p k.lenLimit (hashCands P data k.p k.cs (k.lzPos - e2) (k.lzPos - e3) lg)).lenBest
      (extendCands data k.p k.lenLimit (hashCands P data k.p k.cs (k.lzPos - e2) (k.lzPos - e3) lg)).ms := by
  obtain ⟨em, el⟩ := extendCands_eq (data := data) hok k.p k.cs (k.lzPos - e2) (k.lzPos - e3) k.lenLimit lg
  rw [em, el, hk.cs]
  have hin := hk.inData
  obtain ⟨a, b, e⟩ := hashHits_ok (mll := k.lenLimit) ((entry_cand hok hk.toKCore he2).1 hs2)
    ((entry_cand hok hk.toKCore he3).2 hs3) hk.len3 (by have := hk.lenLim; omega)
  generalize hashHits data (c.dict + 1) k.p k.lenLimit (k.lzPos - e2) (k.lzPos - e3) = h at a b e
  have hlen := a.length_le
  rw [List.length_reverse] at hlen
  refine ⟨fun m hm => hk.lenLim ▸ a.valid m (List.mem_reverse.mpr hm), List.pairwise_reverse.mp a.decr, ?_⟩
  show h.1.length = 0 ∧ _ ∨ _
  cases hh : h.1 with
  | nil => exact Or.inl ⟨rfl, e hh⟩
  | cons m r =>
    -- the count is below `len_best` because lengths decrease from `len_best` and stay above 1
    have := a.valid m (List.mem_reverse.mpr (hh ▸ List.mem_cons_self ..))
    have h2 : 2 ≤ m.1 := this.1.1
    rw [hh] at hlen b
    exact Or.inr ⟨Nat.zero_lt_succ _, by show (m :: r).length + 1 ≤ _; omega, b⟩

theorem stepCd_ok (hH : Hyp P c data) {s : St}
    (hI : Inv P c data s) (hp : ¬ pending P c data s.pos) :
    CandsOk c data (stepK P c data s) (stepCd P c data s).lenBest (stepCd P c data s).ms := by
  have S := step hH hI hp
  obtain ⟨e2, e3, he2, he3, hd2, hd3, hs2, hs3⟩ := stepHs_slots hH hI hp
  have := cands_ok hH.ok S.facts he2 he3 (by rw [S.p]; exact hs2) (by rw [S.p]; exact hs3) (stepHs P c data s).st.log
  unfold stepCd stepCd0
  rw [hd2, hd3]
  exact this

/-- the matches produced by the hash2 / hash3 candidates of `find` (the first 0, 1 or 2 entries) -/
def hashCandMatches (P : Bt4Params) (c : Cfg) (data : Array UInt8) (s : St) : List Match :=
  if pending P c data s.pos then [] else (stepCd P c data s).ms.toList

theorem hash_candidates_valid (hH : Hyp P c data) {s : St}
    (hI : Inv P c data s) :
    ∀ m ∈ hashCandMatches P c data s, ValidMatch data c.dict s.pos (min c.mlmax (data.size - s.pos)) m := by
  unfold hashCandMatches
  split
  · intro m hm; simp at hm
  · rename_i hp
    rw [← (step hH hI hp).p]
    exact fun m hm => ((stepCd_ok hH hI hp).valid m hm).1

theorem prefix_push_if (ms : Array Match) (b : Bool) (m : Match) :
    ms.toList <+: (if b = true then ms.push m else ms).toList := by
  cases b
  · exact List.prefix_refl _
  · simp only [if_true, Array.toList_push]; exact List.prefix_append _ _

theorem findLoop_prefix (P : Bt4Params) (data : Array UInt8) (k : Ctx)
    (depth : Nat) (tree : Array Nat) (ptr0 ptr1 len0 len1 cur lenBest : Nat) (ms : Array Match) (lg : Log) :
    ms.toList <+: (findLoop P data k depth tree ptr0 ptr1 len0 len1 cur lenBest ms lg).2.1.toList := by
  fun_induction findLoop P data k depth tree ptr0 ptr1 len0 len1 cur lenBest ms lg with
  | case1 => exact List.prefix_refl _
  | case2 => exact List.prefix_refl _
  | case3 depth tree ptr0 ptr1 len0 len1 cur lenBest ms lg delta hstop pair len lg1 hit ms1 hnice tree' lg' hx =>
    exact prefix_push_if ms hit _
  | case4 depth tree ptr0 ptr1 len0 len1 cur lenBest ms lg delta hstop pair len lg1 hit ms1 hnice lenBest1 lg2 hlt
      tree1 lg3 ih =>
    exact List.IsPrefix.trans (prefix_push_if ms hit _) ih
  | case5 depth tree ptr0 ptr1 len0 len1 cur lenBest ms lg delta hstop pair len lg1 hit ms1 hnice lenBest1 lg2 hlt
      tree1 lg3 ih =>
    exact List.IsPrefix.trans (prefix_push_if ms hit _) ih

theorem hashCandMatches_prefix (hH : Hyp P c data) (s : St) :
    hashCandMatches P c data s <+: (find P c data s).2.toList := by
  unfold hashCandMatches
  by_cases hp : pending P c data s.pos
  · rw [if_pos hp]; exact List.nil_prefix
  · rw [if_neg hp, find_tail hH hp]
    unfold findTail
    split
    · exact List.prefix_refl _
    · exact findLoop_prefix _ _ _ _ _ _ _ _ _ _ _ _ _

end Bt4
end LzmaVerif.Mf
