import LzmaVerif.Model.Filters
/-!
A filter loop is a `scan` of its body (`eq_scan`); if the decoder step undoes the encoder step on the window it
advances over, and both steps are local (`StepOK`), the decoder scan undoes the encoder scan (`scan_inv`).
Core Lean only.
-/
namespace LzmaVerif.Filters

def Bytes (xs : List Nat) : Prop := ∀ x ∈ xs, x < 256

def BBytes (b : Buf) : Prop := ∀ k, gb b k < 256

theorem size_sb (b : Buf) (i v : Nat) : (sb b i v).size = b.size := by
  simp [sb]

theorem gb_sb (b : Buf) (i v j : Nat) :
    gb (sb b i v) j = if i = j ∧ i < b.size then v % 256 else gb b j := by
  simp only [gb, sb, Array.getD_eq_getD_getElem?, Array.getElem?_setIfInBounds]
  by_cases h : i = j
  · subst h
    by_cases h2 : i < b.size
    · simp [h2]
    · simp [h2]
  · simp [h]

theorem gb_sb_ne (b : Buf) (i v j : Nat) (h : i ≠ j) : gb (sb b i v) j = gb b j := by
  rw [gb_sb]
  simp [h]

theorem gb_sb_eq (b : Buf) (i v : Nat) (h : i < b.size) : gb (sb b i v) i = v % 256 := by
  rw [gb_sb]
  simp [h]

theorem gb_of_ge (b : Buf) (k : Nat) (h : b.size ≤ k) : gb b k = 0 := by
  simp [gb, Array.getD_eq_getD_getElem?, h]

theorem buf_ext (a b : Buf) (hs : a.size = b.size) (h : ∀ k, k < a.size → gb a k = gb b k) : a = b := by
  apply Array.ext hs
  intro i h1 h2
  have := h i h1
  simpa [gb, Array.getD_eq_getD_getElem?, h1, h2] using this

theorem sb_same (b : Buf) (i : Nat) (h : gb b i < 256) : sb b i (gb b i) = b := by
  apply buf_ext _ _ (size_sb _ _ _)
  intro k _
  rw [gb_sb]
  split
  next hk => rw [← hk.1, Nat.mod_eq_of_lt h]
  next => rfl

theorem BBytes_sb (b : Buf) (i v : Nat) (h : BBytes b) : BBytes (sb b i v) := by
  intro k
  rw [gb_sb]
  split
  · omega
  · exact h k

theorem BBytes_toArray (xs : List Nat) (h : Bytes xs) : BBytes xs.toArray := by
  intro k
  by_cases hk : k < xs.length
  · have : gb xs.toArray k = xs[k] := by
      simp [gb, Array.getD_eq_getD_getElem?, hk]
    rw [this]
    exact h _ (List.getElem_mem hk)
  · rw [gb_of_ge _ _ (by simpa using hk)]
    decide

theorem wadd_lt (a p : Nat) : wadd a p < 2 ^ 32 := Nat.mod_lt _ (by decide)
theorem wsub_lt (a p : Nat) : wsub a p < 2 ^ 32 := Nat.mod_lt _ (by decide)

def scan (w : Nat) (step : Nat → Buf → Buf × Nat) : Nat → Nat → Buf → Buf × Nat
  | 0, i, b => (b, i)
  | fuel+1, i, b =>
    if i + w > b.size then (b, i) else scan w step fuel (i + (step i b).2) (step i b).1

theorem eq_scan {w : Nat} {step : Nat → Buf → Buf × Nat} (loop : Nat → Nat → Buf → Buf × Nat)
    (h0 : ∀ i b, loop 0 i b = (b, i))
    (hs : ∀ n i b, loop (n + 1) i b =
      if i + w > b.size then (b, i) else loop n (i + (step i b).2) (step i b).1) :
    ∀ fuel i b, loop fuel i b = scan w step fuel i b := by
  intro fuel
  induction fuel with
  | zero => exact h0
  | succ n ih =>
    intro i b
    rw [hs, scan, ih]

/-- Hypotheses on an encoder step `es` and decoder step `ds`.
    `V` is the invariant on scan indices (alignment); `sigf r x` is the "signature" of a byte at
    relative offset `r` behind the current index that a decoder may look at beyond its advance,
    and that encoder steps preserve. -/
structure StepOK (w : Nat) (V : Nat → Prop) (sigf : Nat → Nat → Nat)
    (es ds : Nat → Buf → Buf × Nat) : Prop where
  size_e : ∀ i b, (es i b).1.size = b.size
  size_d : ∀ i b, (ds i b).1.size = b.size
  adv_V : ∀ i b, V i → V (i + (es i b).2)
  frame_e : ∀ i b k, (k < i ∨ i + (es i b).2 ≤ k) → gb (es i b).1 k = gb b k
  frame_d : ∀ i b k, (k < i ∨ i + (ds i b).2 ≤ k) → gb (ds i b).1 k = gb b k
  bytes_e : ∀ i b, BBytes b → BBytes (es i b).1
  sig_e : ∀ j b E, V j → j + w ≤ b.size →
    (∀ k, k < j + (es j b).2 → gb E k = gb (es j b).1 k) →
    ∀ r, sigf r (gb b (j + r)) = sigf r (gb E (j + r))
  loc_d : ∀ i b b', V i → b.size = b'.size → i + w ≤ b.size →
    (∀ k, i ≤ k → k < i + (ds i b).2 → gb b' k = gb b k) →
    (∀ r, sigf r (gb b (i + (ds i b).2 + r)) = sigf r (gb b' (i + (ds i b).2 + r))) →
    (ds i b').2 = (ds i b).2 ∧ ∀ k, i ≤ k → k < i + (ds i b).2 → gb (ds i b').1 k = gb (ds i b).1 k
  inv : ∀ i b, V i → BBytes b → i + w ≤ b.size → ds i (es i b).1 = (b, (es i b).2)

section
variable {w : Nat} {V : Nat → Prop} {sigf : Nat → Nat → Nat} {es ds : Nat → Buf → Buf × Nat}

theorem scan_size (step : Nat → Buf → Buf × Nat) (hs : ∀ i b, (step i b).1.size = b.size) :
    ∀ fuel i b, (scan w step fuel i b).1.size = b.size := by
  intro fuel
  induction fuel with
  | zero =>
    intro i b
    rfl
  | succ n ih =>
    intro i b
    simp only [scan]
    split
    · rfl
    · rw [ih, hs]

theorem scan_frame (step : Nat → Buf → Buf × Nat)
    (hf : ∀ i b k, k < i → gb (step i b).1 k = gb b k) :
    ∀ fuel i b k, k < i → gb (scan w step fuel i b).1 k = gb b k := by
  intro fuel
  induction fuel with
  | zero =>
    intro i b k _
    rfl
  | succ n ih =>
    intro i b k hk
    simp only [scan]
    split
    · rfl
    · rw [ih _ _ _ (by omega), hf _ _ _ hk]

theorem scan_bytes (step : Nat → Buf → Buf × Nat)
    (hb : ∀ i b, BBytes b → BBytes (step i b).1) :
    ∀ fuel i b, BBytes b → BBytes (scan w step fuel i b).1 := by
  intro fuel
  induction fuel with
  | zero =>
    intro i b h
    exact h
  | succ n ih =>
    intro i b h
    simp only [scan]
    split
    · exact h
    · exact ih _ _ (hb _ _ h)

theorem scan_sig (h : StepOK w V sigf es ds) :
    ∀ fuel j b, V j → ∀ r, sigf r (gb b (j + r)) = sigf r (gb (scan w es fuel j b).1 (j + r)) := by
  intro fuel
  cases fuel with
  | zero =>
    intro j b _ r
    rfl
  | succ n =>
    intro j b hV r
    simp only [scan]
    split
    · rfl
    · apply h.sig_e j b _ hV (by omega)
      intro k hk
      exact scan_frame es (fun i b k hk => h.frame_e i b k (Or.inl hk)) _ _ _ _ hk

theorem scan_inv_aux (h : StepOK w V sigf es ds) :
    ∀ fuel i e d, V i → BBytes e → e.size = d.size →
      (∀ k, i ≤ k → gb d k = gb (scan w es fuel i e).1 k) →
      (∀ k, i ≤ k → gb (scan w ds fuel i d).1 k = gb e k) ∧
      (∀ k, k < i → gb (scan w ds fuel i d).1 k = gb d k) := by
  intro fuel
  induction fuel with
  | zero =>
    intro i e d _ _ _ hd
    exact ⟨fun k hk => hd k hk, fun k _ => rfl⟩
  | succ n ih =>
    intro i e d hV hB hsz hd
    simp only [scan] at hd ⊢
    by_cases hstop : i + w > e.size
    · have hstop' : i + w > d.size := by omega
      rw [if_pos hstop] at hd
      rw [if_pos hstop']
      exact ⟨fun k hk => hd k hk, fun k _ => rfl⟩
    · have hstop' : ¬ i + w > d.size := by omega
      rw [if_neg hstop] at hd
      rw [if_neg hstop']
      have hfr : ∀ k, k < i + (es i e).2 →
          gb (scan w es n (i + (es i e).2) (es i e).1).1 k = gb (es i e).1 k :=
        fun k hk => scan_frame es (fun i b k hk => h.frame_e i b k (Or.inl hk)) _ _ _ _ hk
      have hsig := scan_sig h n (i + (es i e).2) (es i e).1 (h.adv_V i e hV)
      have hinv := h.inv i e hV hB (by omega)
      have hloc := h.loc_d i (es i e).1 d hV (by rw [h.size_e]; exact hsz) (by rw [h.size_e]; omega)
      rw [hinv] at hloc
      simp only at hloc
      obtain ⟨hadv, hwin⟩ := hloc
        (fun k h1 h2 => by rw [hd k h1, hfr k h2])
        (fun r => by rw [hsig r, hd _ (by omega)])
      rw [hadv]
      obtain ⟨r2, r3⟩ := ih (i + (es i e).2) (es i e).1 (ds i d).1 (h.adv_V i e hV)
        (h.bytes_e i e hB) (by rw [h.size_e, h.size_d]; exact hsz)
        (fun k hk => by
          rw [h.frame_d i d k (Or.inr (by rw [hadv]; exact hk))]
          exact hd k (by omega))
      refine ⟨?_, ?_⟩
      · intro k hk
        by_cases hk2 : i + (es i e).2 ≤ k
        · rw [r2 k hk2, h.frame_e i e k (Or.inr hk2)]
        · rw [r3 k (by omega), hwin k hk (by omega)]
      · intro k hk
        rw [r3 k (by omega), h.frame_d i d k (Or.inl hk)]

theorem scan_inv (h : StepOK w V sigf es ds) (fuel : Nat) (e : Buf) (hV : V 0) (hB : BBytes e) :
    (scan w ds fuel 0 (scan w es fuel 0 e).1).1 = e := by
  have hsz : e.size = (scan w es fuel 0 e).1.size := (scan_size es h.size_e fuel 0 e).symm
  obtain ⟨r2, _⟩ := scan_inv_aux h fuel 0 e (scan w es fuel 0 e).1 hV hB hsz (fun _ _ => rfl)
  apply buf_ext
  · rw [scan_size ds h.size_d, ← hsz]
  · intro k _
    exact r2 k (Nat.zero_le _)

/-- What `oneShot` of the decoder after `oneShot` of the encoder comes to, once both loops are scans. -/
theorem scan_inv_list (h : StepOK w V sigf es ds) (hV : V 0) (xs : List Nat) (hB : Bytes xs) :
    (scan w ds ((scan w es (xs.toArray.size + 1) 0 xs.toArray).1.toList.toArray.size + 1) 0
      (scan w es (xs.toArray.size + 1) 0 xs.toArray).1.toList.toArray).1.toList = xs := by
  rw [Array.toArray_toList, scan_size _ h.size_e, scan_inv h _ _ hV (BBytes_toArray xs hB)]

end

def Agree (i w : Nat) (b b' : Buf) : Prop :=
  b.size = b'.size ∧ ∀ k, i ≤ k → k < i + w → gb b' k = gb b k

theorem Agree.sb {i w : Nat} {b b' : Buf} (h : Agree i w b b') (j v : Nat) :
    Agree i w (sb b j v) (sb b' j v) := by
  refine ⟨by rw [size_sb, size_sb]; exact h.1, ?_⟩
  intro k h1 h2
  rw [gb_sb, gb_sb, h.2 k h1 h2, h.1]

theorem StepOK.fixed (w : Nat) (V : Nat → Prop) (fe fd : Nat → Buf → Buf)
    (size_e : ∀ i b, (fe i b).size = b.size)
    (size_d : ∀ i b, (fd i b).size = b.size)
    (adv_V : ∀ i, V i → V (i + w))
    (frame_e : ∀ i b k, (k < i ∨ i + w ≤ k) → gb (fe i b) k = gb b k)
    (frame_d : ∀ i b k, (k < i ∨ i + w ≤ k) → gb (fd i b) k = gb b k)
    (bytes_e : ∀ i b, BBytes b → BBytes (fe i b))
    (loc_d : ∀ i b b', Agree i w b b' → i + w ≤ b.size → Agree i w (fd i b) (fd i b'))
    (inv : ∀ i b, V i → BBytes b → i + w ≤ b.size → fd i (fe i b) = b) :
    StepOK w V (fun _ _ => 0) (fun i b => (fe i b, w)) (fun i b => (fd i b, w)) where
  size_e := size_e
  size_d := size_d
  adv_V := fun i _ h => adv_V i h
  frame_e := frame_e
  frame_d := frame_d
  bytes_e := bytes_e
  sig_e := fun _ _ _ _ _ _ _ => rfl
  loc_d := fun i b b' _ hs hw hag _ => ⟨rfl, (loc_d i b b' ⟨hs, hag⟩ hw).2⟩
  inv := fun i b hV hB hw => by simp only [inv i b hV hB hw]

end LzmaVerif.Filters
