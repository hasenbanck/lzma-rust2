import LzmaVerif.Model.Parse
import LzmaVerif.Model.Lzma2Writer
import LzmaVerif.Proofs.SymRt
/-!
The ENCODER's walk (`Prog.encRun`) of the symbol loop `loopProg` along `parseBits` of an accepted parse is proved once
(`loop_enc_parse`, `loop_enc_size`, `loop_enc_marker`); the `runBits` statements (`loop_rt_size`, `loop_rt_marker`) are
projections.  `loopNext` is the body of `loopProg` (Model/LzmaStream.lean) behind `symProg` as a value; `loopProg_succ` is
the only place that looks into that body, so a change of the model's loop is followed there and in `loopNext`.
`fuel`: symbol budget, `remaining`: bytes to produce, `acc`: parse so far, newest first, `em`: bytes emitted.
`encSym`, one symbol walked by the encoder, is defined in Model/Lzma2Writer.lean, hence that import.
-/


namespace LzmaVerif.Lzma
open LzmaVerif Prog

theorem hist_copy_size (h : Hist) (d n : Nat) : (Hist.copy h d n).size = h.size + n := by
  induction n generalizing h with
  | zero => rfl
  | succ n ih => rw [Hist.copy, ih, Array.size_push, Nat.add_assoc, Nat.add_comm 1 n]

theorem copyOf_eq_some {s : Sym} {c : Coder} {dist len : Nat} (hc : s.copyOf c = some (dist, len)) :
    s = .mtch dist len ∨ (s = .shortRep ∧ dist = c.rep0 ∧ len = 1) ∨
      ∃ i, s = .rep i len ∧ dist = c.rep i := by
  cases s <;> simp only [Sym.copyOf, Option.some.injEq, Prod.mk.injEq, reduceCtorEq] at hc
  · exact Or.inl (by rw [hc.1, hc.2])
  · exact Or.inr (Or.inr ⟨_, by rw [hc.2], hc.1.symm⟩)
  · exact Or.inr (Or.inl ⟨rfl, hc.1.symm, hc.2.symm⟩)

theorem copyOf_len_pos {s : Sym} {c : Coder} {dist len : Nat} (hok : SymOk s)
    (hc : s.copyOf c = some (dist, len)) : 1 ≤ len := by
  rcases copyOf_eq_some hc with rfl | ⟨_, _, rfl⟩ | ⟨i, rfl, _⟩
  · exact Nat.le_of_succ_le hok.1
  · exact Nat.le_refl 1
  · exact Nat.le_of_succ_le hok.2.1

theorem parseRun_cons_inv {dictBuf : Nat} {s : Sym} {p : List Sym} {c c' : Coder} {h h' : Hist}
    (hp : parseRun dictBuf (s :: p) c h = some (c', h')) :
    SymOk s ∧
    ((∃ b, s = .lit b ∧ parseRun dictBuf p (c.apply s) (h.push b) = some (c', h')) ∨
     (∃ dist len, (∀ b, s ≠ .lit b) ∧ s.copyOf c = some (dist, len) ∧ 1 ≤ len ∧
        dist < h.size ∧ dist < dictBuf ∧
        parseRun dictBuf p (c.apply s) (h.copy dist len) = some (c', h'))) := by
  cases s with
  | lit b =>
    simp only [parseRun] at hp
    by_cases hb : b < 256
    · rw [if_pos hb] at hp
      exact ⟨hb, Or.inl ⟨b, rfl, hp⟩⟩
    · rw [if_neg hb] at hp; cases hp
  | _ =>
    simp only [parseRun, Sym.copyOf] at hp
    split at hp
    · next hc =>
      exact ⟨hc.1, Or.inr ⟨_, _, (fun b hb => by cases hb), rfl, copyOf_len_pos (c := c) hc.1 rfl, hc.2.1,
        hc.2.2, hp⟩⟩
    · cases hp

end LzmaVerif.Lzma

namespace LzmaVerif.Lzma2W
open LzmaVerif Lzma Prog Rc

theorem encSym_spec (pr : Params) (ctx : Ctx) (s : Sym) (hs : SymOk s) (ps : Probs) (e : Enc)
    (rest : List Bool) :
    (symProg pr ctx).encRun (symBits pr ctx s ++ rest) ps e =
      some (s, rest, (encSym pr ctx s ps e).1, (encSym pr ctx s ps e).2) := by
  have hrun := sym_rt pr ctx s hs []
  rw [List.append_nil, Prog.runBits_eq_encRun _ _ ps e] at hrun
  unfold encSym
  cases henc : (symProg pr ctx).encRun (symBits pr ctx s) ps e with
  | none =>
    rw [henc] at hrun
    cases hrun
  | some r =>
    obtain ⟨a, bs', ps', e'⟩ := r
    rw [henc] at hrun
    cases hrun
    exact Prog.encRun_append _ henc rest

/-- the history after a symbol, as `parseBits` threads it -/
def histStep (s : Sym) (c : Coder) (h : Hist) : Hist :=
  match s with
  | .lit b => h.push b
  | _ => match s.copyOf c with
    | some (dist, len) => if dist < h.size then h.copy dist len else h
    | none => h

/-- `encode_symbol` after `encode_symbol`: tables and range encoder after the symbols of `parse` -/
def encFold (pr : Params) : List Sym → Coder → Hist → Probs → Enc → Probs × Enc
  | [], _, _, ps, e => (ps, e)
  | s :: rest, c, h, ps, e =>
    encFold pr rest (c.apply s) (histStep s c h)
      (encSym pr (ctxOf c h) s ps e).1 (encSym pr (ctxOf c h) s ps e).2

theorem histStep_copy {s : Sym} {c : Coder} {h : Hist} {dist len : Nat} (hs : ∀ b, s ≠ .lit b)
    (hc : s.copyOf c = some (dist, len)) (hd : dist < h.size) : histStep s c h = h.copy dist len := by
  unfold histStep
  split
  · exact absurd rfl (hs _)
  · simp only [hc, if_pos hd]

theorem parseBits_cons (pr : Params) (s : Sym) (q : List Sym) (c : Coder) (h : Hist) :
    parseBits pr (s :: q) c h = symBits pr (ctxOf c h) s ++ parseBits pr q (c.apply s) (histStep s c h) := rfl

end LzmaVerif.Lzma2W

namespace LzmaVerif.Lzma
open LzmaVerif Prog Rc Lzma2W

/-- what the symbol loop does after a symbol: stop with a result, or go on -/
inductive Next where
  | stop (r : LoopRes)
  | go (remaining : Option Nat) (h : Hist) (em : Nat)

/-- the body of `loopProg` behind `symProg`, as a value: it does not mention the fuel -/
def loopNext (dictBuf : Nat) (remaining : Option Nat) (c : Coder) (h : Hist) (acc : List Sym) (em : Nat)
    (s : Sym) : Next :=
  match s with
  | .lit b => .go (remaining.map (· - 1)) (h.push b) (em + 1)
  | _ =>
    match s.copyOf c with
    | none => .stop { stop := .fuel, coder := c.apply s, hist := h, parse := acc, emitted := em }
    | some (dist, len) =>
      if dist ≥ h.size ∨ dist ≥ dictBuf then
        .stop { stop := (if (c.apply s).rep0 = END_DIST then .endMarker else .distOverflow),
                coder := c.apply s, hist := h, parse := s :: acc, emitted := em }
      else
        match remaining with
        | some r =>
          if len > r then
            .stop { stop := .overrun, coder := c.apply s, hist := h.copy dist r, parse := s :: acc, emitted := em + r }
          else .go (some (r - len)) (h.copy dist len) (em + len)
        | none => .go none (h.copy dist len) (em + len)

def Next.prog (pr : Params) (dictBuf fuel : Nat) (c : Coder) (acc : List Sym) : Next → Prog LoopRes
  | .stop r => ret r
  | .go remaining h em => loopProg pr dictBuf fuel remaining c h acc em

theorem loopProg_succ (pr : Params) (dictBuf fuel : Nat) (remaining : Option Nat) (c : Coder) (h : Hist)
    (acc : List Sym) (em : Nat) :
    loopProg pr dictBuf (fuel + 1) remaining c h acc em =
      if remaining = some 0 then ret { stop := .limit, coder := c, hist := h, parse := acc, emitted := em }
      else bind (symProg pr (ctxOf c h)) fun s =>
        (loopNext dictBuf remaining c h acc em s).prog pr dictBuf fuel (c.apply s) (s :: acc) := by
  rw [loopProg]
  congr 2
  funext s
  cases s
  case lit b => rfl
  -- the three symbols that copy, alike: `Next.prog` goes through the two tests
  all_goals
    simp only [loopNext, Sym.copyOf]
    split
    · rfl
    · cases remaining with
      | none => rfl
      | some r =>
        dsimp only
        split
        · rfl
        · rfl

theorem loopNext_valid {dictBuf : Nat} {s : Sym} {p : List Sym} {c c' : Coder} {h h' : Hist}
    (hp : parseRun dictBuf (s :: p) c h = some (c', h')) :
    ∃ len, 1 ≤ len ∧ (histStep s c h).size = h.size + len ∧
      parseRun dictBuf p (c.apply s) (histStep s c h) = some (c', h') ∧
      ∀ (remaining : Option Nat) (acc : List Sym) (em : Nat), (∀ r, remaining = some r → len ≤ r) →
        loopNext dictBuf remaining c h acc em s = .go (remaining.map (· - len)) (histStep s c h) (em + len) := by
  obtain ⟨_, hcase⟩ := parseRun_cons_inv hp
  rcases hcase with ⟨b, rfl, hrest⟩ | ⟨dist, len, hs, hc, hl1, hd1, hd2, hrest⟩
  · exact ⟨1, Nat.le_refl 1, Array.size_push _, hrest, fun _ _ _ _ => rfl⟩
  · rw [histStep_copy hs hc hd1]
    refine ⟨len, hl1, hist_copy_size h dist len, hrest, fun remaining acc em hl => ?_⟩
    -- (`hs` sends the `match` on the symbol to its second arm)
    simp only [loopNext, hc, if_neg (not_or.2 ⟨Nat.not_le.2 hd1, Nat.not_le.2 hd2⟩)]
    cases remaining with
    | none => rfl
    | some r => simp only [if_neg (Nat.not_lt.2 (hl r rfl)), Option.map_some]

theorem parseRun_size_le (dictBuf : Nat) (p : List Sym) :
    ∀ (c c' : Coder) (h h' : Hist), parseRun dictBuf p c h = some (c', h') → h.size + p.length ≤ h'.size := by
  induction p with
  | nil =>
    intro c c' h h' hp
    cases hp
    exact Nat.le_refl _
  | cons s p ih =>
    intro c c' h h' hp
    obtain ⟨len, _, hsz, hrest, _⟩ := loopNext_valid hp
    have := ih _ _ _ _ hrest
    rw [List.length_cons]
    omega

theorem parseBits_append (pr : Params) (dictBuf : Nat) (p q : List Sym) :
    ∀ (c c₁ : Coder) (h h₁ : Hist), parseRun dictBuf p c h = some (c₁, h₁) →
      parseBits pr (p ++ q) c h = parseBits pr p c h ++ parseBits pr q c₁ h₁ := by
  induction p with
  | nil =>
    intro c c₁ h h₁ hp
    cases hp
    rfl
  | cons s p ih =>
    intro c c₁ h h₁ hp
    obtain ⟨_, _, _, hrest, _⟩ := loopNext_valid hp
    rw [List.cons_append, parseBits_cons, parseBits_cons, ih _ _ _ _ hrest, List.append_assoc]

theorem encFold_append (pr : Params) (dictBuf : Nat) (p q : List Sym) :
    ∀ (c c₁ : Coder) (h h₁ : Hist) (ps : Probs) (e : Enc), parseRun dictBuf p c h = some (c₁, h₁) →
      encFold pr (p ++ q) c h ps e = encFold pr q c₁ h₁ (encFold pr p c h ps e).1 (encFold pr p c h ps e).2 := by
  induction p with
  | nil =>
    intro c c₁ h h₁ ps e hp
    cases hp
    rfl
  | cons s p ih =>
    intro c c₁ h h₁ ps e hp
    obtain ⟨_, _, _, hrest, _⟩ := loopNext_valid hp
    exact ih _ _ _ _ _ _ hrest

/-- **The encoder follows a parse**: after the bits of a parse denoting `m` bytes the walk stands at the denoted state with
`m` less to go and the tables / range encoder of `encFold`; the budget does not enter. -/
theorem loop_enc_parse (pr : Params) (dictBuf : Nat) (parse : List Sym) :
    ∀ (c : Coder) (h : Hist) (c' : Coder) (h' : Hist) (fuel m : Nat) (remaining : Option Nat)
      (acc : List Sym) (em : Nat) (rest : List Bool) (ps : Probs) (e : Enc),
      parseRun dictBuf parse c h = some (c', h') → h'.size = h.size + m →
      (∀ n, remaining = some n → m ≤ n) →
      (loopProg pr dictBuf (fuel + parse.length) remaining c h acc em).encRun (parseBits pr parse c h ++ rest) ps e
        = (loopProg pr dictBuf fuel (remaining.map (· - m)) c' h' (parse.reverse ++ acc) (em + m)).encRun rest
            (encFold pr parse c h ps e).1 (encFold pr parse c h ps e).2 := by
  induction parse with
  | nil =>
    intro c h c' h' fuel m remaining acc em rest ps e hp hsz _
    cases hp
    obtain rfl : m = 0 := by omega
    simp only [Nat.sub_zero, Option.map_id']
    rfl
  | cons s p ih =>
    intro c h c' h' fuel m remaining acc em rest ps e hp hsz hm
    obtain ⟨len, hl1, hsz₁, hrest, hnext⟩ := loopNext_valid hp
    have hge := parseRun_size_le _ _ _ _ _ _ hrest
    obtain ⟨m', rfl⟩ : ∃ m', m = len + m' := ⟨m - len, by omega⟩
    -- the encoder codes the symbol like `encSym`, and the loop goes on
    rw [parseBits_cons, List.append_assoc, List.length_cons, ← Nat.add_assoc, loopProg_succ,
      if_neg (fun e => by have := hm 0 e; omega), Prog.encRun_bind,
      encSym_spec pr (ctxOf c h) s (parseRun_cons_inv hp).1, Option.bind_some,
      hnext remaining acc em (fun r hr => Nat.le_trans (Nat.le_add_right _ _) (hm r hr)), Next.prog,
      ih _ _ _ _ fuel m' _ _ _ _ _ _ hrest (by omega), Option.map_map, Nat.add_assoc]
    · simp only [List.reverse_cons, List.append_assoc, List.singleton_append, Function.comp_def,
        Nat.sub_sub]
      rfl
    · intro n hn
      obtain ⟨r, hr, rfl⟩ := Option.map_eq_some_iff.1 hn
      have := hm r hr
      omega

/-- **Declared-size mode**: the parse denotes exactly the `n` bytes still to produce; the loop stops with `Stop.limit`. -/
theorem loop_enc_size (pr : Params) (dictBuf : Nat) (parse : List Sym) (c : Coder) (h : Hist) (c' : Coder) (h' : Hist)
    (fuel n : Nat) (acc : List Sym) (em : Nat) (ps : Probs) (e : Enc)
    (hp : parseRun dictBuf parse c h = some (c', h')) (hsz : h'.size = h.size + n) (hf : parse.length < fuel) :
    (loopProg pr dictBuf fuel (some n) c h acc em).encRun (parseBits pr parse c h) ps e
      = some ({ stop := .limit, coder := c', hist := h', parse := parse.reverse ++ acc, emitted := em + n }, [],
              (encFold pr parse c h ps e).1, (encFold pr parse c h ps e).2) := by
  obtain ⟨f, rfl⟩ : ∃ f, fuel = f + 1 + parse.length := ⟨fuel - parse.length - 1, by omega⟩
  have := loop_enc_parse pr dictBuf parse c h c' h' (f + 1) n (some n) acc em [] ps e hp hsz
    (fun _ hk => Nat.le_of_eq (Option.some.inj hk))
  rw [List.append_nil] at this
  rw [this, Option.map_some, Nat.sub_self, loopProg, if_pos rfl]
  rfl

/-- the decoder's budget `n + 1` for a declared size `n` suffices -/
theorem parse_fits {dictBuf : Nat} {parse : List Sym} {c c' : Coder} {h h' : Hist} {n : Nat}
    (hp : parseRun dictBuf parse c h = some (c', h')) (hsz : h'.size = h.size + n) : parse.length < n + 1 := by
  have := parseRun_size_le dictBuf parse c c' h h' hp
  omega

theorem loop_rt_size (pr : Params) (dictBuf : Nat) (parse : List Sym) :
    ∀ (c : Coder) (h : Hist) (c' : Coder) (h' : Hist) (fuel n : Nat) (acc : List Sym) (em : Nat)
      (rest : List Bool),
      parseRun dictBuf parse c h = some (c', h') → h'.size = h.size + n → parse.length < fuel →
      (loopProg pr dictBuf fuel (some n) c h acc em).runBits (parseBits pr parse c h ++ rest)
        = some ({ stop := .limit, coder := c', hist := h', parse := parse.reverse ++ acc,
                  emitted := em + n }, rest) := by
  intro c h c' h' fuel n acc em rest hp hsz hf
  rw [Prog.runBits_eq_encRun _ _ #[] Enc.init, Prog.encRun_append _
    (loop_enc_size pr dictBuf parse c h c' h' fuel n acc em #[] Enc.init hp hsz hf) rest]
  rfl

/-- … followed by the end marker (a match with distance `END_DIST`, never inside the dictionary), for every sufficient
symbol budget -/
theorem loop_enc_marker (pr : Params) (dictBuf : Nat) (hd : dictBuf ≤ END_DIST) (parse : List Sym) (mlen : Nat)
    (hm : 2 ≤ mlen ∧ mlen ≤ 273) (c : Coder) (h : Hist) (c' : Coder) (h' : Hist) (fuel : Nat) (acc : List Sym)
    (em : Nat) (ps : Probs) (e : Enc)
    (hp : parseRun dictBuf parse c h = some (c', h')) (hf : parse.length < fuel) :
    (loopProg pr dictBuf fuel none c h acc em).encRun (parseBits pr (parse ++ [.mtch END_DIST mlen]) c h) ps e
      = some ({ stop := .endMarker, coder := c'.apply (.mtch END_DIST mlen), hist := h',
                parse := (.mtch END_DIST mlen) :: (parse.reverse ++ acc), emitted := em + (h'.size - h.size) }, [],
              (encSym pr (ctxOf c' h') (.mtch END_DIST mlen) (encFold pr parse c h ps e).1
                (encFold pr parse c h ps e).2).1,
              (encSym pr (ctxOf c' h') (.mtch END_DIST mlen) (encFold pr parse c h ps e).1
                (encFold pr parse c h ps e).2).2) := by
  obtain ⟨f, rfl⟩ : ∃ f, fuel = f + 1 + parse.length := ⟨fuel - parse.length - 1, by omega⟩
  have hge := parseRun_size_le _ _ _ _ _ _ hp
  have hok : SymOk (.mtch END_DIST mlen) := ⟨hm.1, hm.2, by decide⟩
  rw [parseBits_append pr dictBuf parse _ c c' h h' hp,
    loop_enc_parse pr dictBuf parse c h c' h' (f + 1) (h'.size - h.size) none acc em _ ps e hp (by omega)
      (fun _ e => nomatch e)]
  have hb : parseBits pr [.mtch END_DIST mlen] c' h' = symBits pr (ctxOf c' h') (.mtch END_DIST mlen) ++ [] := rfl
  rw [hb, Option.map_none, loopProg_succ, if_neg (fun e => nomatch e), Prog.encRun_bind, encSym_spec pr _ _ hok]
  simp only [Option.bind_some, loopNext, Sym.copyOf, if_pos (Or.inr hd : END_DIST ≥ h'.size ∨ END_DIST ≥ dictBuf)]
  rfl

/-- **End-marker mode**: the loop stops at the marker with `Stop.endMarker`. -/
theorem loop_rt_marker (pr : Params) (dictBuf : Nat) (hd : dictBuf ≤ END_DIST)
    (parse : List Sym) (mlen : Nat) (hm : 2 ≤ mlen ∧ mlen ≤ 273)
    (c : Coder) (h : Hist) (c' : Coder) (h' : Hist) (fuel : Nat) (acc : List Sym) (em : Nat) (rest : List Bool)
    (hp : parseRun dictBuf parse c h = some (c', h')) (hf : parse.length < fuel) :
    (loopProg pr dictBuf fuel none c h acc em).runBits
        (parseBits pr (parse ++ [.mtch END_DIST mlen]) c h ++ rest)
      = some ({ stop := .endMarker, coder := c'.apply (.mtch END_DIST mlen), hist := h',
                parse := (.mtch END_DIST mlen) :: (parse.reverse ++ acc),
                emitted := em + (h'.size - h.size) }, rest) := by
  rw [Prog.runBits_eq_encRun _ _ #[] Enc.init, Prog.encRun_append _
    (loop_enc_marker pr dictBuf hd parse mlen hm c h c' h' fuel acc em #[] Enc.init hp hf) rest]
  rfl

#print axioms loop_rt_size
#print axioms loop_rt_marker
#print axioms parseBits_append

/-- a concrete parse that `parseRun` accepts: "AB" + match(dist 1, len 4) + short rep = "ABABABA" -/
example : parseRun 4096 [.lit 65, .lit 66, .mtch 1 4, .shortRep] Coder.init #[]
    = some ({ state := 11, rep0 := 1, rep1 := 0, rep2 := 0, rep3 := 0 },
            #[65, 66, 65, 66, 65, 66, 65]) := by
  decide

end LzmaVerif.Lzma
