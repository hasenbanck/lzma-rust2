import LzmaVerif.Props.C11
import LzmaVerif.Proofs.XzParse
/-!
# The XZ filter chain is inverted by the reader chain

`unfilter_applyFilters`: for every admissible filter chain (`FiltersOk`) and every byte string,
`unfilter fs (applyFilters fs xs) = xs`.  Ingredients: `delta_inv`, `bcj_inverse` (all eight architectures) and
the fact that every filter maps byte strings to byte strings (`oneShot_bytes`, `deltaEncode_bytes`), so the
inverse theorems apply at every stage of the chain.
-/
namespace LzmaVerif.Filters

theorem Bytes_of_BBytes (b : Buf) (h : BBytes b) : Bytes b.toList := by
  intro x hx
  obtain ⟨i, hi, rfl⟩ := List.getElem_of_mem hx
  have hi' : i < b.size := by simpa using hi
  have := h i
  simpa [gb, Array.getD_eq_getD_getElem?, hi'] using this

theorem code_bytes (a : Arch) (enc : Bool) (st : St) (b : Buf) (h : BBytes b) : BBytes (code a enc st b).1 := by
  cases a <;> simp only [code]
  · split
    · exact h
    · rw [x86Loop_eq_xl]
      exact xl_bytes _ _ _ _ _ _ _ h
  -- `scan_bytes` is applied to the goal first, so that the step function is read off the goal and not recovered
  -- from the type of the step lemma
  · rw [ppcLoop_eq_scan]
    refine scan_bytes _ ?_ _ _ _ h
    exact ppcStep_bytes enc st
  · rw [ia64Loop_eq_scan]
    refine scan_bytes _ ?_ _ _ _ h
    exact ia64Step_bytes enc st
  · rw [armLoop_eq_scan]
    refine scan_bytes _ ?_ _ _ _ h
    exact armStep_bytes enc st
  · rw [thumbLoop_eq_scan]
    refine scan_bytes _ ?_ _ _ _ h
    exact thumbStep_bytes enc st
  · rw [sparcLoop_eq_scan]
    refine scan_bytes _ ?_ _ _ _ h
    exact sparcStep_bytes enc st
  · rw [arm64Loop_eq_scan]
    refine scan_bytes _ ?_ _ _ _ h
    exact arm64Step_bytes enc st
  · rw [riscvLoop_eq_scan]
    refine scan_bytes _ ?_ _ _ _ h
    exact riscvStep_bytes enc st

theorem oneShot_bytes (a : Arch) (enc : Bool) (start : Nat) (xs : List Nat) (h : Bytes xs) :
    Bytes (oneShot a enc start xs) :=
  Bytes_of_BBytes _ (code_bytes a enc _ _ (BBytes_toArray xs h))

theorem run_bytes (f : Delta → Nat → Nat × Delta) (hf : ∀ d x, (f d x).1 < 256) :
    ∀ (xs : List Nat) (d : Delta), Bytes (Delta.run f d xs).1 := by
  intro xs
  induction xs with
  | nil => intro d x hx; cases hx
  | cons x xs ih =>
    intro d y hy
    simp only [Delta.run] at hy
    rcases List.mem_cons.mp hy with rfl | hy
    · exact hf d x
    · exact ih _ y hy

/-- the delta encoder produces bytes (from ANY input: every output is reduced modulo 256) -/
theorem deltaEncode_bytes (dist : Nat) (xs : List Nat) : Bytes (deltaEncode dist xs) :=
  run_bytes _ (fun d x => by simp only [Delta.encode1]; omega) xs _

theorem deltaDecode_bytes (dist : Nat) (xs : List Nat) : Bytes (deltaDecode dist xs) :=
  run_bytes _ (fun d x => by simp only [Delta.decode1]; omega) xs _

end LzmaVerif.Filters

namespace LzmaVerif.Xz
open LzmaVerif

theorem archAlign_eq_alignOf (a : Filters.Arch) : archAlign a = Props.C11.alignOf a := by
  cases a <;> rfl

theorem applyFilters_bytes : ∀ (fs : List Filter) (xs : List Nat), Bytes xs → Bytes (applyFilters fs xs) := by
  intro fs
  induction fs with
  | nil => intro xs h; exact h
  | cons f fs ih =>
    intro xs h
    cases f with
    | delta dist => exact ih _ (Filters.deltaEncode_bytes dist xs)
    | bcj a s => exact ih _ (Filters.oneShot_bytes a true s xs h)
    | lzma2 _ => exact ih _ h

/-- general form: every non-LZMA2 filter of the chain is admissible (`PreOk`: delta distance in 1..256, BCJ start
offset aligned and below 2^32); LZMA2 entries are transparent for `applyFilters`/`unfilter` -/
theorem unfilter_applyFilters_gen : ∀ (fs : List Filter),
    (∀ f ∈ fs, PreOk f ∨ ∃ d, f = .lzma2 d) → ∀ (xs : List Nat), Bytes xs → unfilter fs (applyFilters fs xs) = xs := by
  intro fs
  induction fs with
  | nil => intro _ xs _; rfl
  | cons f fs ih =>
    intro hfs xs hx
    have hrest : ∀ f ∈ fs, PreOk f ∨ ∃ d, f = .lzma2 d := fun g hg => hfs g (List.mem_cons_of_mem _ hg)
    have hf := hfs f List.mem_cons_self
    cases f with
    | delta dist =>
      simp only [applyFilters, unfilter]
      rw [ih hrest _ (Filters.deltaEncode_bytes dist xs)]
      exact Filters.delta_inv dist xs hx
    | bcj a s =>
      simp only [applyFilters, unfilter]
      rw [ih hrest _ (Filters.oneShot_bytes a true s xs hx)]
      have hal : s % Props.C11.alignOf a = 0 := by
        rcases hf with hf | ⟨d, hd⟩
        · rw [← archAlign_eq_alignOf]; exact hf.2
        · cases hd
      exact Props.C11.bcj_inverse a s hal xs hx
    | lzma2 d =>
      simp only [applyFilters, unfilter]
      exact ih hrest xs hx

/-- **The reader's filter chain inverts the writer's**, for every admissible chain and every byte string. -/
theorem unfilter_applyFilters (fs : List Filter) (hfs : FiltersOk fs) (xs : List Nat) (hx : Bytes xs) :
    unfilter fs (applyFilters fs xs) = xs := by
  obtain ⟨pre, d, rfl, -, hp, -⟩ := filtersOk_spec fs hfs
  refine unfilter_applyFilters_gen _ (fun f hf => ?_) xs hx
  rcases List.mem_append.1 hf with h | h
  · exact .inl (hp f h)
  · exact .inr ⟨d, List.mem_singleton.1 h⟩

end LzmaVerif.Xz

#print axioms LzmaVerif.Filters.oneShot_bytes
#print axioms LzmaVerif.Xz.applyFilters_bytes
#print axioms LzmaVerif.Xz.unfilter_applyFilters
