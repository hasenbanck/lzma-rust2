/-
  LZMA2 writer model (`Model/Lzma2Writer.lean`), range-coder side.  `out` is newest byte first and the range encoder
  only prepends to it (`Enc.addOut`, `encRun_addOut`), hence the O(1)-pending-size variant `encSymL` the compiled
  model runs is `encSym` (`encSymL_eq`).
-/
import LzmaVerif.Model.Lzma2Writer
import LzmaVerif.Proofs.LoopRt

namespace LzmaVerif.Rc

/-- the same encoder with `acc` written before (`out` is newest first) -/
def Enc.addOut (e : Enc) (acc : List Nat) : Enc := { e with out := e.out ++ acc }

theorem pushN_append (n v : Nat) (x acc : List Nat) : pushN n v (x ++ acc) = pushN n v x ++ acc := by
  rw [pushN_eq, pushN_eq n v x, List.append_assoc]

theorem shiftLow_addOut (e : Enc) (acc : List Nat) : shiftLow (e.addOut acc) = (shiftLow e).addOut acc := by
  unfold shiftLow Enc.addOut
  by_cases h : e.low / 2 ^ 32 ≠ 0 ∨ e.low < 0xFF000000
  · simp only [if_pos h]
    rw [← List.cons_append, pushN_append]
  · simp only [if_neg h]

theorem encNormalize_addOut (e : Enc) (acc : List Nat) :
    encNormalize (e.addOut acc) = (encNormalize e).addOut acc := by
  unfold encNormalize
  rw [apply_ite (Enc.addOut · acc), ← shiftLow_addOut]
  rfl

theorem encEv_addOut (e : Enc) (acc : List Nat) (ev : Ideal.Ev) : encEv (e.addOut acc) ev = (encEv e ev).addOut acc := by
  unfold encEv
  rw [← encNormalize_addOut]
  cases ev with
  | bit p b => cases b <;> rfl
  | direct b => cases b <;> rfl

end LzmaVerif.Rc

namespace LzmaVerif.Prog
open Rc

theorem encRun_addOut {α : Type} (p : Prog α) (bits : List Bool) (ps : Probs) (e : Enc) (acc : List Nat) :
    p.encRun bits ps (e.addOut acc) =
      (p.encRun bits ps e).map (fun r => (r.1, r.2.1, r.2.2.1, r.2.2.2.addOut acc)) := by
  rw [encRun_eq_run, encRun_eq_run]
  refine run_map (o₁ := encSrc) (fun s => (s.1, s.2.1, s.2.2.addOut acc)) (fun q s => ?_) p (bits, ps, e)
  obtain ⟨_ | ⟨b, bs⟩, ps, e⟩ := s
  · rfl
  · simp only [encSrc, encEv_addOut, Option.map_some]

end LzmaVerif.Prog

namespace LzmaVerif.Lzma2W
open LzmaVerif Lzma Prog Rc

theorem encSym_addOut (pr : Params) (ctx : Ctx) (s : Sym) (ps : Probs) (e : Enc) (acc : List Nat) :
    encSym pr ctx s ps (e.addOut acc) = ((encSym pr ctx s ps e).1, (encSym pr ctx s ps e).2.addOut acc) := by
  unfold encSym
  rw [Prog.encRun_addOut]
  cases (symProg pr ctx).encRun (symBits pr ctx s) ps e with
  | none => rfl
  | some r => rfl

theorem encSymL_eq (pr : Params) (ctx : Ctx) (s : Sym) (ps : Probs) (e : Enc) :
    (encSymL pr ctx s ps e).1 = (encSym pr ctx s ps e).1 ∧
    (encSymL pr ctx s ps e).2.1 = (encSym pr ctx s ps e).2 ∧
    (encSym pr ctx s ps e).2.out.length = e.out.length + (encSymL pr ctx s ps e).2.2 := by
  obtain ⟨low, range, cacheSize, cache, out⟩ := e
  have h : encSym pr ctx s ps ⟨low, range, cacheSize, cache, out⟩ = _ :=
    encSym_addOut pr ctx s ps ⟨low, range, cacheSize, cache, []⟩ out
  rw [h]
  exact ⟨rfl, rfl, List.length_append.trans (Nat.add_comm _ _)⟩

/-- `Lzma.loop_enc_size` with the fuel written as a sum -/
theorem loop_encRun_fold (pr : Params) (dictBuf : Nat) (parse : List Sym)
    (c : Coder) (h : Hist) (c' : Coder) (h' : Hist) (k n : Nat) (acc : List Sym) (em : Nat) (ps : Probs) (e : Enc)
    (hp : parseRun dictBuf parse c h = some (c', h')) (hsz : h'.size = h.size + n) :
    (loopProg pr dictBuf (k + parse.length + 1) (some n) c h acc em).encRun (parseBits pr parse c h) ps e
      = some ({ stop := .limit, coder := c', hist := h', parse := parse.reverse ++ acc,
                emitted := em + n }, [], (encFold pr parse c h ps e).1, (encFold pr parse c h ps e).2) :=
  loop_enc_size pr dictBuf parse c h c' h' _ n acc em ps e hp hsz (by omega)

end LzmaVerif.Lzma2W
