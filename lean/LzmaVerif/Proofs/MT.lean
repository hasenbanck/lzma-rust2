import LzmaVerif.Proofs.MTTerm
/-
Main theorems about the multi-threaded reader protocol model `Model/MT.lean`, for every
configuration with `1 ≤ maxWorkers` and every schedule from `init cfg` (`mt_workers_bounded` and
`mt_terminates_bound` need `CfgOk cfg`, i.e. also `initialWorkers ≤ maxWorkers`):

* `mt_order` (C08): the caller receives units 0, 1, 2, … in order, no gaps, no duplicates;
* `mt_conservation`: a dispatched, not yet returned unit is in exactly one place unless it is failing;
* `mt_complete`: a clean end-of-stream is only reported after all units were delivered, all of them
  processed successfully, and the source ended cleanly;
* `mt_workers_bounded`: never more than `maxWorkers` workers;
* `mt_no_deadlock` (C09): if no thread can move the coordinator is not inside a call; needs
  `cfg.srcOk = true → cfg.units ≠ []` (`deadlock_without_units`);
* `mt_drop_all_exit` (C10): after the reader was dropped, a terminal state has all workers exited;
* `mt_terminates` (C09): no schedule is longer than `26·units + 3·initialWorkers + 20` steps.
-/
namespace LzmaVerif.MT

def CfgOk (cfg : Cfg) : Prop := 1 ≤ cfg.maxWorkers ∧ cfg.initialWorkers ≤ cfg.maxWorkers

theorem onMsg_cfg (s : Sys) (m : Msg) (rest : List Msg) : (onMsg s m rest).cfg = s.cfg := by
  unfold onMsg; split
  · rfl
  · split <;> rfl

theorem step_cfg (s s' : Sys) (l : Label) (hs : step s l = some s') : s'.cfg = s.cfg := by
  cases l <;> simp only [step, coordStep, callerStep, workerStep] at hs
  all_goals (repeat' split at hs)
  all_goals (cases hs)
  all_goals (first | rfl | exact onMsg_cfg ..)

theorem reach (cfg : Cfg) (hcfg : 1 ≤ cfg.maxWorkers) (sched : List Label) (s : Sys)
    (hr : runSched (init cfg) sched = some s) :
    (Inv s ∧ s.cfg = cfg) ∧ sched.length + mu s ≤ mu (init cfg) :=
  Lts.run_bound (P := fun s => Inv s ∧ s.cfg = cfg) (fun _ => rfl) (fun _ _ _ => rfl)
    (fun s l s' h hs => ⟨⟨step_inv s s' l h.1 hs, (step_cfg s s' l hs).trans h.2⟩, step_mu s s' l h.1 hs⟩)
    sched _ s ⟨init_inv cfg hcfg, rfl⟩ hr

theorem mt_order (cfg : Cfg) (hcfg : 1 ≤ cfg.maxWorkers) (sched : List Label) (s : Sys)
    (hr : runSched (init cfg) sched = some s) :
    s.delivered = List.range s.delivered.length ∧ s.nextReturn = s.delivered.length := by
  rw [(reach cfg hcfg sched s hr).1.1.order]; simp

/-- (a) never more than one place, (b) none outside `nextReturn ≤ q < disp s`, (c) exactly one inside unless failing
    (`Failing`) -/
theorem mt_conservation (cfg : Cfg) (hcfg : 1 ≤ cfg.maxWorkers) (sched : List Label) (s : Sys)
    (hr : runSched (init cfg) sched = some s) (q : Nat) :
    cnt s q ≤ 1 ∧
    (0 < cnt s q → s.nextReturn ≤ q ∧ q < disp s) ∧
    (s.nextReturn ≤ q → q < disp s →
      cnt s q = 1 ∨ (cfg.units.getD q .ok ≠ .ok ∧ Failing s)) := by
  obtain ⟨⟨h, rfl⟩, -⟩ := reach cfg hcfg sched s hr
  exact ⟨h.cntLe q, h.cntRange q, h.cons q⟩

theorem mt_ok_unit_not_lost (cfg : Cfg) (hcfg : 1 ≤ cfg.maxWorkers) (sched : List Label) (s : Sys)
    (hr : runSched (init cfg) sched = some s) (q : Nat)
    (h1 : s.nextReturn ≤ q) (h2 : q < s.nextDispatch) (hok : cfg.units.getD q .ok = .ok) :
    q ∈ s.queue ∨ (∃ w ∈ s.ws, w = .got q ∨ w = .work q ∨ w = .send q) ∨ .result q ∈ s.chan ∨ q ∈ s.ooo := by
  have hd : s.nextDispatch ≤ disp s := by
    simp only [disp, dispOf]; split <;> omega
  rcases (mt_conservation cfg hcfg sched s hr q).2.2 h1 (by omega) with h | ⟨h, _⟩
  · exact cnt_pos_cases s q (by omega)
  · exact absurd hok h

theorem mt_complete (cfg : Cfg) (hcfg : 1 ≤ cfg.maxWorkers) (sched : List Label) (s : Sys)
    (hr : runSched (init cfg) sched = some s) (hdone : s.pc = .idle (some .done)) :
    s.delivered.length = cfg.units.length ∧ cfg.srcOk = true ∧ ∀ o ∈ cfg.units, o = .ok := by
  obtain ⟨⟨h, rfl⟩, -⟩ := reach cfg hcfg sched s hr
  have hst := h.doneSt hdone
  obtain ⟨hsrc, _, hlen⟩ := h.drainInv (.inr hst)
  have hret : s.nextReturn = s.cfg.units.length := by
    have := h.finInv hst; have := h.retLe; have := h.dispLe
    omega
  refine ⟨by rw [h.order, List.length_range]; exact hret, hsrc, fun o ho => ?_⟩
  obtain ⟨i, hi, rfl⟩ := List.getElem_of_mem ho
  simpa [List.getD_eq_getElem?_getD, hi] using h.okDelivered i (by omega)

/-- a run that ends with end-of-stream has handed over exactly the units of the input, in order -/
theorem mt_done_delivered (cfg : Cfg) (hcfg : 1 ≤ cfg.maxWorkers) (sched : List Label) (s : Sys)
    (hr : runSched (init cfg) sched = some s) (hdone : s.pc = .idle (some .done)) :
    s.delivered = List.range cfg.units.length := by
  rw [(mt_order cfg hcfg sched s hr).1, (mt_complete cfg hcfg sched s hr hdone).1]

theorem mt_workers_bounded (cfg : Cfg) (hcfg : CfgOk cfg) (sched : List Label) (s : Sys)
    (hr : runSched (init cfg) sched = some s) :
    s.ws.length ≤ max cfg.initialWorkers cfg.maxWorkers ∧ s.ws.length ≤ cfg.maxWorkers := by
  obtain ⟨⟨h, rfl⟩, -⟩ := reach cfg hcfg.1 sched s hr
  have := h.wsBound
  have := hcfg.2
  omega

/-- no thread can move, ignoring the caller's option to drop the reader -/
def terminalNoDrop (s : Sys) : Bool :=
  (step s .coord).isNone && (step s .call).isNone &&
    (List.range s.ws.length).all fun i => (step s (.worker i)).isNone

theorem worker_stuck (s : Sys) (i : Nat) (w : WPc) (hw : s.ws[i]? = some w)
    (hs : workerStep s i = none) : w = .waiting ∨ w = .exited := by
  revert hs
  -- every branch of `workerStep` but three yields `some _`
  fun_cases workerStep s i <;> intro hs <;> cases hs
  · cases hw.symm.trans ‹_›
  · exact .inl (Option.some.inj (hw.symm.trans ‹_›))
  · exact .inr (Option.some.inj (hw.symm.trans ‹_›))

theorem all_stuck (s : Sys)
    (hw : ((List.range s.ws.length).all fun i => (step s (.worker i)).isNone) = true) :
    ∀ w ∈ s.ws, w = .waiting ∨ w = .exited := by
  intro w hmem
  obtain ⟨i, hi⟩ := List.getElem?_of_mem hmem
  have hil := (List.getElem?_eq_some_iff.mp hi).1
  simp only [List.all_eq_true, List.mem_range, Option.isNone_iff_eq_none] at hw
  exact worker_stuck s i w hi (hw i hil)

/-- a blocked receive (`recvReading` / `recvDraining`, empty channel) always has a worker that can
    move: the unit the caller is waiting for is somewhere, and whoever holds it makes progress -/
theorem recv_not_stuck (s : Sys) (h : Inv s) (hne : s.cfg.srcOk = true → s.cfg.units ≠ [])
    (hp : s.pc = .recvReading ∨ s.pc = .recvDraining) (hchan : s.chan = [])
    (hst : ∀ w ∈ s.ws, w = .waiting ∨ w = .exited) : False := by
  have ⟨hpl, hpt, hes, hn1⟩ :
      plainPc s.pc = true ∧ pastTop s.pc = true ∧ errSeen s.pc ≠ true ∧ s.pc ≠ .idle (some .err) := by
    rcases hp with hp | hp <;> rw [hp] <;> exact ⟨rfl, rfl, nofun, nofun⟩
  obtain ⟨hn3, hn2⟩ := plainPc_ne hpl
  have hnochan : ∀ m, m ∉ s.chan := fun m hm => by rw [hchan] at hm; cases hm
  -- the unit the caller waits for has been dispatched
  have hlt : s.nextReturn < disp s := by
    rw [disp, dispOf_plain hpl]
    rcases hp with hp | hp
    · exact h.recvLt.1 hp
    · have h1 := h.recvLt.2 hp
      obtain ⟨hsrc, _, hlen⟩ := h.drainInv (.inl (h.drainSt hp))
      have : s.cfg.units.length ≠ 0 := fun hc => hne hsrc (List.length_eq_zero_iff.mp hc)
      omega
  -- no error is pending, so nothing has been shut down
  have herr : s.errStored ≠ true := fun he =>
    (h.errWake he).elim hes fun h1 => h1.elim (hnochan _) fun h1 => (hst _ h1).elim nofun nofun
  have hshut : s.shutdown = false := Bool.eq_false_iff.mpr fun hs =>
    (h.shutErr hs).elim herr fun h1 => h1.elim hn1 hn2
  rcases h.cons s.nextReturn (Nat.le_refl _) hlt with hc | ⟨_, hF⟩
  · rcases cnt_pos_cases s s.nextReturn (hc ▸ Nat.one_pos) with hq | ⟨w, hw, hh⟩ | hq | hq
    · -- in the queue: somebody is awake to take it
      rcases h.qAlive hshut (List.ne_nil_of_mem hq) with ⟨w, hw, hnw⟩ | ⟨hc, _⟩
      · exact (hst w hw).elim hnw (h.noExit hshut w hw).1
      · exact hn3 hc
    · -- in a worker's hands: that worker can move
      rcases hst w hw with rfl | rfl <;> exact hh.elim nofun (·.elim nofun nofun)
    · exact hnochan _ hq
    · exact h.oooNext hpt hq
  · rcases hF with ⟨w, hw, hm⟩ | he | hc | hc
    · rcases hst w hw with rfl | rfl <;> cases hm
    · exact herr he
    · exact hn1 hc
    · exact hn2 hc

theorem terminalNoDrop_inv (s : Sys) (h : Inv s) (hne : s.cfg.srcOk = true → s.cfg.units ≠ [])
    (ht : terminalNoDrop s = true) :
    s.pc = .dropped ∨ s.pc = .idle (some .done) ∨ s.pc = .idle (some .err) := by
  simp only [terminalNoDrop, Bool.and_eq_true, Option.isNone_iff_eq_none, step] at ht
  obtain ⟨⟨hco, hca⟩, hw⟩ := ht
  -- the coordinator only blocks in a receive on an empty channel, and then some worker can move
  have hrecv : s.pc = .recvReading ∨ s.pc = .recvDraining → False := fun hp => by
    refine recv_not_stuck s h hne hp ?_ (all_stuck s hw)
    cases hc : s.chan with
    | nil => rfl
    | cons m rest => rcases hp with hp | hp <;> simp [coordStep, hp, hc] at hco
  cases hp : s.pc
  case recvReading => exact (hrecv (.inl hp)).elim
  case recvDraining => exact (hrecv (.inr hp)).elim
  case dropped => exact .inl rfl
  case idle last =>
    rcases last with _ | _ | _ | _
    case some.done => exact .inr (.inl rfl)
    case some.err => exact .inr (.inr rfl)
    all_goals simp [callerStep, hp] at hca
  all_goals (simp only [coordStep, hp] at hco; repeat' split at hco)
  all_goals cases hco

/-- **No deadlock.**  If no thread can move (not counting the caller's freedom to drop the reader),
    the coordinator is outside a call and the last call returned end-of-stream or an error, or the
    reader has been dropped.  In particular `read` never blocks forever. -/
theorem mt_no_deadlock (cfg : Cfg) (hcfg : 1 ≤ cfg.maxWorkers)
    (hne : cfg.srcOk = true → cfg.units ≠ [])
    (sched : List Label) (s : Sys) (hr : runSched (init cfg) sched = some s)
    (ht : terminalNoDrop s = true) :
    s.pc = .dropped ∨ s.pc = .idle (some .done) ∨ s.pc = .idle (some .err) := by
  obtain ⟨⟨h, rfl⟩, -⟩ := reach cfg hcfg sched s hr
  exact terminalNoDrop_inv s h hne ht

theorem terminalNoDrop_of_terminal (s : Sys) (ht : terminal s = true) : terminalNoDrop s = true := by
  simp only [terminal, terminalNoDrop, Bool.and_eq_true] at ht ⊢
  exact ⟨⟨ht.1.1.1, ht.1.1.2⟩, ht.2⟩

theorem mt_terminal_dropped (cfg : Cfg) (hcfg : 1 ≤ cfg.maxWorkers)
    (hne : cfg.srcOk = true → cfg.units ≠ [])
    (sched : List Label) (s : Sys) (hr : runSched (init cfg) sched = some s)
    (ht : terminal s = true) : s.pc = .dropped := by
  have hdr : callerStep s true = none := by
    simp only [terminal, Bool.and_eq_true, Option.isNone_iff_eq_none, step] at ht
    exact ht.1.2
  rcases mt_no_deadlock cfg hcfg hne sched s hr (terminalNoDrop_of_terminal s ht) with h | h | h
  · exact h
  · simp [callerStep, h] at hdr
  · simp [callerStep, h] at hdr

theorem mt_drop_all_exit (cfg : Cfg) (hcfg : 1 ≤ cfg.maxWorkers) (sched : List Label) (s : Sys)
    (hr : runSched (init cfg) sched = some s) (ht : terminal s = true) (hd : s.pc = .dropped) :
    ∀ w ∈ s.ws, w = .exited := by
  have h := (reach cfg hcfg sched s hr).1.1
  simp only [terminal, Bool.and_eq_true] at ht
  have hst := all_stuck s ht.2
  intro w hw
  rcases hst w hw with h1 | h1
  · exact absurd h1 (h.closedNoWait (h.closedIff.mpr hd) w hw)
  · exact h1

theorem mt_terminates (cfg : Cfg) (hcfg : 1 ≤ cfg.maxWorkers) (sched : List Label) (s : Sys)
    (hr : runSched (init cfg) sched = some s) :
    sched.length ≤ mu (init cfg) ∧
    mu (init cfg) = 26 * cfg.units.length + 3 * cfg.initialWorkers + 20 :=
  ⟨Nat.le_trans (Nat.le_add_right _ _) (reach cfg hcfg sched s hr).2, mu_init cfg⟩

theorem mt_terminates_bound (cfg : Cfg) (hcfg : CfgOk cfg) (sched : List Label) (s : Sys)
    (hr : runSched (init cfg) sched = some s) :
    sched.length ≤ 26 * cfg.units.length + 3 * cfg.maxWorkers + 20 := by
  have h := mt_terminates cfg hcfg.1 sched s hr
  have := hcfg.2
  omega

/-- every maximal execution ends with the reader dropped and all workers exited -/
theorem mt_maximal_run (cfg : Cfg) (hcfg : 1 ≤ cfg.maxWorkers)
    (hne : cfg.srcOk = true → cfg.units ≠ [])
    (sched : List Label) (s : Sys)
    (hr : runSched (init cfg) sched = some s) (ht : terminal s = true) :
    s.pc = .dropped ∧ (∀ w ∈ s.ws, w = .exited) ∧
      s.delivered = List.range s.delivered.length :=
  ⟨mt_terminal_dropped cfg hcfg hne sched s hr ht,
    mt_drop_all_exit cfg hcfg sched s hr ht (mt_terminal_dropped cfg hcfg hne sched s hr ht),
    (mt_order cfg hcfg sched s hr).1⟩

/-- two good units, two workers: the caller gets 0, 1 and then end-of-stream -/
example : ∃ sched s,
    runSched (init { units := [.ok, .ok], srcOk := true, maxWorkers := 2, initialWorkers := 1 }) sched = some s ∧
    s.pc = .idle (some .done) ∧ s.delivered = [0, 1] := by
  refine ⟨[.call, .coord, .coord, .coord, .coord, .coord, .coord, .coord, .coord, .coord, .coord,
    .coord, .coord, .coord, .coord, .coord, .worker 0, .worker 0, .worker 0, .coord, .coord, .coord,
    .coord, .coord, .coord, .coord, .coord, .coord, .coord, .worker 0, .worker 0, .coord, .call,
    .coord, .coord, .coord, .worker 1, .worker 1, .worker 1, .worker 1, .worker 1, .coord, .call,
    .coord, .coord, .coord, .coord, .coord, .coord], _, rfl, by decide, by decide⟩

/-- second unit fails: the caller gets an error, never end-of-stream -/
example : ∃ sched s,
    runSched (init { units := [.ok, .fail], srcOk := true, maxWorkers := 2, initialWorkers := 1 }) sched = some s ∧
    s.pc = .idle (some .err) := by
  refine ⟨[.call, .coord, .coord, .coord, .coord, .coord, .coord, .coord, .coord, .coord, .coord,
    .coord, .coord, .coord, .coord, .coord, .worker 0, .worker 0, .worker 0, .coord, .coord,
    .worker 1, .worker 1, .worker 1, .worker 1, .worker 1, .worker 1, .coord], _, rfl, by decide⟩

/-- the hypothesis of `mt_no_deadlock` is needed: with no unit at all and a clean end of the
    source the model's coordinator computes `lastSeq = some (0 - 1) = some 0` and then waits for
    unit 0 forever (the Rust readers always dispatch at least one unit before a clean end) -/
theorem deadlock_without_units : ∃ sched s,
    runSched (init { units := [], srcOk := true, maxWorkers := 1, initialWorkers := 1 }) sched = some s ∧
    terminalNoDrop s = true ∧ s.pc = .recvDraining := by
  refine ⟨[.call, .coord, .coord, .coord, .coord, .coord, .coord, .coord, .coord, .coord,
    .worker 0, .worker 0], _, rfl, by decide, by decide⟩

#print axioms mt_order
#print axioms mt_conservation
#print axioms mt_ok_unit_not_lost
#print axioms mt_complete
#print axioms mt_workers_bounded
#print axioms mt_no_deadlock
#print axioms mt_terminal_dropped
#print axioms mt_drop_all_exit
#print axioms mt_terminates
#print axioms mt_terminates_bound
#print axioms mt_maximal_run
#print axioms deadlock_without_units

end LzmaVerif.MT
