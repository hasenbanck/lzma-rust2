import LzmaVerif.Proofs.RcEnc
import LzmaVerif.Proofs.RcIdeal
/-!
The real encoder refines the ideal encoder: `val s = L`, `s.range = R`,
`s.out.length + s.cacheSize - 1 = k`.  `Enc.finish` writes exactly the number `L` in `k + 5` bytes.
-/
namespace LzmaVerif.Rc
open Ideal

structure Abs (s : Enc) (c : St) : Prop where
  inv : Inv s s.range
  L : val s = c.L
  R : s.range = c.R
  k : s.out.length + s.cacheSize = c.k + 1

def st0 : St := { L := 0, R := 0xFFFFFFFF, k := 0 }

theorem st0_ROk : ROk st0 := ⟨by decide, by decide⟩

theorem abs_init : Abs Enc.init st0 :=
  ⟨⟨Nat.le_refl _, by decide, fun _ h => absurd h (by simp [Enc.init]), by decide,
    fun h => absurd h (by decide)⟩, rfl, rfl, rfl⟩

def encCore (s : Enc) : Ev → Enc
  | .bit p b =>
    if b then { s with low := s.low + (s.range / 2^11) * p, range := s.range - (s.range / 2^11) * p }
    else { s with range := (s.range / 2^11) * p }
  | .direct b =>
    if b then { s with low := s.low + s.range / 2, range := s.range / 2 }
    else { s with range := s.range / 2 }

def encEv (s : Enc) (e : Ev) : Enc := encNormalize (encCore s e)

theorem encodeBitP_eq (s : Enc) (p : Nat) (b : Bool) : encodeBitP s p b = encEv s (.bit p b) := by
  cases b <;> rfl

theorem encodeDirect1_eq (s : Enc) (b : Bool) : encodeDirect1 s b = encEv s (.direct b) := by
  cases b <;> rfl

theorem encCore_eq (s : Enc) (e : Ev) :
    encCore s e = if evBit e then { s with low := s.low + (e.split s.range).1, range := (e.split s.range).2 }
      else { s with range := (e.split s.range).1 } := by
  cases e <;> rfl

theorem abs_core (s : Enc) (c : St) (e : Ev) (h : Abs s c) (hc : ROk c) (he : EvOk e) :
    Abs (encCore s e) (core c e) := by
  obtain ⟨hinv, hL, hR, hk⟩ := h
  obtain ⟨_, _, h3⟩ := split_spec c.R e hc.1 he
  rw [encCore_eq, core_eq, hR]
  rw [hR] at hinv
  split
  · exact ⟨hinv.frame rfl rfl rfl (by simp only; omega), by rw [val_add_low, hL],
      rfl, hk⟩
  · exact ⟨hinv.frame rfl rfl rfl (by simp only; omega), hL, rfl, hk⟩

theorem abs_norm (s : Enc) (c : St) (h : Abs s c) (hc : PreOk c) :
    Abs (encNormalize s) (norm c) := by
  obtain ⟨hinv, hL, hR, hk⟩ := h
  unfold encNormalize
  rcases norm_cases c with ⟨hlt, hn⟩ | ⟨hlt, hn⟩
  · rw [hn, if_pos (by omega)]
    obtain ⟨g1, g2, g3⟩ := shiftLow_spec { s with range := s.range * 256 } s.range
      (hinv.frame rfl rfl rfl (Nat.le_refl _)) (by have := hc.1; omega) (by omega)
    refine ⟨?_, by rw [g2, ← hL]; exact Nat.mul_comm _ _, by rw [shiftLow_range, ← hR], ?_⟩
    · rw [shiftLow_range]; exact g1
    · rw [g3]; simp only; omega
  · rw [hn, if_neg (by omega)]
    exact ⟨hinv, hL, hR, hk⟩

theorem abs_step (s : Enc) (c : St) (e : Ev) (h : Abs s c) (hc : ROk c) (he : EvOk e) :
    Abs (encEv s e) (step c e) :=
  abs_norm _ _ (abs_core s c e h hc he) (core_R_pos c e hc he)

/-- the `shiftLow`s of `finish`: the interval has shrunk to the point `low` -/
theorem fin_shift (n : Nat) : ∀ s : Enc, Inv s 1 →
    Inv (Nat.iterate shiftLow n s) 1 ∧ val (Nat.iterate shiftLow n s) = 256 ^ n * val s ∧
    (Nat.iterate shiftLow n s).out.length + (Nat.iterate shiftLow n s).cacheSize
      = s.out.length + s.cacheSize + n := by
  induction n with
  | zero => intro s h; exact ⟨h, (Nat.one_mul _).symm, rfl⟩
  | succ n ih =>
    intro s h
    obtain ⟨g1, g2, g3⟩ := shiftLow_spec s 1 h (by omega) (by omega)
    obtain ⟨i1, i2, i3⟩ := ih (shiftLow s) (g1.frame rfl rfl rfl (by omega))
    refine ⟨i1, ?_, ?_⟩
    · rw [Nat.iterate, i2, g2, Nat.pow_succ, Nat.mul_assoc]
    · rw [Nat.iterate, i3, g3, Nat.add_assoc, Nat.add_comm 1 n]

/-- **`finish`**: the stream is the base-256 representation of the final ideal `L`
    in exactly `k + 5` digits -/
theorem finish_spec (s : Enc) (c : St) (h : Abs s c) (hc : ROk c) :
    (∀ b ∈ s.finish.out, b < 256) ∧ s.finish.out.length = c.k + 5 ∧
    num s.finish.out.reverse = c.L := by
  obtain ⟨hinv, hL, hR, hk⟩ := h
  obtain ⟨f5, v5, n5⟩ := fin_shift 5 s (hinv.frame rfl rfl rfl (by have := hc.1; omega))
  -- four `shiftLow` clear `low`; so the fifth flushes, and leaves nothing pending
  have hz : (Nat.iterate shiftLow 4 s).low = 0 := by
    simp only [Nat.iterate, shiftLow_low]
    omega
  have h5 : s.finish = shiftLow (Nat.iterate shiftLow 4 s) := rfl
  rw [shiftLow_flush _ (Or.inr (by rw [hz]; decide))] at h5
  change Inv s.finish 1 at f5
  change val s.finish = _ at v5
  change s.finish.out.length + s.finish.cacheSize = _ at n5
  have hv : val s.finish = num s.finish.out.reverse * 2^40 := by
    rw [h5]
    simp only [val, pending, hz, Nat.sub_self, List.replicate_zero, num_append, num,
      List.length_cons, List.length_nil]
    omega
  have hcs : s.finish.cacheSize = 1 := by rw [h5]
  exact ⟨f5.bytes, by omega, by omega⟩

end LzmaVerif.Rc
