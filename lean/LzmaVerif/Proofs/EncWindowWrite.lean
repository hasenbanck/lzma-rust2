import LzmaVerif.Proofs.EncWindowRun
/-!
# `write`, `finish` and the whole run against the reference run

`fill_window` and `set_finishing` leave `ref` alone, so `Run` is kept with more bytes fed.  The fuel of the write loop
suffices because a `fill_window` that takes nothing of a non-empty input leaves a symbol to code.
-/
namespace LzmaVerif.EncWindow

theorem take_append_next {inp rest : List Nat} {n : Nat} (h : rest <+: inp.drop n) (k : Nat) (hk : k ≤ rest.length) :
    inp.take n ++ rest.take k = inp.take (n + k) ∧ rest.drop k <+: inp.drop (n + k) := by
  obtain ⟨t, ht⟩ := h
  refine ⟨?_, t, ?_⟩
  · rw [List.take_add, ← ht, List.take_append_of_le_length hk]
  · rw [← List.drop_drop, ← ht, List.drop_append_of_le_length hk]

theorem fillWindow_sim (P : Params) (hP : P.WF) (O : Oracle) (s : St (List Nat)) (rest inp : List Nat)
    (h : Run P O inp s) (hpre : rest <+: inp.drop (s.win.base + s.win.writePos)) (hf : s.win.finishing = false) :
    let r := fillWindow listBuf P s rest
    Run P O inp r.1 ∧ r.1.win.finishing = false ∧ r.2 ≤ rest.length ∧
    r.1.win.base + r.1.win.writePos = s.win.base + s.win.writePos + r.2 ∧ r.1.unenc = s.unenc + r.2 ∧
    (rest ≠ [] → r.2 = 0 → hasEnoughData r.1.win (r.1.readAhead + 1) = true) := by
  have hs := h.inv
  obtain ⟨c1, c2, c3, c4, c5, c6, c7, c8, c9⟩ := fillCore_spec P s.win _ rest hs.win hf
  -- nothing is pending: `process_pending_bytes` does nothing
  unfold fillWindow
  dsimp only
  rw [processPending_none listBuf P _ (by exact c8.trans (hs.win.pend_zero hf))]
  rw [(take_append_next hpre _ c2).1, ← c5] at c1
  have hreach := h.reach
  generalize fillCore listBuf P s.win rest = r0 at *
  have g1 := hs.ra_ge; have g2 := hs.ra_le; have g3 := hs.ra_lt; have g4 := hs.win.rp_lt
  have w5 := hP.ahead_before
  refine ⟨⟨⟨⟨c1, hs.ra_ge, ?_, hs.ra_lt, hs.not_stuck⟩, fun hfin => absurd (c7.symm.trans hfin) (by decide), h.good⟩,
    ?_⟩, c7, c2, c5, ?_, ?_⟩
  · show s.readAhead ≤ r0.1.readPos
    rcases c1.lookback with h | h
    · omega
    · omega
  · show RSteps P O inp {} (RSt.mk ((r0.1.base : Int) + r0.1.readPos) s.readAhead s.trace)
    rw [c4]
    exact hreach
  · unfold St.unenc St.encPos
    show ((r0.1.writePos : Int) - (r0.1.readPos - s.readAhead)).toNat =
      ((s.win.writePos : Int) - (s.win.readPos - s.readAhead)).toNat + r0.2
    omega
  · intro hne hz
    have := c9 hne hz
    exact (hasEnough_iff r0.1 (s.readAhead + 1)).mpr (by omega)

theorem writeLoop_sim (P : Params) (hP : P.WF) (O : Oracle) (inp : List Nat) (fuel : Nat) (s : St (List Nat))
    (rest : List Nat) (h : Run P O inp s) (hpre : rest <+: inp.drop (s.win.base + s.win.writePos))
    (hf : s.win.finishing = false) (hfuel : 2 * rest.length + s.unenc < fuel) :
    let s' := writeLoop listBuf P O fuel s rest
    Run P O inp s' ∧ s'.win.finishing = false ∧
      s'.win.base + s'.win.writePos = s.win.base + s.win.writePos + rest.length := by
  fun_induction writeLoop listBuf P O fuel s rest with
  | case1 | case2 => exact absurd hfuel (Nat.not_lt_zero _)
  | case3 f s rest hr =>
    rw [List.isEmpty_iff.mp hr]
    exact ⟨h, hf, rfl⟩
  | case4 f s rest hr r s2 ih =>
    unfold s2 r at ih ⊢
    obtain ⟨a1, a3, a4, a5, a6, a7⟩ := fillWindow_sim P hP O s rest inp h hpre hf
    generalize fillWindow listBuf P s rest = r at *
    obtain ⟨e2, e4, e5, -, e7, -⟩ := encodeLoop_sim P hP O inp P.lzma2 (r.1.unenc + 1) r.1 a1
    generalize encodeLoop listBuf P O P.lzma2 (r.1.unenc + 1) r.1 = r2 at *
    have hl : (rest.drop r.2).length = rest.length - r.2 := List.length_drop
    obtain ⟨i2, i4, i5⟩ := ih e2 (by rw [e4.base, e4.wp, a5]; exact (take_append_next hpre _ a4).2)
      (e4.fin.trans a3) (by
        rw [hl]
        by_cases hu : r.2 = 0
        · have := e7 (a7 (fun h => hr (List.isEmpty_iff.mpr h)) hu) (Nat.succ_pos _)
          omega
        · omega)
    exact ⟨i2, i4, by rw [i5, e4.base, e4.wp, a5, hl]; omega⟩

theorem writeAll_sim (P : Params) (hP : P.WF) (O : Oracle) (inp : List Nat) :
    ∀ (parts : List (List Nat)) (s : St (List Nat)), Run P O inp s →
    parts.flatten <+: inp.drop (s.win.base + s.win.writePos) → s.win.finishing = false →
    let s' := writeAll listBuf P O s parts
    Run P O inp s' ∧ s'.win.finishing = false ∧
      s'.win.base + s'.win.writePos = s.win.base + s.win.writePos + parts.flatten.length
  | [], s, h, _, hf => ⟨h, hf, rfl⟩
  | p :: ps, s, h, hpre, hf => by
    rw [List.flatten_cons] at hpre ⊢
    obtain ⟨a2, a4, a5⟩ := writeLoop_sim P hP O inp _ s p h ((List.prefix_append _ _).trans hpre) hf
      (Nat.lt_succ_self _)
    have hnext := (take_append_next hpre p.length (by rw [List.length_append]; omega)).2
    rw [List.drop_left, ← a5] at hnext
    obtain ⟨b2, b4, b5⟩ := writeAll_sim P hP O inp ps (write listBuf P O s p) a2 hnext a4
    exact ⟨b2, b4, (b5.trans (congrArg (· + _) a5)).trans (by rw [List.length_append]; omega)⟩

theorem finish_sim (P : Params) (hP : P.WF) (O : Oracle) (inp : List Nat) (s : St (List Nat))
    (h : Run P O inp s) (hall : s.win.base + s.win.writePos = inp.length) (hf : s.win.finishing = false) :
    let s' := finish listBuf P O s
    Run P O inp s' ∧ ¬ s'.ref.encPos < inp.length ∧ s'.win.base + s'.win.writePos = inp.length := by
  have hs := h.inv
  have hsf : setFinishing listBuf P s =
      { s with win := { s.win with readLimit := (s.win.writePos : Int) - 1, finishing := true } } :=
    processPending_none listBuf P _ (hs.win.pend_zero hf)
  have hfin : finish listBuf P O s =
      (encodeLoop listBuf P O false ((setFinishing listBuf P s).unenc + 1) (setFinishing listBuf P s)).1 := rfl
  dsimp only
  rw [hfin, hsf]
  generalize hs1 : ({ s with win := { s.win with readLimit := (s.win.writePos : Int) - 1, finishing := true } } : St (List Nat)) = s1
  have h1 : Run P O inp s1 ∧ s1.win.base + s1.win.writePos = inp.length := by
    subst hs1
    exact ⟨⟨⟨⟨⟨hs.win.toWPos.congr rfl rfl rfl rfl, fun _ => rfl, fun h => Bool.noConfusion h, Or.inr rfl⟩,
      hs.ra_ge, hs.ra_le, hs.ra_lt, hs.not_stuck⟩, fun _ => hall, h.good⟩, h.reach⟩, hall⟩
  obtain ⟨e3, e4, _, e6, _, e8⟩ := encodeLoop_sim P hP O inp false (s1.unenc + 1) s1 h1.1
  generalize encodeLoop listBuf P O false (s1.unenc + 1) s1 = r at *
  refine ⟨e3, ?_, by rw [e4.base, e4.wp]; exact h1.2⟩
  have hne : hasEnoughData r.1.win (r.1.readAhead + 1) = false := by
    rcases e6 (by omega) with h | h
    · rw [e8 rfl] at h; exact absurd h (by simp)
    · exact h
  have hne' := (not_congr (hasEnough_iff r.1.win _)).mp (by rw [hne]; decide)
  have hl : r.1.win.readLimit = (r.1.win.writePos : Int) - 1 := e3.inv.win.lim_fin (by rw [e4.fin, ← hs1])
  have := h1.2; have := e4.base; have := e4.wp
  show ¬ ((r.1.win.base : Int) + r.1.win.readPos - r.1.readAhead < inp.length)
  omega

theorem run_sim (P : Params) (hP : P.WF) (O : Oracle) (parts : List (List Nat)) :
    let s := run listBuf P O parts
    Run P O parts.flatten s ∧ ¬ s.ref.encPos < parts.flatten.length ∧
      s.win.base + s.win.writePos = parts.flatten.length := by
  obtain ⟨a2, a4, a5⟩ := writeAll_sim P hP O parts.flatten parts (St.init listBuf P)
    ⟨⟨⟨WInv.init P, Int.le_refl _, Int.le_refl _, by show (-1 : Int) + 1 ≤ (P.maxAhead : Int); omega, rfl⟩,
      fun h => Bool.noConfusion h, fun _ hv => absurd hv List.not_mem_nil⟩, RSteps.refl _⟩
    (List.prefix_refl _) rfl
  exact finish_sim P hP O parts.flatten (writeAll listBuf P O (St.init listBuf P) parts) a2
    (a5.trans (Nat.zero_add _)) a4

end LzmaVerif.EncWindow
