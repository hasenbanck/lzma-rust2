import LzmaVerif.Proofs.XzStream
/-! `nextStream` on stream padding followed by a header, by nothing, by garbage; then, for any decoder that `Walks`, what
follows a written stream (`Walks.after_cat`, `Walks.decode_cat`). -/
namespace LzmaVerif.Xz
open LzmaVerif Lzma Checks


theorem nextStream_skip (r : List Nat) : ∀ (k fuel z : Nat),
    nextStream (fuel + k) (List.replicate k 0 ++ r) z = nextStream fuel r (z + k) := by
  intro k
  induction k with
  | zero => intro fuel z; rfl
  | succ k ih =>
    intro fuel z
    rw [List.replicate_succ, List.cons_append, ← Nat.add_assoc, nextStream, if_pos rfl, ih,
      Nat.add_assoc, Nat.add_comm 1 k]

theorem nextStream_nil (fuel z : Nat) :
    nextStream (fuel + 1) [] z = if z % 4 ≠ 0 then .error .invalidData else .ok none := by
  rw [nextStream]; split <;> rfl

theorem nextStream_header (c : Check) (r : List Nat) (k fuel z : Nat) (hf : k + 1 ≤ fuel) :
    nextStream fuel (List.replicate k 0 ++ (streamHeaderBytes c ++ r)) z
      = if (z + k) % 4 ≠ 0 then .error .invalidData else .ok (some (c, r)) := by
  obtain ⟨f, rfl⟩ : ∃ f, fuel = f + 1 + k := ⟨fuel - 1 - k, by omega⟩
  rw [nextStream_skip]
  have hF := parseFlags_ok c r
  simp only [streamHeaderBytes, Consts.XZ_MAGIC, List.nil_append, List.cons_append, nextStream] at hF ⊢
  simp [hF, bind, Except.bind, pure, Except.pure]
  rw [if_neg (by omega)]
  split <;> rfl

theorem nextStream_zeros (k fuel z : Nat) (hf : k + 1 ≤ fuel) :
    nextStream fuel (List.replicate k 0) z = if (z + k) % 4 ≠ 0 then .error .invalidData else .ok none := by
  obtain ⟨f, rfl⟩ : ∃ f, fuel = f + 1 + k := ⟨fuel - 1 - k, by omega⟩
  rw [← List.append_nil (List.replicate k 0), nextStream_skip, nextStream_nil]

/-- 253 is the first byte of the magic -/
theorem nextStream_garbage (b : Nat) (r : List Nat) (hb0 : b ≠ 0) (hb : b ≠ 253) (k fuel z : Nat)
    (hf : k + 1 ≤ fuel) : nextStream fuel (List.replicate k 0 ++ b :: r) z = .error .invalidData := by
  obtain ⟨f, rfl⟩ : ∃ f, fuel = f + 1 + k := ⟨fuel - 1 - k, by omega⟩
  rw [nextStream_skip]
  simp only [nextStream, hb0, if_false, Consts.XZ_MAGIC, List.getD_cons_zero, ne_eq, hb, not_false_eq_true,
    if_true]
  rfl

theorem nextStream_misaligned (r : List Nat) (k fuel z : Nat) (hf : k + 1 ≤ fuel) (hz : (z + k) % 4 ≠ 0) :
    nextStream fuel (List.replicate k 0 ++ (Consts.XZ_MAGIC ++ r)) z = .error .invalidData := by
  obtain ⟨f, rfl⟩ : ∃ f, fuel = f + 1 + k := ⟨fuel - 1 - k, by omega⟩
  rw [nextStream_skip]
  simp only [Consts.XZ_MAGIC, List.nil_append, List.cons_append, nextStream]
  simp [bind, Except.bind]
  simp [show ¬ ((z + k) % 4 = 0) from hz]
  rfl

/-- a stream as the writer model produces it -/
structure Strm where
  c : Check
  fs : List Filter
  blocks : List (List Nat × List Nat)

def Strm.bytes (s : Strm) : List Nat := streamBytes s.c s.fs s.blocks
def Strm.data (s : Strm) : List Nat := blocksData s.blocks
def Strm.blks (s : Strm) : List Block := (s.blocks.map (blkOf s.fs)).reverse
def Strm.Ok (s : Strm) : Prop := FiltersOk s.fs ∧ (∀ b ∈ s.blocks, BlockOk s.fs b) ∧ SizesOk s.c s.fs s.blocks

/-- further streams, each preceded by `k` bytes of stream padding -/
def catBytes : List (Nat × Strm) → List Nat
  | [] => []
  | (k, s) :: rest => List.replicate k 0 ++ (s.bytes ++ catBytes rest)

def catData : List (Nat × Strm) → List Nat
  | [] => []
  | (_, s) :: rest => s.data ++ catData rest

/-- the block list the reader reports: that of the last stream -/
def finalBlks : List (Nat × Strm) → List Block → List Block
  | [], blks => blks
  | (_, s) :: rest, _ => finalBlks rest s.blks

def catFuel : List (Nat × Strm) → Nat
  | [] => 0
  | (_, s) :: rest => s.blocks.length + 1 + catFuel rest

theorem strm_bytes_length (s : Strm) : s.bytes.length % 4 = 0 ∧ s.blocks.length + 1 ≤ s.bytes.length := by
  unfold Strm.bytes
  rw [streamBytes_eq, List.length_append, streamHeaderBytes_length]
  have := streamBody_length s.c s.fs s.blocks
  omega

theorem catFuel_le : ∀ (ss : List (Nat × Strm)), catFuel ss ≤ (catBytes ss).length := by
  intro ss
  induction ss with
  | nil => simp [catFuel]
  | cons x ss ih =>
    obtain ⟨k, s⟩ := x
    simp only [catFuel, catBytes, List.length_append, List.length_replicate]
    have := strm_bytes_length s
    omega

/-- the end of a stream in a decoder of concatenated streams with block loop `R`: stream padding, then the next stream
or the end of the file -/
def afterWith (R : Loop) (total fuel : Nat) (rest acc : List Nat) (blks : List Block) (cap : Nat) : Out :=
  match nextStream (rest.length + 1) rest 0 with
  | .error e => .err e
  | .ok none => .ok acc total blks
  | .ok (some (chk', rest')) => R total fuel chk' rest' acc [] cap

theorem afterStream_true : afterStream true = afterWith (readBlocks true) := by
  funext total fuel rest acc blks cap
  rw [afterStream, if_neg (not_not_intro rfl)]
  rfl

theorem afterStream_false (total fuel : Nat) (rest acc : List Nat) (blks : List Block) (cap : Nat) :
    afterStream false total fuel rest acc blks cap = .ok acc (total - rest.length) blks := by
  simp [afterStream]

/-- a decoder accepts the Index of the written stream `s` as far as its size limit goes -/
def Strm.Within (lim : List (Nat × Nat) → Nat → Bool) (s : Strm) : Prop :=
  lim (recsOf s.c s.fs s.blocks) (indexBytes (recsOf s.c s.fs s.blocks)).length = true

section
variable {lim : List (Nat × Nat) → Nat → Bool} {R : Loop} {D : List Nat → Nat → Out}

theorem afterWith_err (total fuel : Nat) (rest acc : List Nat) (blks : List Block) (cap : Nat) (e : Err)
    (h : nextStream (rest.length + 1) rest 0 = .error e) : afterWith R total fuel rest acc blks cap = .err e := by
  simp [afterWith, h]

theorem afterWith_none (total fuel : Nat) (rest acc : List Nat) (blks : List Block) (cap : Nat)
    (h : nextStream (rest.length + 1) rest 0 = .ok none) :
    afterWith R total fuel rest acc blks cap = .ok acc total blks := by
  simp [afterWith, h]

variable (w : Walks lim R (afterWith R) D)
include w

theorem Walks.after_stream (s : Strm) (hs : s.Ok) (hl : s.Within lim) (k : Nat) (hk : k % 4 = 0) (tail acc : List Nat)
    (blks : List Block) (total fuel cap : Nat) (hal : Aligned total (List.replicate k 0 ++ (s.bytes ++ tail)))
    (hfuel : s.blocks.length + 1 ≤ fuel) (hcap : acc.length + s.data.length ≤ cap) :
    afterWith R total fuel (List.replicate k 0 ++ (s.bytes ++ tail)) acc blks cap
      = afterWith R total (fuel - s.blocks.length - 1) tail (acc ++ s.data) s.blks cap := by
  obtain ⟨hfs, hb, hsz⟩ := hs
  unfold Strm.bytes at hal ⊢
  rw [streamBytes_eq, List.append_assoc] at hal ⊢
  have hns := nextStream_header s.c (streamBody s.c s.fs s.blocks ++ tail) k
    ((List.replicate k 0 ++ (streamHeaderBytes s.c ++ (streamBody s.c s.fs s.blocks ++ tail))).length + 1) 0
    (by rw [List.length_append, List.length_replicate]; omega)
  rw [if_neg (by omega)] at hns
  conv => lhs; unfold afterWith
  rw [hns]
  simp only []
  exact (w.stream s.c s.fs hfs s.blocks hb hsz.1 tail acc total fuel cap
    ((hal.tail (by rw [List.length_replicate]; exact hk)).tail (by rw [streamHeaderBytes_length])) hfuel hcap).trans
    (if_pos ⟨hl, hsz.2⟩)

theorem Walks.after_cat (total cap : Nat) : ∀ (ss : List (Nat × Strm)),
    (∀ x ∈ ss, x.1 % 4 = 0 ∧ x.2.Ok ∧ x.2.Within lim) →
    ∀ (t : Nat) (acc : List Nat) (blks : List Block) (fuel : Nat),
    Aligned total (catBytes ss ++ List.replicate t 0) → catFuel ss ≤ fuel → acc.length + (catData ss).length ≤ cap →
    afterWith R total fuel (catBytes ss ++ List.replicate t 0) acc blks cap
      = if t % 4 ≠ 0 then .err .invalidData else .ok (acc ++ catData ss) total (finalBlks ss blks) := by
  intro ss
  induction ss with
  | nil =>
    intro _ t acc blks fuel _ _ _
    simp only [catBytes, List.nil_append, catData, List.append_nil, finalBlks]
    have hz := nextStream_zeros t ((List.replicate t 0).length + 1) 0 (by simp)
    rw [Nat.zero_add] at hz
    by_cases ht : t % 4 ≠ 0
    · rw [if_pos ht] at hz ⊢
      exact afterWith_err _ _ _ _ _ _ _ hz
    · rw [if_neg ht] at hz ⊢
      exact afterWith_none _ _ _ _ _ _ hz
  | cons x ss ih =>
    obtain ⟨k, s⟩ := x
    intro hss t acc blks fuel hal hfuel hcap
    obtain ⟨hk, hs, hl⟩ := hss (k, s) List.mem_cons_self
    simp only [catFuel] at hfuel
    simp only [catData, List.length_append] at hcap
    simp only [catBytes, List.append_assoc] at hal ⊢
    rw [w.after_stream s hs hl k hk _ acc blks total fuel cap hal (by omega) (by omega),
      ih (fun y hy => hss y (List.mem_cons_of_mem _ hy)) t _ _ _
        ((hal.tail (by rw [List.length_replicate]; exact hk)).tail (strm_bytes_length s).1) (by omega)
        (by rw [List.length_append]; omega),
      catData, List.append_assoc, finalBlks]

theorem Walks.decode_cat (s₀ : Strm) (h₀ : s₀.Ok) (l₀ : s₀.Within lim) (ss : List (Nat × Strm))
    (hss : ∀ x ∈ ss, x.1 % 4 = 0 ∧ x.2.Ok ∧ x.2.Within lim) (t : Nat) (cap : Nat)
    (hcap : (s₀.data ++ catData ss).length ≤ cap) :
    D (s₀.bytes ++ (catBytes ss ++ List.replicate t 0)) cap
      = if t % 4 ≠ 0 then .err .invalidData else
        .ok (s₀.data ++ catData ss) (s₀.bytes ++ (catBytes ss ++ List.replicate t 0)).length (finalBlks ss s₀.blks) := by
  rw [List.length_append] at hcap
  have hl := strm_bytes_length s₀
  have hf := catFuel_le ss
  rw [Strm.bytes, (w.decode_stream s₀.c s₀.fs h₀.1 s₀.blocks h₀.2.1 h₀.2.2.1 _ cap
    (by unfold Strm.data at hcap; omega)).trans (if_pos ⟨l₀, h₀.2.2.2⟩)]
  unfold Strm.bytes at hl
  exact w.after_cat _ cap ss hss t s₀.data s₀.blks _ (List.length_append ▸ Aligned.add_left hl.1 _)
    (by simp only [List.length_append, List.length_replicate]; omega) (by omega)

end

theorem afterStream_nil (multi : Bool) (total fuel : Nat) (acc : List Nat) (blks : List Block) (cap : Nat) :
    afterStream multi total fuel [] acc blks cap = .ok acc total blks := by
  cases multi
  · exact afterStream_false ..
  · rw [afterStream_true]
    exact afterWith_none _ _ _ _ _ _ (nextStream_nil 0 0)

theorem readBlocks_walks_true :
    Walks (fun _ _ => true) (readBlocks true) (afterWith (readBlocks true)) (Xz.decode true) :=
  afterStream_true ▸ readBlocks_walks true

end LzmaVerif.Xz
