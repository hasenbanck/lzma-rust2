/-
  Normal encoder: what a candidate stored in `opts[]` denotes.  `groupOf` is the 1, 2 or 3 symbols of a `set1` / `set2` /
  `set3` candidate and the index it starts from, exactly as `convert_opts` + the pending path of `get_next_symbol` will
  hand them out.
-/
import LzmaVerif.Proofs.EncNormalChain
import LzmaVerif.Proofs.EncNormalStep

namespace LzmaVerif.EncNormal
open LzmaVerif Mf Lzma Rc EncFast EncPrices
open LzmaVerif.Mf.Hc4 (Eqs)

def groupOf (P : NormalParams) (d : Array UInt8) (p : Nat) (o : Opt) (i : Nat) : Nat × List (Sym × Nat) :=
  if o.prev1IsLiteral then
    if o.hasPrev2 then
      (o.optPrev2,
        [(symOf P d (p + o.optPrev2) o.backPrev2 (o.optPrev - 1 - o.optPrev2), o.optPrev - 1 - o.optPrev2),
         (.lit (byteAt d (p + (o.optPrev - 1))), 1),
         (symOf P d (p + o.optPrev) o.backPrev (i - o.optPrev), i - o.optPrev)])
    else
      (o.optPrev - 1,
        [(.lit (byteAt d (p + (o.optPrev - 1))), 1),
         (symOf P d (p + o.optPrev) o.backPrev (i - o.optPrev), i - o.optPrev)])
  else (o.optPrev, [(symOf P d (p + o.optPrev) o.backPrev (i - o.optPrev), i - o.optPrev)])

theorem groupOf_set1 (P : NormalParams) (d : Array UInt8) (p : Nat) (o : Opt) (price cur : Nat) (back : Int) (i : Nat) :
    groupOf P d p (o.set1 price cur back) i = (cur, [(symOf P d (p + cur) back (i - cur), i - cur)]) := by
  simp only [groupOf, Opt.set1, Bool.false_eq_true, if_false]

theorem groupOf_set2 (P : NormalParams) (d : Array UInt8) (p : Nat) (o : Opt) (price cur : Nat) (back : Int) (i : Nat) :
    groupOf P d p (o.set2 price cur back) i =
      (cur, [(.lit (byteAt d (p + cur)), 1), (symOf P d (p + (cur + 1)) back (i - (cur + 1)), i - (cur + 1))]) := by
  simp only [groupOf, Opt.set2, if_true, Bool.false_eq_true, if_false, Nat.add_sub_cancel]

theorem groupOf_set3 (P : NormalParams) (d : Array UInt8) (p : Nat) (o : Opt) (price cur : Nat) (back2 : Int)
    (len2 : Nat) (back : Int) (i : Nat) :
    groupOf P d p (o.set3 price cur back2 len2 back) i =
      (cur, [(symOf P d (p + cur) back2 len2, len2), (.lit (byteAt d (p + (cur + len2))), 1),
             (symOf P d (p + (cur + len2 + 1)) back (i - (cur + len2 + 1)), i - (cur + len2 + 1))]) := by
  simp only [groupOf, Opt.set3, if_true, Nat.add_sub_cancel]
  have : cur + len2 - cur = len2 := by omega
  rw [this]

theorem groupOf_reset (P : NormalParams) (d : Array UInt8) (p : Nat) (o : Opt) (i : Nat) :
    groupOf P d p (o.reset P) i = groupOf P d p o i := rfl

/-! From here on `q = p + cur` is the logical position of `opts[cur]` and `c` its coder state (`opts[cur].state / reps`). -/

theorem eqs_mono {d : Array UInt8} {q delta n m : Nat} (h : Eqs d q delta n) (hm : m ≤ n) : Eqs d q delta m :=
  fun i hi => h i (by omega)

theorem eqs_shift {d : Array UInt8} {q delta n : Nat} (k : Nat) (h : Eqs d (q + k) delta n) :
    ∀ i, i < n → byteAt d (q + (k + i)) = byteAt d (q + (k + i) - delta) := by
  intro i hi
  have := h i hi
  rw [Nat.add_assoc] at this
  exact this

/-- `(back, len)` as `set1` stores them stand for ONE valid symbol: a literal (`back = -1`), a short rep (`back = 0`,
    `len = 1`), a long rep (`back < REPS`) or a match (distance `back - REPS`) -/
def OneOk (P : NormalParams) (d : Array UInt8) (dict q : Nat) (c : Coder) (back : Int) (len : Nat) : Prop :=
  ((len = 1 ∧ (back = -1 ∨ back = 0)) ∨ (2 ≤ len ∧ 0 ≤ back)) ∧ ChainOk d dict [(symOf P d q back len, len)] q c

theorem oneOk_lit (P : NormalParams) (d : Array UInt8) (dict q : Nat) (c : Coder) (hq : q < d.size) :
    OneOk P d dict q c (-1) 1 := by
  refine ⟨Or.inl ⟨rfl, Or.inl rfl⟩, ?_⟩
  rw [symOf_lit]
  exact ⟨Nat.le_refl 1, by omega, Or.inl ⟨rfl, rfl⟩, trivial⟩

theorem oneOk_short (P : NormalParams) (hreps : P.reps = 4) (d : Array UInt8) (dict q : Nat) (c : Coder)
    (hq : q < d.size) (hb : byteAt d q = byteAt d (q - (c.rep0 + 1))) : OneOk P d dict q c 0 1 := by
  refine ⟨Or.inl ⟨rfl, Or.inr rfl⟩, ?_⟩
  rw [symOf_short P hreps]
  exact ⟨Nat.le_refl 1, by omega, Or.inr (Or.inl ⟨rfl, rfl, hb⟩), trivial⟩

/-- `len ≤ L`: every length up to the measured one (`get_match_len` / `get_match_len_fast_reject`) is offered -/
theorem oneOk_rep (P : NormalParams) (hreps : P.reps = 4) (d : Array UInt8) (dict q : Nat) (c : Coder)
    (rep len L : Nat) (hr : rep ≤ 3) (h2 : 2 ≤ len) (hl : len ≤ L) (hL : L ≤ min (d.size - q) 273)
    (he : Eqs d q (c.rep rep + 1) L) : OneOk P d dict q c (rep : Int) len := by
  refine ⟨Or.inr ⟨h2, by omega⟩, ?_⟩
  rw [symOf_rep P hreps d q rep len (by omega) h2]
  exact ⟨by omega, by omega, Or.inr (Or.inr (Or.inl ⟨rep, rfl, hr, h2, by omega, eqs_mono he hl⟩)), trivial⟩

theorem validMatch_shorter {d : Array UInt8} {dict q limit len dist : Nat} (h : ValidMatch d dict q limit (len, dist))
    (len' : Nat) (h2 : 2 ≤ len') (hl : len' ≤ len) : ValidMatch d dict q limit (len', dist) := by
  obtain ⟨_, a2, a3, a4, a5, a6⟩ := h
  simp only at a2 a3 a4 a5 a6
  exact ⟨h2, by show len' ≤ limit; omega, by show q + len' ≤ d.size; omega, a4, a5, fun i hi => a6 i (by show i < len; omega)⟩

/-- `len ≤ len'`: every length up to that of a match of the finder's (possibly shortened) list is offered -/
theorem oneOk_mtch (P : NormalParams) (hreps : P.reps = 4) (d : Array UInt8) (dict q : Nat) (c : Coder)
    (dist len len' : Nat) (hv : ValidMatch d dict q (min 273 (d.size - q)) (len', dist)) (h2 : 2 ≤ len)
    (hl : len ≤ len') : OneOk P d dict q c ((dist : Int) + (P.reps : Int)) len := by
  refine ⟨Or.inr ⟨h2, by omega⟩, ?_⟩
  rw [symOf_mtch P hreps]
  have hv' := validMatch_shorter hv len h2 hl
  exact ⟨by omega, hv'.2.2.1, Or.inr (Or.inr (Or.inr ⟨dist, rfl, hv'⟩)), trivial⟩

theorem getMatchLen2_spec (d : Array UInt8) (q forward dist limit : Nat) :
    getMatchLen2 d q forward dist limit ≤ limit ∧
      Eqs d (q + forward) (dist + 1) (getMatchLen2 d q forward dist limit) := by
  unfold getMatchLen2
  split
  · next h => subst h; exact ⟨Nat.le_refl 0, fun i hi => absurd hi (Nat.not_lt_zero i)⟩
  · exact getMatchLen_spec d (q + forward) dist limit

theorem cand_lit_rep0 (d : Array UInt8) (dict r : Nat) (c : Coder) (len2 L : Nat)
    (h2 : 2 ≤ len2) (hl : len2 ≤ L) (hL : L ≤ min (d.size - (r + 1)) 273) (hr : r < d.size)
    (he : Eqs d (r + 1) (c.rep0 + 1) L) :
    ChainOk d dict [(.lit (byteAt d r), 1), (.rep 0 len2, len2)] r c :=
  ⟨Nat.le_refl 1, by omega, Or.inl ⟨rfl, rfl⟩, by omega, by omega,
    Or.inr (Or.inr (Or.inl ⟨0, rfl, by omega, h2, by omega, eqs_mono he hl⟩)), trivial⟩

theorem rep0_after_rep (c : Coder) (rep len : Nat) : (c.apply (.rep rep len)).rep0 = c.rep rep := by
  rcases rep with _ | _ | _ | rep <;> rfl

theorem rep0_after_mtch (c : Coder) (dist len : Nat) : (c.apply (.mtch dist len)).rep0 = dist := rfl

end LzmaVerif.EncNormal
