/-
  Normal encoder: the main loop of `get_next_symbol` keeps the invariant; what it hands to `convert_opts`.
-/
import LzmaVerif.Proofs.EncNormalSites2

namespace LzmaVerif.EncNormal
open LzmaVerif Mf Lzma Rc EncFast EncPrices
open LzmaVerif.Mf.Hc4 (Eqs)

theorem longRepOne_startLen (E : Env) (hmin : E.P.matchLenMin = 2) (cur q avail anyRep : Nat) (a : OA)
    (startLen rep : Nat) (hs : 2 ≤ startLen) : 2 ≤ (longRepOne E cur q avail anyRep a startLen rep).2 := by
  unfold longRepOne
  simp only [hmin]
  split
  · exact hs
  · simp only
    split <;> omega

theorem calcLongRepPrices_startLen (E : Env) (hmin : E.P.matchLenMin = 2) (a : OA) (cur q avail anyRep : Nat) :
    2 ≤ (calcLongRepPrices E a cur q avail anyRep).2 := by
  unfold calcLongRepPrices
  exact List.foldlRecOn (motive := fun r : OA × Nat => 2 ≤ r.2) _ _ (Nat.le_of_eq hmin.symm)
    fun r hr rep _ => longRepOne_startLen E hmin cur q avail anyRep r.1 r.2 rep hr

section
variable {dict p : Nat} {c0 : Coder} {avail0 : Nat} {cc : Coder} {lo : Nat} {a : OA}

theorem firstRepPrices_thr (E : Env) (hmin : E.P.matchLenMin = 2) (hreps : E.P.reps = 4)
    (h : Thr E.P E.d dict p c0 avail0 0 1 cc lo a) (c : Coder) (posState anyRep : Nat) (lens : List Nat)
    (hlens : LensOk E.d (p + 0) (min (E.d.size - (p + 0)) 273) cc lens) :
    Thr E.P E.d dict p c0 avail0 0 1 cc lo (firstRepPrices E c posState anyRep lens a) := by
  unfold firstRepPrices
  rw [hlens.1, hmin]
  refine List.foldlRecOn (motive := Thr E.P E.d dict p c0 avail0 0 1 cc lo) _ _ h fun a h rep hrep => ?_
  have hr := List.mem_range.mp hrep
  extract_lets repLen lrp
  split
  · exact h
  · rcases hlens.2 rep hr with h0 | ⟨hr3, h2, hlim, heq⟩
    · omega
    · exact offerRepLens_thr E hmin hreps posState lrp rep repLen hr3 hlim heq _ a h (by omega)

end

structure LoopOut {σ : Type} {F : Finder σ} {d : Array UInt8} {dict : Nat} (FS : FinderSound F d dict 273)
    (P : NormalParams) (p : Nat) (c0 : Coder) (avail0 : Nat) (r : Nat × LoopSt σ × Bool) : Prop where
  pos : 1 ≤ r.1
  le : r.1 ≤ avail0
  inv : ∃ b, Inv P d dict p c0 avail0 (r.1 - 1) b r.2.1.a
  cand : CandOk P d dict p r.2.1.a.opts (r.1 - 1) r.1
  mfR : FS.R r.2.1.mf
  mfPos : FS.pos r.2.1.mf = p + r.1 + (if r.2.2 then 1 else 0)
  ms : r.2.2 = true → AllValid d dict (p + r.1) r.2.1.ms ∧ lensIncreasing r.2.1.ms = true

theorem mainLoop_ok {σ : Type} {F : Finder σ} (E : Env) {dict : Nat} (FS : FinderSound F E.d dict 273)
    (hFinc : ∀ s, FS.R s → lensIncreasing (F.find E.d s).1 = true)
    (hP : E.P.ok) (hn2 : 2 ≤ E.nice) (hn273 : E.nice ≤ 273)
    (p : Nat) (c0 : Coder) (avail0 : Nat) (hav0 : p + avail0 ≤ E.d.size) (hav1 : avail0 < E.P.opts) :
    ∀ (fuel cur : Nat) (st : LoopSt σ), Inv E.P E.d dict p c0 avail0 cur (cur + 1) st.a → cur < st.a.optEnd →
      FS.R st.mf → FS.pos st.mf = p + cur + 1 → avail0 + 1 ≤ cur + fuel →
      LoopOut FS E.P p c0 avail0 (mainLoop F E p avail0 fuel cur st)
  | 0, cur, st, hinv, hlt, _, _, hfuel => by
    have := hinv.endLe
    omega
  | fuel + 1, cur, st, hinv, hlt, hR, hpos, hfuel => by
    have hmin : E.P.matchLenMin = 2 := hP.1
    have hend := hinv.endLe
    -- `opts[cur + 1]` is finite, hence a valid candidate
    have hprice : (oat st.a.opts (cur + 1)).price < E.P.infinity := by
      have := hinv.bnd (cur + 1) (by omega) (Nat.le_refl _) (by omega)
      have h2 : 1152 * (cur + 1) ≤ 1152 * E.P.opts := Nat.mul_le_mul_left _ (by omega)
      exact Nat.lt_of_le_of_lt (Nat.le_trans this h2) hP.2.2.2.2
    have hcand : CandOk E.P E.d dict p st.a.opts cur (cur + 1) := by
      rcases hinv.pend (cur + 1) (by omega) (by omega) with h | h
      · omega
      · exact h
    unfold mainLoop
    extract_lets cur1 fm st1 avail q posState src aU oc anyMatch anyRep a1 r a2
    split
    · next hlt' =>
      obtain ⟨hR2, hpos2, hval⟩ := FS.find_at hR hpos
      have hinc2 : lensIncreasing fm.1 = true := hFinc _ hR
      split
      · exact ⟨Nat.le_add_left 1 cur, Nat.le_trans (Nat.le_of_lt hlt') hend, ⟨cur + 1, hinv⟩, hcand, hR2, hpos2,
          fun _ => ⟨hval, hinc2⟩⟩
      · have hposok : PosOk E.P E.d p avail0 (cur + 1) E.nice := ⟨hP, hn2, hn273, hav0, hav1, by omega⟩
        have hthr1 : Thr E.P E.d dict p c0 avail0 (cur + 1) (cur + 1 + 1) oc.c st.a.optEnd a1 :=
          calc1BytePrices_inv E hposok
            ⟨(hinv.update hP.2.2.1 hav1 (by omega) hprice).1, rfl, Nat.le_refl _, Nat.le_of_lt hlt', Nat.le_of_lt hlt'⟩
            hlt' (by omega) anyRep
        have hthr2 : Thr E.P E.d dict p c0 avail0 (cur + 1) (cur + 1 + 1) oc.c st.a.optEnd a2 := by
          simp only [a2, hmin]
          split
          · have hl := calcLongRepPrices_thr E hposok (by omega) hthr1 anyRep
            split
            · exact hl
            · exact calcNormalMatchPrices_thr E hposok (by omega) hl _ hval hinc2 _ _
                (calcLongRepPrices_startLen E hmin _ _ _ _ _)
          · exact hthr1
        exact mainLoop_ok E FS hFinc hP hn2 hn273 p c0 avail0 hav0 hav1 fuel
          (cur + 1) _ hthr2.1 (Nat.lt_of_lt_of_le hlt' hthr2.2.2.1) hR2 hpos2 (by omega)
    · next hge =>
      have : cur + 1 = st.a.optEnd := by omega
      exact ⟨Nat.le_add_left 1 cur, by omega, ⟨cur + 1, hinv⟩, hcand, hR, hpos, fun hf => by cases hf⟩

end LzmaVerif.EncNormal
