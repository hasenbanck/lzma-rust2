/-
  (H2) the invariant of reachable HC4 states and its preservation by `find` / `skip`.
-/
import LzmaVerif.Model.Hc4
import LzmaVerif.Proofs.MfBase

namespace LzmaVerif.Mf.Hc4

theorem Hc4Params.ok.chainStopGe {P : Hc4Params} (h : P.ok) : P.chainStopGe = true := h.2.2.1
theorem Hc4Params.ok.cyclicExtra {P : Hc4Params} (h : P.ok) : P.cyclicExtra = 1 := h.2.2.2.1
theorem Hc4Params.ok.chainExtra {P : Hc4Params} (h : P.ok) : 1 ≤ P.chainExtra := h.2.2.2.2.2.1
theorem Hc4Params.ok.distSub {P : Hc4Params} (h : P.ok) : P.distSub = 1 := h.2.2.2.2.2.2.1
theorem Hc4Params.ok.lenBestFloor {P : Hc4Params} (h : P.ok) : 1 ≤ P.lenBestFloor := h.2.2.2.2.2.2.2.1
theorem Hc4Params.ok.minAvail {P : Hc4Params} (h : P.ok) : 4 ≤ P.minAvail := h.2.2.2.2.2.2.2.2.2.1
theorem Hc4Params.ok.hash {P : Hc4Params} (h : P.ok) : hashOk P.hash := h.2.2.2.2.2.2.2.2.2.2

/-- every entry of `t` is 0 ("nothing") or the `lz_pos` value `cs + 1 + q` of an inserted position `q`
    (`q < lz - cs`), and `R q slot` holds for the slot it is stored in -/
def TblOk (cs lz : Nat) (R : Nat → Nat → Prop) (t : Array Nat) : Prop :=
  ∀ i, t.getD i 0 = 0 ∨ (cs + 1 ≤ t.getD i 0 ∧ t.getD i 0 ≤ lz ∧ R (t.getD i 0 - cs - 1) i)

theorem TblOk.mono {cs lz lz' : Nat} {R : Nat → Nat → Prop} {t : Array Nat}
    (h : TblOk cs lz R t) (hle : lz ≤ lz') : TblOk cs lz' R t := by
  intro i
  rcases h i with h0 | ⟨h1, h2, h3⟩
  · exact Or.inl h0
  · exact Or.inr ⟨h1, by omega, h3⟩

theorem TblOk.set {cs lz : Nat} {R : Nat → Nat → Prop} {t : Array Nat} (h : TblOk cs lz R t)
    (j v : Nat) (hv : v = 0 ∨ (cs + 1 ≤ v ∧ v ≤ lz ∧ R (v - cs - 1) j)) :
    TblOk cs lz R (t.setIfInBounds j v) := by
  intro i
  rw [getD_set]
  by_cases hc : j = i ∧ j < t.size
  · rw [if_pos hc]
    obtain ⟨hji, _⟩ := hc
    subst hji
    exact hv
  · rw [if_neg hc]; exact h i

theorem TblOk.insert {cs lz p : Nat} {R : Nat → Nat → Prop} {t : Array Nat} (h : TblOk cs lz R t)
    (hlz : lz = cs + p) {j : Nat} (hR : R p j) : TblOk cs (lz + 1) R (t.setIfInBounds j (lz + 1)) := by
  refine (h.mono (Nat.le_succ lz)).set j _ (Or.inr ⟨by omega, Nat.le_refl _, ?_⟩)
  rw [show lz + 1 - cs - 1 = p by omega]
  exact hR

/-- `chain[j] = cur` with `cur` read from a hash table -/
theorem TblOk.setFrom {cs lz : Nat} {R : Nat → Nat → Prop} {t chain : Array Nat} (ht : TblOk cs lz R t)
    (hc : TblOk cs lz (fun _ _ => True) chain) (j k : Nat) :
    TblOk cs lz (fun _ _ => True) (chain.setIfInBounds j (t.getD k 0)) := by
  refine hc.set j _ ?_
  rcases ht k with h0 | ⟨h1, h2, _⟩
  · exact Or.inl h0
  · exact Or.inr ⟨h1, h2, trivial⟩

theorem TblOk.replicate (cs lz n : Nat) (R : Nat → Nat → Prop) :
    TblOk cs lz R (Array.replicate n 0) := by
  intro i; left; exact getD_replicate n i

/-- number of positions inserted into the tables after `n` calls of `move_pos`: the positions with at
    least `minAvail` bytes left -/
def insCount (P : Hc4Params) (d : Array UInt8) (n : Nat) : Nat := min n (d.size + 1 - P.minAvail)

/-- invariant of reachable states (`s.pos` calls of `move_pos` so far) -/
structure Inv (P : Hc4Params) (c : Cfg) (d : Array UInt8) (s : State) : Prop where
  sz2 : s.h2.size = P.hash.hash2Size
  sz3 : s.h3.size = P.hash.hash3Size
  sz4 : s.h4.size = hash4Size P.hash c.dict
  szc : s.chain.size = c.dict + P.chainExtra
  cpLo : -1 ≤ s.cyclicPos
  cpHi : s.cyclicPos < (cyclicSize P c : Int)
  /-- once a position has been inserted `cyclic_pos` is a valid index -/
  cpIns : cyclicSize P c < s.lzPos → 0 ≤ s.cyclicPos
  /-- `lz_pos = cyclic_size + number of inserted positions` (so `lz_pos = p + cyclic_size + 1` while
      position `p` is being searched) -/
  lz : s.lzPos = cyclicSize P c + insCount P d s.pos
  t2 : TblOk (cyclicSize P c) s.lzPos (fun q i => (hashesAt P c d q).h2 = i) s.h2
  t3 : TblOk (cyclicSize P c) s.lzPos (fun q i => (hashesAt P c d q).h3 = i) s.h3
  t4 : TblOk (cyclicSize P c) s.lzPos (fun q i => (hashesAt P c d q).h4 = i) s.h4
  ch : TblOk (cyclicSize P c) s.lzPos (fun _ _ => True) s.chain

theorem init_inv (P : Hc4Params) (hP : P.ok) (c : Cfg) (d : Array UInt8) : Inv P c d (init P c) := by
  obtain ⟨_, _, _, hce, hle, _, _, _, _, _, _⟩ := hP
  constructor
  · exact Array.size_replicate
  · exact Array.size_replicate
  · exact Array.size_replicate
  · exact Array.size_replicate
  · show (-1 : Int) ≤ -1; omega
  · show (-1 : Int) < _; omega
  · intro h; simp only [init, cyclicSize] at h; omega
  · simp only [init, cyclicSize, insCount]; omega
  · exact TblOk.replicate _ _ _ _
  · exact TblOk.replicate _ _ _ _
  · exact TblOk.replicate _ _ _ _
  · exact TblOk.replicate _ _ _ _

theorem cyclicSize_eq {P : Hc4Params} (hP : P.ok) (c : Cfg) : cyclicSize P c = c.dict + 1 := by
  unfold cyclicSize; rw [hP.cyclicExtra]

theorem Inv.lzPos_eq {P : Hc4Params} (hP : P.ok) {c : Cfg} {d : Array UInt8} {s : State} (h : Inv P c d s)
    (hge : P.minAvail ≤ d.size - s.pos) : s.lzPos = c.dict + 1 + s.pos := by
  have hm4 : 4 ≤ P.minAvail := hP.minAvail
  rw [h.lz, cyclicSize_eq hP, insCount, Nat.min_eq_left (by omega)]

theorem encMovePos_cases (P : Hc4Params) (d : Array UInt8) (p : Nat) (h4 : 4 ≤ P.minAvail) :
    (encMovePos P d p = 0 ∧ d.size - p < P.minAvail) ∨
    (encMovePos P d p = d.size - p ∧ P.minAvail ≤ d.size - p ∧ encMovePos P d p ≠ 0) := by
  by_cases h : d.size - p < P.minAvail
  · left; exact ⟨if_pos h, h⟩
  · right
    have e : encMovePos P d p = d.size - p := if_neg h
    rw [e]; omega

theorem updateTables_setChain (s : State) (hs : Hashes) (v : Nat) :
    updateTables (setChain s v) hs = setChain (updateTables s hs) v := by
  cases s; rfl

theorem find_snd (P : Hc4Params) (c : Cfg) (d : Array UInt8) (s : State) (hm : 1 ≤ c.mlmax) :
    (find P c d s).2 = skip1 P c d s := by
  unfold find skip1
  by_cases h0 : encMovePos P d s.pos = 0
  · rw [if_pos ⟨by omega, h0⟩, if_neg (fun h => h h0)]
  · rw [if_neg (fun h => h0 h.2), if_pos h0, updateTables_setChain]

theorem cp_next (cp : Int) (cs : Nat) (h1 : -1 ≤ cp) (h2 : cp < (cs : Int)) (h3 : 1 ≤ cs) :
    0 ≤ (if cp + 1 = (cs : Int) then 0 else cp + 1) ∧
    (if cp + 1 = (cs : Int) then 0 else cp + 1) < (cs : Int) := by
  split <;> omega

/-- one `skip` iteration: the position is left pending (fewer than `minAvail` bytes) or inserted -/
theorem skip1_inv (P : Hc4Params) (hP : P.ok) (c : Cfg) (d : Array UInt8) (s : State)
    (h : Inv P c d s) : Inv P c d (skip1 P c d s) := by
  have hm4 : 4 ≤ P.minAvail := hP.minAvail
  unfold skip1 movePos
  rcases encMovePos_cases P d s.pos hm4 with ⟨h0, hlt⟩ | ⟨he, hge, hne⟩
  · rw [if_neg (fun h => h h0), if_neg (fun h => h h0)]
    refine ⟨h.sz2, h.sz3, h.sz4, h.szc, h.cpLo, h.cpHi, h.cpIns, ?_, h.t2, h.t3, h.t4, h.ch⟩
    show s.lzPos = _ + insCount P d (s.pos + 1)
    rw [h.lz, insCount, insCount, Nat.min_eq_right (by omega), Nat.min_eq_right (by omega)]
  · cases s with
    | mk a2 a3 a4 ach acp alz apos =>
    have hge' : P.minAvail ≤ d.size - apos := hge
    have hcs := cyclicSize_eq hP c
    have hlz : alz = cyclicSize P c + apos := by rw [hcs]; exact h.lzPos_eq hP hge
    have hcp := cp_next acp (cyclicSize P c) h.cpLo h.cpHi (by omega)
    rw [if_pos hne, if_pos hne]
    exact ⟨Array.size_setIfInBounds.trans h.sz2, Array.size_setIfInBounds.trans h.sz3,
      Array.size_setIfInBounds.trans h.sz4, Array.size_setIfInBounds.trans h.szc,
      Int.le_trans (by decide) hcp.1, hcp.2, fun _ => hcp.1,
      by show alz + 1 = _ + insCount P d (apos + 1); rw [hlz, insCount, Nat.min_eq_left (by omega)]; rfl,
      h.t2.insert hlz rfl, h.t3.insert hlz rfl, h.t4.insert hlz rfl,
      (h.t4.setFrom h.ch _ _).mono (Nat.le_succ _)⟩

theorem skip_inv (P : Hc4Params) (hP : P.ok) (c : Cfg) (d : Array UInt8) (n : Nat) :
    ∀ s, Inv P c d s → Inv P c d (skip P c d n s) := by
  induction n with
  | zero => intro s h; exact h
  | succ n ih => intro s h; exact ih _ (skip1_inv P hP c d s h)

theorem find_inv (P : Hc4Params) (hP : P.ok) (c : Cfg) (d : Array UInt8) (s : State)
    (h : Inv P c d s) (hm : 1 ≤ c.mlmax) : Inv P c d (find P c d s).2 := by
  rw [find_snd P c d s hm]; exact skip1_inv P hP c d s h

/-- `lz_pos` stays below the normalisation threshold `0x7FFFFFFF` -/
theorem Inv.lzPos_lt (P : Hc4Params) (hP : P.ok) (c : Cfg) (d : Array UInt8) (s : State)
    (h : Inv P c d s) (hsz : d.size + c.dict + 2 < 2 ^ 31) : s.lzPos < 0x7FFFFFFF := by
  obtain ⟨_, _, _, hce, _, _, _, _, _, hm4, _⟩ := hP
  have := h.lz
  unfold cyclicSize insCount at this
  omega

end LzmaVerif.Mf.Hc4


