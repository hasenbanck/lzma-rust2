import LzmaVerif.Proofs.Lzma2Reader
/-!
P2 of C06 (head of `Proofs/Total.lean`) for the LZMA2 chunk loop, by induction over what one iteration does
(`Lzma2.chunkLoop_cases`).
-/
namespace LzmaVerif.Total

section ChunkPart
open LzmaVerif Lzma Prog Rc Lzma2

/-- **P2 (LZMA2 chunk loop, fuel).**  Every chunk consumes at least its control byte. -/
theorem chunkLoop_fuel_indep : ∀ (fuel fuel' : Nat) (s : RState) (inp : List Nat) (cap : Nat),
    inp.length < fuel → inp.length < fuel' → chunkLoop fuel s inp cap = chunkLoop fuel' s inp cap
  | 0, _, _, _, _, h, _ => by omega
  | _, 0, _, _, _, _, h => by omega
  | f + 1, f' + 1, s, inp, cap, h, h' => by
    rcases chunkLoop_cases f f' s inp cap with ⟨tail, rfl⟩ | ⟨s', inp', hc⟩ | ⟨e, _⟩
    -- the end marker: not by `rfl`, on which the elaborator unfolds both loops
    · exact (chunkLoop_end f s tail cap).trans (chunkLoop_end f' s tail cap).symm
    · have := hc.progress.2.1
      rw [hc.loop, hc.loop]
      exact chunkLoop_fuel_indep f f' s' inp' cap (by omega) (by omega)
    · exact e

/-- **P2 (LZMA2 chunk loop, cap).**  `.capped` is returned only because some chunk's check `out.size + unc > cap` fired,
never for the fuel of this loop or of the symbol loop; and within `2^21` bytes of output per input byte. -/
theorem chunkLoop_capped : ∀ (fuel : Nat) (s : RState) (inp : List Nat) (cap : Nat),
    (∀ x ∈ inp, x < 256) → inp.length < fuel → chunkLoop fuel s inp cap = .capped →
    ∃ outSize unc, s.out.size ≤ outSize ∧ outSize + unc ≤ s.out.size + 2 ^ 21 * inp.length ∧ cap < outSize + unc
  | 0, _, _, _, _, h, _ => by omega
  | f + 1, s, inp, cap, hb, hf, hc => by
    rcases chunkLoop_cases f f s inp cap with ⟨tail, rfl⟩ | ⟨s', inp', hk⟩ | ⟨_, _, h⟩
    · cases (chunkLoop_end f s tail cap).symm.trans hc
    · obtain ⟨hsuf, hl, ho, _, ho'⟩ := hk.progress
      obtain ⟨o, u, h1, h2, h3⟩ :=
        chunkLoop_capped f s' inp' cap (fun x hx => hb x (hsuf.subset hx)) (by omega) (hk.loop f ▸ hc)
      have := ho' hb
      exact ⟨o, u, by omega, by omega, h3⟩
    · obtain ⟨unc, h1, h2⟩ := h hc
      have := h1 hb
      exact ⟨s.out.size, unc, Nat.le_refl _, by omega, h2⟩

end ChunkPart

end LzmaVerif.Total
