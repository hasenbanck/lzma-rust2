import LzmaVerif.Proofs.LzDecoderBase
/-!
The representation invariant of the cyclic dictionary buffer (`Rep`, `Inv`), what a block of bytes written at `pos`
does to it (`Rep.blit_step` and its instances for bytes from outside and for copies from the current or the
previous lap), and the overlapping loop of `repeat` (`copyLoop_spec`).

Ghost data: the full history `H` since the last dictionary reset (incl. the used part of the preset) and
`base`, the history index of buffer slot 0 in the current lap (`H.size = base + pos`).
-/
namespace LzmaVerif.LzDecoder
open LzmaVerif LzmaVerif.Lzma

/-- buffer `buf` of size `n` with write position `pos` represents the history `H`:
    slots below `pos` hold the current lap, slots from `pos` on still hold the previous lap -/
structure Rep (buf : Array Nat) (n pos base : Nat) (H : Hist) : Prop where
  size : buf.size = n
  pos_le : pos ≤ n
  total : H.size = base + pos
  cur : ∀ i, i < pos → buf.getD i 0 = H.getD (base + i) 0
  old : n ≤ base → ∀ i, pos ≤ i → i < n → buf.getD i 0 = H.getD (base + i - n) 0
  base0 : base = 0 ∨ n ≤ base

structure Inv (s : State) (H : Hist) (base : Nat) : Prop where
  rep : Rep s.buf s.bufSize s.pos base H
  start_le : s.start ≤ s.pos
  limit_le : s.limit ≤ s.bufSize
  full_eq : (base = 0 ∧ s.full = s.pos) ∨ (s.bufSize ≤ base ∧ s.full = s.bufSize)
  zero : s.full = 0 → s.buf.getD (s.bufSize - 1) 0 = 0

theorem Inv.pos_le_full {s H base} (h : Inv s H base) : s.pos ≤ s.full := by
  rcases h.full_eq with ⟨_, h2⟩ | ⟨_, h2⟩
  · exact Nat.le_of_eq h2.symm
  · exact h2 ▸ h.rep.pos_le

theorem Inv.full_le {s H base} (h : Inv s H base) : s.full ≤ s.bufSize := by
  rcases h.full_eq with ⟨_, h2⟩ | ⟨_, h2⟩
  · exact h2 ▸ h.rep.pos_le
  · exact Nat.le_of_eq h2

/-- `full` is the number of history bytes the window holds -/
theorem Inv.full_eq_min {s H base} (h : Inv s H base) : s.full = min H.size s.bufSize := by
  have := h.rep.pos_le
  have := h.rep.total
  rcases h.full_eq with ⟨h1, h2⟩ | ⟨h1, h2⟩ <;> omega

theorem Inv.pos_eq_or {s H base} (h : Inv s H base) : s.pos = s.full ∨ s.full = s.bufSize := by
  rcases h.full_eq with ⟨_, h2⟩ | ⟨_, h2⟩
  · left; omega
  · right; exact h2

theorem Inv.wrapped {s H base} (h : Inv s H base) (hf : s.pos < s.full) : s.bufSize ≤ base ∧ s.full = s.bufSize := by
  rcases h.full_eq with ⟨_, h2⟩ | h
  · omega
  · exact h

/-- the pending match is not part of the invariant -/
theorem Inv.pending {s H base} (h : Inv s H base) (pl pd : Nat) :
    Inv { s with pendingLen := pl, pendingDist := pd } H base :=
  ⟨h.rep, h.start_le, h.limit_le, h.full_eq, h.zero⟩

section
variable {buf : Array Nat} {n pos base : Nat} {H : Hist}

theorem Rep.back_cur (hr : Rep buf n pos base H) {i d : Nat}
    (h : i + d + 1 = pos) : buf.getD i 0 = H.back d := by
  have htot := hr.total
  rw [back_def _ _ (by omega), hr.cur i (by omega)]
  congr 1; omega

theorem Rep.back_old (hr : Rep buf n pos base H) (hb : n ≤ base)
    {i d : Nat} (h : i + d + 1 = n + pos) (hi : pos ≤ i) (hin : i < n) : buf.getD i 0 = H.back d := by
  have htot := hr.total
  rw [back_def _ _ (by omega), hr.old hb i hi hin]
  congr 1; omega

theorem Rep.extract_cur (hr : Rep buf n pos base H) {i j : Nat}
    (hj : j ≤ pos) : buf.extract i j = H.extract (base + i) (base + j) := by
  have hsz := hr.size
  have hpos := hr.pos_le
  have htot := hr.total
  refine extract_eq_of_getD _ _ _ _ _ _ (by omega) (by omega) (by omega) fun k hk => ?_
  rw [hr.cur _ (by omega), Nat.add_assoc]

theorem Rep.extract_old (hr : Rep buf n pos base H) (hb : n ≤ base)
    {a : Nat} (ha : a + n = base + pos) : buf.extract pos n = H.extract a base := by
  have hsz := hr.size
  have htot := hr.total
  refine extract_eq_of_getD _ _ _ _ _ _ (by omega) (by omega) (by omega) fun k hk => ?_
  rw [hr.old hb _ (by omega) hk]
  congr 1; omega

/-- before the first byte any buffer will do -/
theorem Rep.empty (h : buf.size = n) : Rep buf n 0 0 #[] :=
  ⟨h, Nat.zero_le n, rfl, fun _ h => absurd h (Nat.not_lt_zero _),
    fun h _ _ hi => absurd (Nat.lt_of_lt_of_le hi h) (Nat.not_lt_zero _), Or.inl rfl⟩

/-- a full lap becomes the previous lap -/
theorem Rep.wrap (hr : Rep buf n n base H) : Rep buf n 0 (base + n) H :=
  ⟨hr.size, Nat.zero_le n, hr.total, fun _ hi => absurd hi (Nat.not_lt_zero _),
    fun _ i _ hi => by rw [Nat.add_right_comm, Nat.add_sub_cancel]; exact hr.cur i hi, Or.inr (Nat.le_add_left _ _)⟩

theorem Rep.blit_step (hr : Rep buf n pos base H)
    (xs : Array Nat) (T : Hist) (hext : Ext H T) (hsz : T.size = H.size + xs.size) (hfit : pos + xs.size ≤ n)
    (hx : ∀ j, j < xs.size → xs.getD j 0 = T.getD (H.size + j) 0) :
    Rep (blit buf pos xs) n (pos + xs.size) base T := by
  have hsize := hr.size
  have htot := hr.total
  have hfit' : pos + xs.size ≤ buf.size := hsize.symm ▸ hfit
  refine ⟨by rw [blit_size]; exact hsize, hfit, by rw [hsz, htot, Nat.add_assoc], ?_, ?_, hr.base0⟩
  · intro i hi
    rw [blit_getD _ _ _ _ hfit']
    by_cases h : pos ≤ i
    · obtain ⟨j, rfl⟩ := Nat.exists_eq_add_of_le h
      rw [if_pos ⟨h, hi⟩, Nat.add_sub_cancel_left, hx j (Nat.lt_of_add_lt_add_left hi), htot, Nat.add_assoc]
    · rw [if_neg fun h' => h h'.1, hr.cur i (Nat.lt_of_not_le h), hext.2 _ (by omega)]
  · intro hb i h1 h2
    rw [blit_getD _ _ _ _ hfit', if_neg fun h' => Nat.not_le_of_lt h'.2 h1,
      hr.old hb i (Nat.le_trans (Nat.le_add_right _ _) h1) h2, hext.2 _ (by omega)]

/-- a block of bytes from outside (`copy_uncompressed`, the preset dictionary) -/
theorem Rep.append_step (hr : Rep buf n pos base H) (xs : Array Nat) (hfit : pos + xs.size ≤ n) :
    Rep (blit buf pos xs) n (pos + xs.size) base (H ++ xs) :=
  hr.blit_step xs (H ++ xs)
    ⟨by rw [Array.size_append]; exact Nat.le_add_right _ _, fun i hi => by
      simp only [getD_def, Array.getElem?_append_left hi]⟩
    Array.size_append hfit fun j _ => by
      simp only [getD_def]
      rw [Array.getElem?_append_right (Nat.le_add_right _ _), Nat.add_sub_cancel_left]

theorem set!_eq_blit (a : Array Nat) (p b : Nat) (hp : p < a.size) : a.set! p b = blit a p #[b] := by
  apply ext_getD
  · rw [Array.set!_eq_setIfInBounds, Array.size_setIfInBounds, blit_size]
  · intro i _
    rw [getD_set!, blit_getD _ _ _ _ hp]
    by_cases h : p = i
    · subst h
      simp [hp]
    · rw [if_neg fun h' => h h'.1, if_neg fun h' => h (Nat.le_antisymm h'.1 (Nat.le_of_lt_succ h'.2))]

theorem Rep.put (hr : Rep buf n pos base H) (hp : pos < n) (b : Nat) :
    Rep (buf.set! pos b) n (pos + 1) base (H.push b) := by
  rw [set!_eq_blit _ _ _ (hr.size ▸ hp), Array.push_eq_append]
  exact hr.append_step #[b] hp

/-- copying `c ≤ d+1` bytes from `src` to `pos` when the source holds the history bytes `d+1` back:
    no copied byte is read again, so `copy_within` and `copy_from_slice` act like `Hist.copy` -/
theorem Rep.copy_step (hr : Rep buf n pos base H) {src c d : Nat}
    (hd : d < H.size) (hc : c ≤ d + 1) (hfit : pos + c ≤ n) (hsrc : src + c ≤ n)
    (hx : ∀ j, j < c → buf.getD (src + j) 0 = H.back (d - j)) :
    Rep (blit buf pos (buf.extract src (src + c))) n (pos + c) base (Hist.copy H d c) := by
  have hsize := hr.size
  have e : (buf.extract src (src + c)).size = c := by
    rw [Array.size_extract, Nat.min_eq_left (hsize ▸ hsrc), Nat.add_sub_cancel_left]
  have := hr.blit_step (buf.extract src (src + c)) _ (ext_copy H d c) (by rw [e, size_copy]) (by rw [e]; exact hfit)
    (by intro j hj
        rw [e] at hj
        rw [getD_extract _ _ _ _ (by omega) (by omega), copy_getD_first _ _ _ _ hd hc hj]
        exact hx j hj)
  rw [e] at this
  exact this

/-- the source lies `d+1` slots back in the current lap -/
theorem Rep.copy_cur (hr : Rep buf n pos base H) {src c d : Nat}
    (hs : src + d + 1 = pos) (hc : c ≤ d + 1) (hfit : pos + c ≤ n) :
    Rep (blit buf pos (buf.extract src (src + c))) n (pos + c) base (Hist.copy H d c) :=
  hr.copy_step (by have := hr.total; omega) hc hfit (by omega) fun j hj => hr.back_cur (by omega)

/-- the source lies in the previous lap (the distance wraps around the end of the buffer) -/
theorem Rep.copy_old (hr : Rep buf n pos base H) {src c d : Nat}
    (hb : n ≤ base) (hs : src + d + 1 = n + pos) (hsrc : src + c ≤ n) (hp : pos ≤ src) :
    Rep (blit buf pos (buf.extract src (src + c))) n (pos + c) base (Hist.copy H d c) :=
  hr.copy_step (by have := hr.total; omega) (by omega) (by omega) hsrc fun j hj =>
    hr.back_old hb (by omega) (by omega) (by omega)

end

/-- the fuel of `copyLoopF` is never what stops the loop: any fuel above `left` gives the same result
    (so `copyLoop` is the Rust `loop` with its own termination argument made explicit) -/
theorem copyLoop_fuel_irrelevant : ∀ fuel buf back pos left, left < fuel →
    copyLoopF fuel buf back pos left = copyLoop buf back pos left := by
  have key : ∀ fuel fuel' buf back pos left, left < fuel → left < fuel' →
      copyLoopF fuel buf back pos left = copyLoopF fuel' buf back pos left := by
    intro fuel
    induction fuel with
    | zero => intro _ _ _ _ _ h; omega
    | succ fuel ih =>
      intro fuel' buf back pos left h h'
      cases fuel' with
      | zero => omega
      | succ fuel' =>
        rw [copyLoopF, copyLoopF]
        split
        · rfl
        · simp only []
          generalize min left (pos - back) = c
          split
          · rfl
          · split
            · rfl
            · split
              · rfl
              · exact ih _ _ _ _ _ (by omega) (by omega)
  intro fuel buf back pos left h
  exact key fuel (left + 1) buf back pos left h (Nat.lt_succ_self _)

/-- the loop copies from the fixed slot `back`, `d+1` slots behind `pos`; an iteration that does not finish
    copies a whole period, after which `back` is two periods behind (`copy_double`) -/
theorem copyLoop_spec {n base : Nat} {buf : Array Nat} {back pos d left : Nat} {H : Hist} (hr : Rep buf n pos base H)
    (hb : back + d + 1 = pos) (hl : 0 < left) (hfit : pos + left ≤ n) :
    ∃ buf', copyLoop buf back pos left = .ok (buf', pos + left) ∧
      Rep buf' n (pos + left) base (Hist.copy H d left) := by
  induction left using Nat.strongRecOn generalizing buf pos d H with
  | _ left ih =>
    have hsz := hr.size
    have hfit' : pos + left ≤ buf.size := hsz.symm ▸ hfit
    have hpb : pos - back = d + 1 := by omega
    rw [copyLoop, copyLoopF, if_neg (by omega), hpb]
    clear hpb
    by_cases hc : left ≤ d + 1
    · simp only [Nat.min_eq_left hc]
      rw [copyWithin_ok _ _ _ _ (by omega) hfit']
      simp only [Nat.sub_self, if_true]
      exact ⟨_, rfl, hr.copy_cur hb hc hfit⟩
    · have hlt := Nat.lt_of_not_le hc
      have hle := Nat.le_of_lt hlt
      have hless := Nat.sub_lt hl (Nat.succ_pos d)
      simp only [Nat.min_eq_right hle]
      rw [copyWithin_ok _ _ _ _ (by omega) (by omega)]
      simp only [Nat.sub_ne_zero_of_lt hlt, Nat.succ_ne_zero, if_false]
      rw [copyLoop_fuel_irrelevant left _ _ _ _ hless]
      have hfit₁ : pos + (d + 1) + (left - (d + 1)) = pos + left := by rw [Nat.add_assoc, Nat.add_sub_cancel' hle]
      obtain ⟨buf', hrun, hrep⟩ := ih (left - (d + 1)) hless (d := d + (d + 1))
        (hr.copy_cur hb (Nat.le_refl _) (Nat.le_trans (Nat.add_le_add_left hle pos) hfit)) (by omega)
        (Nat.sub_pos_of_lt hlt) (hfit₁ ▸ hfit)
      have hd : d < H.size := by have := hr.total; omega
      rw [copy_double H d _ hd, hfit₁, Nat.add_sub_cancel' hle] at hrep
      rw [hfit₁] at hrun
      exact ⟨buf', hrun, hrep⟩

end LzmaVerif.LzDecoder
