/-
  Fast encoder: one `get_next_symbol` / `encode_symbol` step: `FinderSound` is what it needs of a finder, `StepOk`
  what it guarantees.  The model keeps `ra := read_ahead + 1` (`Model/EncFast.lean`).
-/
import LzmaVerif.Proofs.EncFastSel

namespace LzmaVerif.EncFast
open LzmaVerif Mf Lzma
open LzmaVerif.Mf.Hc4 (Eqs)

/-- what the fast encoder needs of its match finder on the data `d`: an invariant `R` of the reachable states and the
    logical position `pos` (number of `move_pos` calls) -/
structure FinderSound {σ : Type} (F : Finder σ) (d : Array UInt8) (dict mlmax : Nat) where
  R : σ → Prop
  pos : σ → Nat
  init_R : R F.init
  init_pos : pos F.init = 0
  find_R : ∀ s, R s → R (F.find d s).2
  find_pos : ∀ s, R s → pos (F.find d s).2 = pos s + 1
  find_valid : ∀ s, R s → ∀ m ∈ (F.find d s).1,
    ValidMatch d dict (pos s) (min mlmax (d.size - pos s)) m
  skip_R : ∀ s n, R s → R (F.skip d n s)
  skip_pos : ∀ s n, R s → pos (F.skip d n s) = pos s + n

structure StepOk {σ : Type} {F : Finder σ} {d : Array UInt8} {dict : Nat}
    (FS : FinderSound F d dict 273) (p : Nat) (c : Coder) (st : Step σ) : Prop where
  len1 : 1 ≤ st.len
  lenLe : p + st.len ≤ d.size
  sym : (st.sym = .lit (byteAt d p) ∧ st.len = 1) ∨
        (∃ i, st.sym = .rep i st.len ∧ RepOk d p (min (d.size - p) 273) c st.len i) ∨
        (∃ dist, st.sym = .mtch dist st.len ∧
          ValidMatch d dict p (min 273 (d.size - p)) (st.len, dist))
  mfR : FS.R st.mf
  mfPos : FS.pos st.mf = p + st.len + st.ra
  /-- the look-ahead `find_matches()` is only made with more than `MATCH_LEN_MIN` bytes left, and a step that leaves
      `read_ahead = 0` (`ra = 1`) behind codes a literal -/
  ra : st.ra = 0 ∨ (st.ra = 1 ∧ st.len = 1 ∧ p + 3 ≤ d.size ∧ ∀ m ∈ st.ms,
        ValidMatch d dict (p + st.len) (min 273 (d.size - (p + st.len))) m)

section
variable {σ : Type} {F : Finder σ} {d : Array UInt8} {dict : Nat} {FS : FinderSound F d dict 273}
  {p : Nat} {c : Coder} {mf : σ} {ms : List Match}

theorem FinderSound.find_at (FS : FinderSound F d dict 273) {q : Nat} (hR : FS.R mf) (hpos : FS.pos mf = q) :
    FS.R (F.find d mf).2 ∧ FS.pos (F.find d mf).2 = q + 1 ∧
      ∀ m ∈ (F.find d mf).1, ValidMatch d dict q (min 273 (d.size - q)) m :=
  hpos ▸ ⟨FS.find_R _ hR, FS.find_pos _ hR, FS.find_valid _ hR⟩

theorem StepOk.lit {ra : Nat} (hp : p < d.size) (hR : FS.R mf) (hpos : FS.pos mf = p + 1 + ra)
    (hra : ra = 0 ∨ (ra = 1 ∧ p + 3 ≤ d.size ∧
      ∀ m ∈ ms, ValidMatch d dict (p + 1) (min 273 (d.size - (p + 1))) m)) :
    StepOk FS p c ⟨.lit (byteAt d p), 1, mf, ms, ra⟩ :=
  ⟨Nat.le_refl 1, hp, Or.inl ⟨rfl, rfl⟩, hR, hpos, hra.imp_right fun h => ⟨h.1, rfl, h.2⟩⟩

theorem StepOk.skip {s : Sym} {len k : Nat} (hp : p < d.size) (hR : FS.R mf) (hpos : FS.pos mf = p + k)
    (hk : k ≤ 2)
    (hs : (∃ i, s = .rep i len ∧ RepOk d p (min (d.size - p) 273) c len i) ∨
      (∃ dist, s = .mtch dist len ∧ ValidMatch d dict p (min 273 (d.size - p)) (len, dist))) :
    StepOk FS p c ⟨s, len, F.skip d (len - k) mf, ms, 0⟩ := by
  have hl : 2 ≤ len ∧ p + len ≤ d.size := by
    rcases hs with ⟨i, _, _, h2, hl, _⟩ | ⟨dist, _, h2, _, hle, _⟩
    · exact ⟨h2, Nat.add_le_of_le_sub' (Nat.le_of_lt hp) (Nat.le_trans hl (Nat.min_le_left _ _))⟩
    · exact ⟨h2, hle⟩
  refine ⟨Nat.le_of_succ_le hl.1, hl.2, Or.inr hs, FS.skip_R _ _ hR, ?_, Or.inl rfl⟩
  show FS.pos (F.skip d (len - k) mf) = p + len + 0
  rw [FS.skip_pos _ _ hR, hpos, Nat.add_assoc, Nat.add_sub_of_le (Nat.le_trans hk hl.1)]
  rfl

theorem preferRep_min {P : FastParams} {bl ml md : Nat} (h : preferRep P bl ml md = true) :
    P.matchLenMin ≤ bl :=
  of_decide_eq_true (Bool.and_eq_true_iff.mp h).1

theorem nextCore_ok (P : FastParams) (hP : P.ok) (nice : Nat) (hp : p < d.size) (hR : FS.R mf)
    (hpos : FS.pos mf = p + 1) (hms : ∀ m ∈ ms, ValidMatch d dict p (min 273 (d.size - p)) m) :
    StepOk FS p c (nextCore F P nice d p c mf ms) := by
  obtain ⟨hmin, hmax⟩ := hP
  have hrl := repLoop_ok P hmin nice d p (min (d.size - p) 273) c [0, 1, 2, 3] 0 0 (by decide) (Or.inl rfl)
  have hsel := mainSel_ok P nice ms.reverse
  unfold nextCore
  simp only [hmin, hmax]
  refine ite_of (fun _ => .lit hp hR hpos (Or.inl rfl)) fun _ => ?_
  split
  · next i len heq =>
    rw [heq] at hrl
    exact .skip hp hR hpos (Nat.le_succ 1) (Or.inl ⟨i, rfl, hrl⟩)
  · next bl bi heq =>
    rw [heq] at hrl
    split
    · next len dist hm =>
      rw [hm] at hsel
      exact .skip hp hR hpos (Nat.le_succ 1) (Or.inr ⟨dist, rfl, hms _ (List.mem_reverse.mp hsel)⟩)
    · next mainLen mainDist hm =>
      rw [hm] at hsel
      refine ite_of (fun hpref => ?_) fun _ => ite_of (fun _ => .lit hp hR hpos (Or.inl rfl)) fun hnl => ?_
      · have h2 : 2 ≤ bl := hmin ▸ preferRep_min hpref
        exact .skip hp hR hpos (Nat.le_succ 1)
          (Or.inl ⟨bi, rfl, hrl.resolve_left (Nat.ne_of_gt (Nat.lt_of_lt_of_le Nat.zero_lt_two h2))⟩)
      · -- look-ahead `find_matches()`: more than 2 bytes are left, and whatever its tests decide, `main_len ≥ 2`
        -- is a match of the list
        have h3 : p + 2 < d.size := Nat.lt_sub_iff_add_lt'.mp
          (Nat.lt_of_lt_of_le (Nat.lt_of_not_le fun h => hnl (Or.inr h)) (Nat.min_le_left _ _))
        have hmem := List.mem_reverse.mp (hsel.resolve_left fun h => hnl (Or.inl h))
        obtain ⟨hR2, hpos2, hv2⟩ := FS.find_at hR hpos
        have hlit2 := StepOk.lit (c := c) hp hR2 hpos2 (Or.inr ⟨rfl, h3, hv2⟩)
        exact ite_of (fun _ => hlit2) fun _ => ite_of (fun _ => hlit2) fun _ =>
          .skip hp hR2 hpos2 (Nat.le_refl 2) (Or.inr ⟨mainDist, rfl, hms _ hmem⟩)

end

theorem nextSymbol_ok {σ : Type} {F : Finder σ} {d : Array UInt8} {dict : Nat}
    (FS : FinderSound F d dict 273) (P : FastParams) (hP : P.ok) (nice : Nat) (p : Nat) (c : Coder)
    (mf : σ) (ms : List Match) (ra : Nat) (hp : p < d.size) (hR : FS.R mf) (hpos : FS.pos mf = p + ra)
    (hra : ra = 0 ∨ (ra = 1 ∧ ∀ m ∈ ms, ValidMatch d dict p (min 273 (d.size - p)) m)) :
    StepOk FS p c (nextSymbol F P nice d p c mf ms ra) := by
  rcases hra with rfl | ⟨rfl, hms⟩
  · obtain ⟨hR1, hpos1, hv⟩ := FS.find_at hR hpos
    exact nextCore_ok P hP nice hp hR1 hpos1 hv
  · exact nextCore_ok P hP nice hp hR hpos hms

end LzmaVerif.EncFast
