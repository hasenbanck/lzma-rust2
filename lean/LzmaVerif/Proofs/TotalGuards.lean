import Mathlib.Tactic.Ring  -- no tactic of it is used: with it `2 ^ k` in the statements is read as in the other files (`Monoid.npow`)
import LzmaVerif.Model.Guards
import LzmaVerif.Model.LzmaStream
import LzmaVerif.Model.Lzma2
import LzmaVerif.Model.XzInt
/-!
The checked arithmetic of `Model/Guards.lean` succeeds on every value the decoders can meet, and the backward member
scan of the multi-threaded LZIP reader ends without its fuel, with members that tile the file, at most `|file| / 4`.
-/

namespace LzmaVerif.Total

section GuardsPart
open LzmaVerif Guards

theorem add32_eq {a b : Nat} (h : a + b < 2 ^ 32) : add32 a b = some (a + b) := if_pos h
theorem add64_eq {a b : Nat} (h : a + b < 2 ^ 64) : add64 a b = some (a + b) := if_pos h
theorem mul64_eq {a b : Nat} (h : a * b < 2 ^ 64) : mul64 a b = some (a * b) := if_pos h
theorem sub_eq {a b : Nat} (h : b ≤ a) : sub a b = some (a - b) := if_pos h
theorem castU32_eq {a : Nat} (h : a < 2 ^ 32) : castU32 a = some a := if_pos h
theorem castUsize_eq {a : Nat} (h : a < 2 ^ 64) : castUsize a = some a := if_pos h
theorem shl32_eq {a k : Nat} (hk : k < 32) (h : a * 2 ^ k < 2 ^ 32) : shl32 a k = some (a * 2 ^ k) := if_pos ⟨hk, h⟩

theorem lzma2DictRound_eq (d : Nat) :
    lzma2DictRound d = some (Lzma2.dictBufOf d) ∧ Consts.DICT_SIZE_MIN ≤ Lzma2.dictBufOf d ∧
      Lzma2.dictBufOf d ≤ max d Consts.DICT_SIZE_MIN + 15 ∧
      Lzma2.dictBufOf d ≤ Consts.DICT_SIZE_MAX := by
  unfold lzma2DictRound andNot15 Lzma2.dictBufOf Consts.DICT_SIZE_MAX Consts.DICT_SIZE_MIN
  rw [add32_eq (by omega)]
  exact ⟨rfl, by omega, by omega, by omega⟩

theorem lzma2DictRound_total : ∀ d, d < 2 ^ 32 →
    ∃ r, lzma2DictRound d = some r ∧ min d Consts.DICT_SIZE_MAX ≤ r ∧ r % 16 = 0 ∧ r < 2 ^ 32 := by
  intro d _
  refine ⟨_, (lzma2DictRound_eq d).1, ?_⟩
  unfold Lzma2.dictBufOf Consts.DICT_SIZE_MAX Consts.DICT_SIZE_MIN
  omega

/-- the code before `da8bdb6` on XZ dictionary property 40 (`0xFFFFFFFF`) -/
theorem lzma2DictRoundOld_overflows : lzma2DictRoundOld 0xFFFFFFFF = none := by decide
/-- the code before `63a4a08`: dictionary size 0, an empty buffer -/
theorem lzma2DictRoundBuggy_zero : lzma2DictRoundBuggy 0 = some 0 := by decide
example : lzma2DictRound 0xFFFFFFFF = some 4294967280 := by decide
example : lzma2DictRound 0 = some 4096 := by decide

theorem lzmaDictRound_ok {d : Nat} (h : d ≤ Consts.DICT_SIZE_MAX) :
    lzmaDictRound d = some (.ok (Lzma.lzmaDictBuf d)) ∧ Lzma.lzmaDictBuf d ≤ Consts.DICT_SIZE_MAX := by
  unfold lzmaDictRound andNot15 Lzma.lzmaDictBuf Consts.DICT_SIZE_MAX at *
  rw [if_neg (by omega), add32_eq (by omega)]
  exact ⟨rfl, by omega⟩

theorem lzmaDictBuf_bounds (d : Nat) : max d 4096 ≤ Lzma.lzmaDictBuf d ∧ Lzma.lzmaDictBuf d ≤ max d 4096 + 15 ∧
    Lzma.lzmaDictBuf d % 16 = 0 := by
  unfold Lzma.lzmaDictBuf
  omega

theorem lzmaDictBuf_idem (d : Nat) : Lzma.lzmaDictBuf (Lzma.lzmaDictBuf d) = Lzma.lzmaDictBuf d := by
  unfold Lzma.lzmaDictBuf; omega

theorem lzmaDictBuf_mono {a b : Nat} (h : a ≤ b) : Lzma.lzmaDictBuf a ≤ Lzma.lzmaDictBuf b := by
  unfold Lzma.lzmaDictBuf; omega

def sizeOpt (uncomp : Nat) : Option Nat := if uncomp ≤ 2 ^ 63 - 1 then some uncomp else none

theorem construct2Dict_ok {dict : Nat} (uncomp presetLen : Nat) (h : dict ≤ Consts.DICT_SIZE_MAX) :
    construct2Dict dict uncomp presetLen = some (.ok (Lzma.lzmaReaderDictBuf dict (sizeOpt uncomp) presetLen)) := by
  obtain ⟨he, h4⟩ := lzmaDictRound_ok h
  have h4' := h4
  unfold Consts.DICT_SIZE_MAX at h4'
  unfold construct2Dict Lzma.lzmaReaderDictBuf sizeOpt
  rw [he, show U64_MAX / 2 = 2 ^ 63 - 1 by decide]
  dsimp only
  -- the shrinking branch is taken iff a size is declared and `declared + preset` lies below the rounded request
  by_cases hc : uncomp ≤ 2 ^ 63 - 1 ∧ Lzma.lzmaDictBuf dict > uncomp + presetLen
  · have hsat : satAdd64 uncomp presetLen = uncomp + presetLen := by unfold satAdd64; omega
    obtain ⟨he', g4⟩ := lzmaDictRound_ok (d := uncomp + presetLen) (by unfold Consts.DICT_SIZE_MAX; omega)
    rw [hsat, if_pos hc, castU32_eq (by omega), if_pos hc.1]
    dsimp only
    rw [he', if_pos hc.2]
    exact (lzmaDictRound_ok g4).1
  · have hc' : ¬(uncomp ≤ 2 ^ 63 - 1 ∧ Lzma.lzmaDictBuf dict > satAdd64 uncomp presetLen) := by
      unfold satAdd64; omega
    rw [if_neg hc']
    dsimp only
    rw [(lzmaDictRound_ok h4).1]
    by_cases hs : uncomp ≤ 2 ^ 63 - 1
    · rw [if_pos hs]
      dsimp only
      rw [if_neg fun hgt => hc ⟨hs, hgt⟩]
    · rw [if_neg hs]

/-- `construct2` never overflows, rejects exactly the dictionary sizes above `DICT_SIZE_MAX`, and otherwise hands
`LZDecoder::new` the value of the model function `lzmaReaderDictBuf`. -/
theorem construct2Dict_total (dict uncomp presetLen : Nat) (hd : dict < 2 ^ 32) (hu : uncomp < 2 ^ 64)
    (hp : presetLen < 2 ^ 64) :
    (Consts.DICT_SIZE_MAX < dict ∧ construct2Dict dict uncomp presetLen = some (.error ())) ∨
    (dict ≤ Consts.DICT_SIZE_MAX ∧ ∃ r,
      construct2Dict dict uncomp presetLen = some (.ok r) ∧
      r = Lzma.lzmaReaderDictBuf dict (sizeOpt uncomp) presetLen ∧
      4096 ≤ r ∧ r % 16 = 0 ∧ r ≤ Lzma.lzmaDictBuf dict ∧ r ≤ max dict 4096 + 15 ∧ r < 2 ^ 32 ∧
      (uncomp ≤ 2 ^ 63 - 1 → r ≤ max (uncomp + presetLen) 4096 + 15)) := by
  by_cases h : Consts.DICT_SIZE_MAX < dict
  · exact .inl ⟨h, by unfold construct2Dict lzmaDictRound; rw [if_pos h]⟩
  refine .inr ⟨Nat.le_of_not_gt h, _, construct2Dict_ok uncomp presetLen (Nat.le_of_not_gt h), rfl, ?_⟩
  -- the model function is `lzmaDictBuf` of the shrunk or of the full request; the rest is what rounding does
  have hB := lzmaDictBuf_bounds dict
  unfold Consts.DICT_SIZE_MAX at h
  unfold Lzma.lzmaReaderDictBuf sizeOpt
  by_cases hs : uncomp ≤ 2 ^ 63 - 1
  · rw [if_pos hs]
    dsimp only
    split
    · next hc =>
      have hy := lzmaDictBuf_bounds (uncomp + presetLen)
      have hm := lzmaDictBuf_mono (Nat.le_of_lt hc)
      rw [lzmaDictBuf_idem] at hm ⊢
      omega
    · rw [lzmaDictBuf_idem]
      omega
  · rw [if_neg hs]
    dsimp only
    rw [lzmaDictBuf_idem]
    omega

example : construct2Dict (2 ^ 26) 100 0 = some (.ok 4096) := by rfl
example : construct2Dict (2 ^ 26) (2 ^ 64 - 1) 0 = some (.ok (2 ^ 26)) := by rfl
example : construct2Dict 0xFFFFFFFF 5 5 = some (.error ()) := by rfl
example : construct2Dict 0xFFFFFFF0 (2 ^ 63 - 1) (2 ^ 64 - 1) = some (.ok 0xFFFFFFF0) := by rfl

/-- the memory estimate of `new_mem_limit`; `dict` and `props` are attacker-controlled -/
theorem lzmaMemUsageByProps_total (dict props : Nat) (hd : dict < 2 ^ 32) :
    ∃ r, lzmaMemUsageByProps dict props = some r := by
  unfold lzmaMemUsageByProps
  split
  · exact ⟨_, rfl⟩
  next h1 =>
  split
  · exact ⟨_, rfl⟩
  next h2 =>
  obtain ⟨he, h4⟩ := lzmaDictRound_ok (Nat.le_of_not_gt h1)
  unfold Consts.DICT_SIZE_MAX at h4
  simp (disch := omega) only [sub_eq, lzmaMemUsage, if_neg, he]
  have hk : props % 45 - props % 45 / 9 * 9 + props % 45 / 9 ≤ 12 := by omega
  generalize props % 45 - props % 45 / 9 * 9 + props % 45 / 9 = k at hk
  have hpow : 2 ^ k ≤ 2 ^ 12 := Nat.pow_le_pow_right (by decide) hk
  simp (disch := omega) only [shl32_eq, add32_eq]
  exact ⟨_, rfl⟩

theorem indexCapacity_le (count : Nat) : indexCapacity count ≤ 1024 := by
  unfold indexCapacity; omega

theorem indexCapacity_le_count (count : Nat) : indexCapacity count ≤ count := by
  unfold indexCapacity; omega

/-- the code before `a9b8dbd`: a count above 2^59 is a capacity overflow -/
theorem indexCapacityOld_overflows : indexCapacityOldBytes (2 ^ 63) = none := by decide
example : indexCapacity (2 ^ 63) = 1024 := by decide

theorem lzDecoderNew_total (dictSize : Nat) (presetLen : Option Nat) :
    ∃ r, lzDecoderNew dictSize presetLen = some r ∧ r.bufLen = dictSize ∧ r.pos ≤ dictSize ∧
      r.pos = min (presetLen.getD 0) dictSize ∧ r.presetSkip + r.pos = presetLen.getD 0 := by
  cases presetLen with
  | none => exact ⟨_, rfl, rfl, Nat.zero_le _, by simp, by simp⟩
  | some pl =>
    unfold lzDecoderNew
    simp (disch := omega) only [sub_eq, if_pos]
    exact ⟨_, rfl, rfl, by dsimp only; omega, by simp, by simp only [Option.getD_some]; omega⟩

/-- `LZMA2Reader::new`: the ONE dictionary allocation, for every `u32` dictionary size and preset dictionary -/
theorem lzma2ReaderBuf_total (dict : Nat) (hd : dict < 2 ^ 32) (presetLen : Option Nat) :
    ∃ r, lzma2ReaderBuf dict presetLen = some r ∧ r.bufLen = Lzma2.dictBufOf dict ∧
      4096 ≤ r.bufLen ∧ r.bufLen ≤ max dict 4096 + 15 ∧ r.bufLen < 2 ^ 32 ∧ r.pos ≤ r.bufLen := by
  obtain ⟨he, h0, h1, h2⟩ := lzma2DictRound_eq dict
  unfold Consts.DICT_SIZE_MAX at h2
  unfold Consts.DICT_SIZE_MIN at h0 h1
  unfold lzma2ReaderBuf
  simp (disch := omega) only [he, castUsize_eq]
  obtain ⟨r, hr, hb, hp, _, _⟩ := lzDecoderNew_total (Lzma2.dictBufOf dict) presetLen
  exact ⟨r, hr, hb, by omega, by omega, by omega, by omega⟩

/-- the same for `LZMAReader`; `Err` exactly above `DICT_SIZE_MAX` -/
theorem lzmaReaderBuf_total (dict uncomp : Nat) (presetLen : Option Nat) (hd : dict < 2 ^ 32)
    (hu : uncomp < 2 ^ 64) (hp : presetLen.getD 0 < 2 ^ 64) :
    (Consts.DICT_SIZE_MAX < dict ∧ lzmaReaderBuf dict uncomp presetLen = some none) ∨
    (dict ≤ Consts.DICT_SIZE_MAX ∧ ∃ r, lzmaReaderBuf dict uncomp presetLen = some (some r) ∧
      r.bufLen = Lzma.lzmaReaderDictBuf dict (sizeOpt uncomp) (presetLen.getD 0) ∧
      4096 ≤ r.bufLen ∧ r.bufLen ≤ max dict 4096 + 15 ∧ r.bufLen < 2 ^ 32 ∧ r.pos ≤ r.bufLen) := by
  rcases construct2Dict_total dict uncomp (presetLen.getD 0) hd hu hp with
    ⟨hgt, he⟩ | ⟨hle, r, he, hr, h1, _, _, h4, h5, _⟩
  · exact .inl ⟨hgt, by unfold lzmaReaderBuf; rw [he]⟩
  · refine .inr ⟨hle, ?_⟩
    unfold lzmaReaderBuf
    obtain ⟨n, hn, hb, hpos, _, _⟩ := lzDecoderNew_total r presetLen
    simp (disch := omega) only [he, castUsize_eq, hn]
    exact ⟨n, rfl, by rw [hb, hr], by omega, by omega, by omega, by omega⟩

example : lzma2ReaderBuf 0xFFFFFFFF (some 7) = some { bufLen := 4294967280, pos := 7, presetSkip := 0 } := by decide
example : lzmaReaderBuf (2 ^ 30) 3 (some 100000) =
    some (some { bufLen := 100016, pos := 100000, presetSkip := 0 }) := by decide

theorem lzResetIndex_total (bufSize : Nat) (h : 1 ≤ bufSize) : lzResetIndex bufSize = some (bufSize - 1) := by
  unfold lzResetIndex
  simp (disch := omega) only [sub_eq, if_pos]

/-- the code before `63a4a08` (reproduced at 3c30cbf): `LZMA2Reader::new(_, 0, None)` builds an empty dictionary buffer
and the first dictionary reset (`control = 1` or `≥ 0xE0`) indexes `buf[0 - 1]` -/
theorem lzma2_dict0_reset_panicked :
    lzma2ReaderBufBuggy 0 none = some { bufLen := 0, pos := 0, presetSkip := 0 } ∧ lzResetIndex 0 = none := by decide

theorem lzma2_reset_ok (dict : Nat) (hd : dict < 2 ^ 32) (presetLen : Option Nat) :
    ∃ r, lzma2ReaderBuf dict presetLen = some r ∧ lzResetIndex r.bufLen = some (r.bufLen - 1) := by
  obtain ⟨r, hr, _, h, _, _, _⟩ := lzma2ReaderBuf_total dict hd presetLen
  exact ⟨r, hr, lzResetIndex_total _ (by omega)⟩

theorem lzSetLimit_total (outMax pos bufSize : Nat) (ho : outMax < 2 ^ 63) (hp : pos ≤ bufSize) (hb : bufSize < 2 ^ 32) :
    ∃ l, lzSetLimit outMax pos bufSize = some l ∧ pos ≤ l ∧ l ≤ bufSize := by
  unfold lzSetLimit
  rw [add64_eq (by omega)]
  exact ⟨min (outMax + pos) bufSize, rfl, by omega, by omega⟩

/-- for every distance below the buffer size, not only below `full` -/
theorem lzGetByteIndex_total (bufSize pos dist : Nat) (hp : pos ≤ bufSize) (hd : dist < bufSize) (hb : bufSize < 2 ^ 32) :
    ∃ i, lzGetByteIndex bufSize pos dist = some i ∧ i < bufSize := by
  unfold lzGetByteIndex
  by_cases h : dist ≥ pos
  · simp (disch := omega) only [if_pos h, add64_eq, sub_eq, if_pos]
    exact ⟨_, rfl, by omega⟩
  · simp (disch := omega) only [if_neg h, sub_eq, if_pos]
    exact ⟨_, rfl, by omega⟩

example : lzGetByteIndex 4096 0 0 = some 4095 := by decide
example : lzSetLimit 65536 100 4096 = some 4096 := by decide
example : lzResetIndex 4096 = some 4095 := by decide

theorem lzmaChunkSize_total (control u16 : Nat) (hu : u16 < 2 ^ 16) :
    lzmaChunkSize control u16 = some (control % 32 * 65536 + (u16 + 1)) ∧
      1 ≤ control % 32 * 65536 + (u16 + 1) ∧ control % 32 * 65536 + (u16 + 1) ≤ 2 ^ 21 := by
  -- `rw`, not `unfold`: to check an unfolding by conversion the kernel evaluates `_ * 65536` in unary
  rw [lzmaChunkSize]
  simp (disch := omega) only [mul64_eq, add64_eq]
  exact ⟨trivial, by omega, by omega⟩

/-- the code before `78a6282` (reproduced at 3c30cbf): the stored-chunk size is incremented in `u16`, so the maximal
legal stored chunk (`0xFFFF` = 65536 bytes) overflows: debug panic, release wrap to 0 -/
theorem storedChunkSizeBuggy_overflows :
    storedChunkSizeBuggy 0xFFFF = none ∧ storedChunkSizeBuggyWrapped 0xFFFF = 0 ∧ storedChunkSize 0xFFFF = some 65536 := by
  decide

/-- the code before `78a6282` fails exactly on `0xFFFF` -/
theorem storedChunkSize_total (u16 : Nat) (hu : u16 < 2 ^ 16) :
    (storedChunkSizeBuggy u16 = none ↔ u16 = 0xFFFF) ∧ storedChunkSize u16 = some (u16 + 1) := by
  refine ⟨?_, add64_eq (by omega)⟩
  unfold storedChunkSizeBuggy add16
  by_cases h : u16 + 1 < 2 ^ 16
  · rw [if_pos h]; exact ⟨nofun, by omega⟩
  · rw [if_neg h]; exact ⟨fun _ => by omega, fun _ => rfl⟩

theorem rcPrepare_total (len : Nat) (hl : len ≤ Consts.R_COMPRESSED_SIZE_MAX) :
    (len < 5 ∧ rcPrepare Consts.R_COMPRESSED_SIZE_MAX len = some (.error ())) ∨
    (5 ≤ len ∧ rcPrepare Consts.R_COMPRESSED_SIZE_MAX len =
        some (.ok (Consts.R_COMPRESSED_SIZE_MAX - (len - 5), Consts.R_COMPRESSED_SIZE_MAX))) := by
  unfold Consts.R_COMPRESSED_SIZE_MAX at *
  unfold rcPrepare
  by_cases h : len < 5
  · exact .inl ⟨h, if_pos h⟩
  · refine .inr ⟨by omega, ?_⟩
    simp (disch := omega) only [if_neg h, sub_eq, add64_eq, if_pos]
    rw [show 65536 - (len - 5) + (len - 5) = 65536 by omega]

/-- what `prepare` puts into the range decoder's buffer is this minus the five bytes of the header -/
theorem lzmaChunkCompSize_fits (u16 : Nat) (hu : u16 < 2 ^ 16) :
    ∃ c, lzmaChunkCompSize u16 = some c ∧ c ≤ Consts.R_COMPRESSED_SIZE_MAX :=
  ⟨_, add64_eq (by omega), by unfold Consts.R_COMPRESSED_SIZE_MAX; omega⟩

example : rcPrepare 65536 65536 = some (.ok (5, 65536)) := by rfl
example : rcPrepare 65536 4 = some (.error ()) := by rfl
example : lzmaChunkSize 0xFF 0xFFFF = some (2 ^ 21) := by decide

theorem blockHeaderSizes_total (enc : Nat) (he : enc < 256) :
    (enc = 0 ∧ blockHeaderSizes enc = some (.error ())) ∨
    (1 ≤ enc ∧ blockHeaderSizes enc = some (.ok ((enc + 1) * 4 - 1, (enc + 1) * 4 - 5)) ∧ (enc + 1) * 4 - 1 ≤ 1023) := by
  rw [blockHeaderSizes]
  simp (disch := omega) only [add64_eq, mul64_eq]
  by_cases h : enc = 0
  · subst h; exact .inl ⟨rfl, rfl⟩
  · refine .inr ⟨by omega, ?_, by omega⟩
    simp (disch := omega) only [if_neg, sub_eq]
    rw [show (enc + 1) * 4 - 1 - 4 = (enc + 1) * 4 - 5 by omega]

theorem dictOfPropChecked_total (p : Nat) :
    (XzInt.dictOfProp p = none ∧ dictOfPropChecked p = some (.error ())) ∨
    (∃ d, XzInt.dictOfProp p = some d ∧ dictOfPropChecked p = some (.ok d) ∧ 4096 ≤ d ∧ d < 2 ^ 32) := by
  unfold dictOfPropChecked XzInt.dictOfProp
  split
  · exact .inl ⟨rfl, rfl⟩
  split
  · exact .inr ⟨_, rfl, rfl, by decide, by decide⟩
  -- 40 values of the property byte
  have : ∀ q, q < 40 → shl32 (2 + q % 2) (q / 2 + 11) = some ((2 + q % 2) * 2 ^ (q / 2 + 11)) ∧
      4096 ≤ (2 + q % 2) * 2 ^ (q / 2 + 11) ∧ (2 + q % 2) * 2 ^ (q / 2 + 11) < 2 ^ 32 := by decide
  obtain ⟨a, b, c⟩ := this p (by omega)
  rw [a]
  exact .inr ⟨_, rfl, rfl, b, c⟩

example : blockHeaderSizes 255 = some (.ok (1023, 1019)) := by rfl
example : dictOfPropChecked 39 = some (.ok (3 * 2 ^ 30)) := by rfl

theorem pad4_total (n : Nat) : ∃ k, pad4 n = some k ∧ k ≤ 3 ∧ (n + k) % 4 = 0 := by
  unfold pad4
  rw [sub_eq (by omega)]
  exact ⟨(4 - n % 4) % 4, rfl, by omega, by omega⟩

theorem lzipMemberSize_total (c : Nat) (hc : c < 2 ^ 63) : lzipMemberSize c = some (26 + c) := by
  unfold lzipMemberSize Consts.LZIP_HEADER_SIZE Consts.LZIP_TRAILER_SIZE
  simp (disch := omega) only [add64_eq]
  rw [show 6 + c + 20 = 26 + c by omega]

end GuardsPart

section ScanPart
open LzmaVerif Guards

section Scan
variable (fileSize : Nat) (memberSizeAt : Nat → Nat) (magicAt : Nat → Bool)

theorem scanLoop_succ (fuel cur : Nat) (acc : List Member) :
    scanLoop fileSize memberSizeAt magicAt (fuel + 1) cur acc =
      if cur = 0 then .ok acc
      else if cur < 20 then .error .leading
      else if memberSizeAt cur = 0 ∨ memberSizeAt cur > cur then .error .badSize
      else if cur - memberSizeAt cur + 4 > fileSize then .error .eof
      else if ¬ magicAt (cur - memberSizeAt cur) then .error .badMagic
      else scanLoop fileSize memberSizeAt magicAt fuel (cur - memberSizeAt cur)
        ({ start := cur - memberSizeAt cur, size := memberSizeAt cur } :: acc) := by
  rw [scanLoop]
  unfold Consts.LZIP_TRAILER_SIZE
  by_cases h0 : cur = 0
  · rw [if_pos h0, if_pos h0]
  rw [if_neg h0, if_neg h0]
  by_cases h1 : cur < 20
  · rw [if_pos h1, if_pos h1]
  rw [if_neg h1, if_neg h1]
  rw [sub_eq (by omega)]
  dsimp only
  by_cases h2 : memberSizeAt cur = 0 ∨ memberSizeAt cur > cur
  · rw [if_pos h2, if_pos h2]
  rw [if_neg h2, if_neg h2, sub_eq (by omega)]

/-- One iteration of the scan at position `cur`, for two amounts of fuel with answers `a`, `b`: either it answers by
itself, the same for both and never with a model-only error, or it has found a member in front of `cur` and both go on
from there. -/
def ScanStep (f f' cur : Nat) (acc : List Member) (a b : Except ScanErr (List Member)) : Prop :=
  (a = b ∧ (∀ ms, a = .ok ms → cur = 0 ∧ ms = acc) ∧ (∀ e, a = .error e → e ≠ .fuel ∧ e ≠ .arith)) ∨
  (20 ≤ cur ∧ 1 ≤ memberSizeAt cur ∧ memberSizeAt cur ≤ cur ∧ cur - memberSizeAt cur + 4 ≤ fileSize ∧
    magicAt (cur - memberSizeAt cur) = true ∧
    a = scanLoop fileSize memberSizeAt magicAt f (cur - memberSizeAt cur)
      ({ start := cur - memberSizeAt cur, size := memberSizeAt cur } :: acc) ∧
    b = scanLoop fileSize memberSizeAt magicAt f' (cur - memberSizeAt cur)
      ({ start := cur - memberSizeAt cur, size := memberSizeAt cur } :: acc))

variable {fileSize memberSizeAt magicAt} in
theorem ScanStep.ite {f f' cur : Nat} {acc : List Member} {c : Prop} [Decidable c] {e : ScanErr}
    {a b : Except ScanErr (List Member)} (h1 : e ≠ .fuel) (h2 : e ≠ .arith)
    (hn : ¬c → ScanStep fileSize memberSizeAt magicAt f f' cur acc a b) :
    ScanStep fileSize memberSizeAt magicAt f f' cur acc (if c then .error e else a) (if c then .error e else b) := by
  by_cases hc : c
  · rw [if_pos hc, if_pos hc]
    exact .inl ⟨rfl, nofun, fun _ h => by cases h; exact ⟨h1, h2⟩⟩
  · rw [if_neg hc, if_neg hc]
    exact hn hc

theorem scanLoop_step (f f' cur : Nat) (acc : List Member) :
    ScanStep fileSize memberSizeAt magicAt f f' cur acc
      (scanLoop fileSize memberSizeAt magicAt (f + 1) cur acc) (scanLoop fileSize memberSizeAt magicAt (f' + 1) cur acc) := by
  rw [scanLoop_succ, scanLoop_succ]
  by_cases h0 : cur = 0
  · rw [if_pos h0, if_pos h0]
    exact .inl ⟨rfl, fun _ h => by cases h; exact ⟨h0, rfl⟩, nofun⟩
  rw [if_neg h0, if_neg h0]
  refine .ite nofun nofun fun h1 => .ite nofun nofun fun h2 => .ite nofun nofun fun h3 => .ite nofun nofun fun hg => ?_
  exact .inr ⟨by omega, by omega, by omega, by omega, by simpa using hg, rfl, rfl⟩

theorem scanLoop_fuel_indep : ∀ (fuel fuel' cur : Nat) (acc : List Member), cur < fuel → cur < fuel' →
    scanLoop fileSize memberSizeAt magicAt fuel cur acc = scanLoop fileSize memberSizeAt magicAt fuel' cur acc
  | 0, _, _, _, h, _ => by omega
  | _, 0, _, _, _, h => by omega
  | f + 1, f' + 1, cur, acc, h, h' => by
    rcases scanLoop_step fileSize memberSizeAt magicAt f f' cur acc with ⟨e, _⟩ | ⟨_, _, _, _, _, e, e'⟩
    · exact e
    · rw [e, e']
      exact scanLoop_fuel_indep f f' _ _ (by omega) (by omega)

theorem scanLoop_error : ∀ (fuel cur : Nat) (acc : List Member) (e : ScanErr), cur < fuel →
    scanLoop fileSize memberSizeAt magicAt fuel cur acc = .error e → e ≠ .fuel ∧ e ≠ .arith
  | 0, _, _, _, h, _ => by omega
  | f + 1, cur, acc, e, hf, h => by
    rcases scanLoop_step fileSize memberSizeAt magicAt f f cur acc with ⟨_, _, he⟩ | ⟨_, _, _, _, _, e', _⟩
    · exact he e h
    · exact scanLoop_error f _ _ e (by omega) (e' ▸ h)

theorem scanLoop_inv {P : Nat → List Member → Prop}
    (hstep : ∀ cur acc, P cur acc → 1 ≤ memberSizeAt cur → memberSizeAt cur ≤ cur →
      cur - memberSizeAt cur + 4 ≤ fileSize → magicAt (cur - memberSizeAt cur) = true →
      P (cur - memberSizeAt cur) ({ start := cur - memberSizeAt cur, size := memberSizeAt cur } :: acc)) :
    ∀ (fuel cur : Nat) (acc : List Member), P cur acc →
      ∀ ms, scanLoop fileSize memberSizeAt magicAt fuel cur acc = .ok ms → P 0 ms
  | 0, _, _, _, _, h => nomatch h
  | f + 1, cur, acc, hP, ms, h => by
    rcases scanLoop_step fileSize memberSizeAt magicAt f f cur acc with ⟨_, hok, _⟩ | ⟨_, h1, h2, h3, h4, e, _⟩
    · obtain ⟨rfl, rfl⟩ := hok ms h
      exact hP
    · exact scanLoop_inv hstep f _ _ (hstep cur acc hP h1 h2 h3 h4) ms (e ▸ h)

/-- members laid end to end from `a` to `b`, each at least `k` bytes -/
def Contig (k : Nat) : Nat → List Member → Nat → Prop
  | a, [], b => a = b
  | a, m :: ms, b => m.start = a ∧ k ≤ m.size ∧ Contig k (a + m.size) ms b

theorem Contig.length_le {k : Nat} : ∀ {a b : Nat} {ms : List Member}, Contig k a ms b → a + k * ms.length ≤ b
  | _, _, [], h => Nat.le_of_eq h
  | _, _, _ :: ms, ⟨_, h2, h3⟩ => by
    have := length_le h3
    rw [List.length_cons, Nat.mul_succ]
    omega

theorem Contig.inside {k : Nat} : ∀ {a b : Nat} {ms : List Member}, Contig k a ms b →
    ∀ m ∈ ms, a ≤ m.start ∧ m.start + m.size ≤ b ∧ k ≤ m.size := by
  intro a b ms
  induction ms generalizing a with
  | nil => exact fun _ _ hm => nomatch hm
  | cons m0 ms ih =>
    intro ⟨h1, h2, h3⟩ m hm
    have hle := Nat.le_trans (Nat.le_add_right _ _) h3.length_le
    rcases List.mem_cons.mp hm with rfl | hm
    · exact ⟨by omega, by omega, h2⟩
    · exact ⟨by have := (ih h3 m hm).1; omega, (ih h3 m hm).2⟩

theorem Contig.pairwise {k : Nat} : ∀ {a b : Nat} {ms : List Member}, Contig k a ms b →
    ms.Pairwise (fun m1 m2 => m1.start + m1.size ≤ m2.start)
  | _, _, [], _ => .nil
  | _, _, _ :: _, ⟨h1, _, h3⟩ => .cons (fun m hm => by have := (h3.inside m hm).1; omega) (pairwise h3)

theorem Contig.sum_sizes {k : Nat} : ∀ {a b : Nat} {ms : List Member}, Contig k a ms b →
    a + (ms.map (·.size)).sum = b
  | _, _, [], h => h
  | _, _, _ :: _, ⟨_, _, h3⟩ => by
    have := sum_sizes h3
    rw [List.map_cons, List.sum_cons]
    omega

theorem Contig.covers {k : Nat} : ∀ {a b : Nat} {ms : List Member}, Contig k a ms b →
    ∀ p, a ≤ p → p < b → ∃ m ∈ ms, m.start ≤ p ∧ p < m.start + m.size := by
  intro a b ms
  induction ms generalizing a with
  | nil => exact fun h p h1 h2 => absurd (h ▸ h1) (Nat.not_le_of_lt h2)
  | cons m0 ms ih =>
    intro ⟨g1, g2, g3⟩ p h1 h2
    by_cases hp : p < a + m0.size
    · exact ⟨m0, List.mem_cons_self, by omega, by omega⟩
    · obtain ⟨m, hm, q⟩ := ih g3 p (by omega) h2
      exact ⟨m, List.mem_cons_of_mem _ hm, q⟩

variable {fileSize memberSizeAt magicAt} in
theorem scanMembers_eq_ok {ms : List Member} (h : scanMembers fileSize memberSizeAt magicAt = .ok ms) :
    Consts.LZIP_HEADER_SIZE + Consts.LZIP_TRAILER_SIZE ≤ fileSize ∧ ms ≠ [] ∧
      scanLoop fileSize memberSizeAt magicAt (fileSize + 1) fileSize [] = .ok ms := by
  unfold scanMembers scanMembersFuel at h
  split at h
  · cases h
  next h26 =>
  split at h
  · cases h
  · cases h
  · next ms' hne heq => cases h; exact ⟨Nat.le_of_not_lt h26, hne, heq⟩

variable {fileSize memberSizeAt magicAt} in
theorem scanMembers_error {e : ScanErr} (h : scanMembers fileSize memberSizeAt magicAt = .error e) :
    e ≠ .fuel ∧ e ≠ .arith := by
  unfold scanMembers scanMembersFuel at h
  split at h
  · cases h; exact ⟨nofun, nofun⟩
  split at h
  · next heq => cases h; exact scanLoop_error _ _ _ _ _ _ _ (Nat.lt_succ_self _) heq
  · cases h; exact ⟨nofun, nofun⟩
  · cases h

theorem scanMembers_fuel_indep (fuel : Nat) (h : fileSize + 1 ≤ fuel) :
    scanMembersFuel fuel fileSize memberSizeAt magicAt = scanMembers fileSize memberSizeAt magicAt := by
  unfold scanMembers scanMembersFuel
  rw [scanLoop_fuel_indep fileSize memberSizeAt magicAt fuel (fileSize + 1) fileSize [] (by omega) (by omega)]

theorem Contig.cons_sub {k cur sz b : Nat} {acc : List Member} (hc : Contig k cur acc b) (hk : k ≤ sz) (hsz : sz ≤ cur) :
    Contig k (cur - sz) ({ start := cur - sz, size := sz } :: acc) b :=
  ⟨rfl, hk, (Nat.sub_add_cancel hsz).symm ▸ hc⟩

theorem scanMembers_ok {ms : List Member} (h : scanMembers fileSize memberSizeAt magicAt = .ok ms) :
    ms ≠ [] ∧ Contig 1 0 ms fileSize := by
  obtain ⟨_, hne, h⟩ := scanMembers_eq_ok h
  exact ⟨hne, scanLoop_inv (P := fun cur acc => Contig 1 cur acc fileSize) _ _ _
    (fun _ _ hc h1 h2 _ _ => hc.cons_sub h1 h2) (fileSize + 1) fileSize [] rfl ms h⟩

/-- members = loop iterations = dispatched work units; the sizes are those of the work-unit buffers
(`vec![0; member.compressed_size]`) -/
theorem scanMembers_count {ms : List Member} (h : scanMembers fileSize memberSizeAt magicAt = .ok ms) :
    ms.length ≤ fileSize ∧ (ms.map (·.size)).sum ≤ fileSize ∧
      ∀ m ∈ ms, dispatchAlloc m = some m.size ∨ 2 ^ 64 ≤ fileSize := by
  obtain ⟨_, hc⟩ := scanMembers_ok fileSize memberSizeAt magicAt h
  have h1 := hc.length_le
  have h2 := hc.sum_sizes
  refine ⟨by omega, by omega, fun m hm => ?_⟩
  have := (hc.inside m hm).2.1
  by_cases hlt : m.size < 2 ^ 64
  · exact .inl (castUsize_eq hlt)
  · exact .inr (by omega)

theorem scanMembers_members {ms : List Member} (h : scanMembers fileSize memberSizeAt magicAt = .ok ms) :
    ∀ m ∈ ms, magicAt m.start = true ∧ memberSizeAt (m.start + m.size) = m.size := by
  refine scanLoop_inv (P := fun _ acc => ∀ m ∈ acc, magicAt m.start = true ∧ memberSizeAt (m.start + m.size) = m.size)
    _ _ _ (fun cur acc hacc _ h2 _ hg m hm => ?_) _ _ _ (fun _ hm => by cases hm) ms (scanMembers_eq_ok h).2.2
  rcases List.mem_cons.mp hm with rfl | hm
  · exact ⟨hg, by rw [show cur - memberSizeAt cur + memberSizeAt cur = cur from Nat.sub_add_cancel h2]⟩
  · exact hacc m hm

/-- the only property of the magic test that matters: `LZIP` does not overlap a shifted copy of itself -/
def NoOverlap (magicAt : Nat → Bool) : Prop :=
  ∀ p, magicAt p = true → magicAt (p + 1) = false ∧ magicAt (p + 2) = false ∧ magicAt (p + 3) = false

/-- the scan stands at the end of the file or at the magic of the member found last, and the member in front of it
starts with the magic too: so that member has at least 4 bytes -/
theorem scanLoop_spec4 (hno : NoOverlap magicAt) : ∀ (fuel cur : Nat) (acc : List Member), cur < fuel →
    Contig 4 cur acc fileSize → (cur = fileSize ∨ magicAt cur = true) →
    ∀ ms, scanLoop fileSize memberSizeAt magicAt fuel cur acc = .ok ms → Contig 4 0 ms fileSize := by
  intro fuel cur acc _ hc hcur ms h
  refine (scanLoop_inv (P := fun cur acc => Contig 4 cur acc fileSize ∧ (cur = fileSize ∨ magicAt cur = true))
    _ _ _ (fun cur acc ⟨hc, hcur⟩ h1 h2 h3 hg => ⟨hc.cons_sub ?_ h2, .inr hg⟩) _ _ _ ⟨hc, hcur⟩ ms h).1
  rcases hcur with hfs | hmag
  · omega
  · obtain ⟨n1, n2, n3⟩ := hno _ hg
    have : memberSizeAt cur = 1 ∨ memberSizeAt cur = 2 ∨ memberSizeAt cur = 3 ∨ 4 ≤ memberSizeAt cur := by omega
    rcases this with e | e | e | e
    · rw [e] at n1 h2; rw [Nat.sub_add_cancel h2, hmag] at n1; cases n1
    · rw [e] at n2 h2; rw [Nat.sub_add_cancel h2, hmag] at n2; cases n2
    · rw [e] at n3 h2; rw [Nat.sub_add_cancel h2, hmag] at n3; cases n3
    · exact e

theorem scanMembers_tiles4 (hno : NoOverlap magicAt) {ms : List Member}
    (h : scanMembers fileSize memberSizeAt magicAt = .ok ms) :
    ms ≠ [] ∧ Contig 4 0 ms fileSize :=
  ⟨(scanMembers_eq_ok h).2.1, scanLoop_spec4 fileSize memberSizeAt magicAt hno (fileSize + 1) fileSize [] (Nat.lt_succ_self _) rfl
    (.inl rfl) ms (scanMembers_eq_ok h).2.2⟩

theorem scanMembers_count4 (hno : NoOverlap magicAt) {ms : List Member}
    (h : scanMembers fileSize memberSizeAt magicAt = .ok ms) :
    (∀ m ∈ ms, 4 ≤ m.size) ∧ ms.length ≤ fileSize / 4 := by
  have hc := (scanMembers_tiles4 fileSize memberSizeAt magicAt hno h).2
  have := hc.length_le
  exact ⟨fun m hm => (hc.inside m hm).2.2, by omega⟩

end Scan

theorem lzip_magic_noOverlap_aux (l : List Nat) (h : (l.take 4 == Consts.LZIP_MAGIC) = true) :
    ((l.drop 1).take 4 == Consts.LZIP_MAGIC) = false ∧ ((l.drop 2).take 4 == Consts.LZIP_MAGIC) = false ∧
      ((l.drop 3).take 4 == Consts.LZIP_MAGIC) = false := by
  unfold Consts.LZIP_MAGIC at *
  rcases l with _ | ⟨a, _ | ⟨b, _ | ⟨c, _ | ⟨d, r⟩⟩⟩⟩
  · simp at h
  · simp at h
  · simp at h
  · simp at h
  · obtain ⟨rfl, rfl, rfl, rfl⟩ : a = 76 ∧ b = 90 ∧ c = 73 ∧ d = 80 := by simpa using h
    simp

theorem magicOf_noOverlap (file : List Nat) : NoOverlap (magicOf file) := by
  intro p hp
  unfold magicOf at *
  have := lzip_magic_noOverlap_aux (file.drop p) hp
  simpa only [List.drop_drop] using this

theorem scanFile_total (file : List Nat) :
    match scanFile file with
    | .ok ms => ms ≠ [] ∧ ms.length ≤ file.length / 4 ∧
        (∀ m ∈ ms, 4 ≤ m.size ∧ m.start + m.size ≤ file.length) ∧
        ms.Pairwise (fun m1 m2 => m1.start + m1.size ≤ m2.start) ∧
        (ms.map (·.size)).sum = file.length
    | .error e => e ≠ .fuel ∧ e ≠ .arith := by
  unfold scanFile
  cases hres : scanMembers file.length (memberSizeOf file) (magicOf file) with
  | error e => exact scanMembers_error hres
  | ok ms =>
    obtain ⟨hne, hc⟩ := scanMembers_tiles4 _ _ _ (magicOf_noOverlap file) hres
    have h1 := hc.length_le
    have h2 := hc.sum_sizes
    exact ⟨hne, by omega, fun m hm => ⟨(hc.inside m hm).2.2, (hc.inside m hm).2.1⟩, hc.pairwise, by omega⟩

/-- the members `scan_members` returns for an accepted file tile it exactly from byte 0 to its end, and each
starts with the magic and ends with a trailer announcing its size -/
theorem scanFile_tiles (file : List Nat) {ms : List Member} (h : scanFile file = .ok ms) :
    ms ≠ [] ∧ Contig 4 0 ms file.length ∧
    (∀ p, p < file.length → ∃ m ∈ ms, m.start ≤ p ∧ p < m.start + m.size) ∧
    (∀ m ∈ ms, magicOf file m.start = true ∧ memberSizeOf file (m.start + m.size) = m.size) := by
  unfold scanFile at h
  obtain ⟨hne, hc⟩ := scanMembers_tiles4 _ _ _ (magicOf_noOverlap file) h
  exact ⟨hne, hc, fun p hp => hc.covers p (Nat.zero_le p) hp, scanMembers_members _ _ _ h⟩

/-- from any position `0 < cur < 20` the answer is `leading` (bytes in front of the first member) -/
theorem scanLoop_leading (fuel cur : Nat) (acc : List Member) (h0 : 0 < cur) (h20 : cur < 20) :
    scanLoop fileSize memberSizeAt magicAt (fuel + 1) cur acc = .error .leading := by
  rw [scanLoop_succ, if_neg (by omega), if_pos h20]

end ScanPart

section ScanEx
open LzmaVerif Guards

/-- a 26-byte "member": magic, version, dictionary byte, and a trailer whose `member_size` field says 26 -/
def exMember : List Nat := [76, 90, 73, 80, 1, 12] ++ [0, 0, 0, 0] ++ [0, 0, 0, 0, 0, 0, 0, 0] ++ [26, 0, 0, 0, 0, 0, 0, 0]

theorem exScan : scanFile (exMember ++ exMember) = .ok [⟨0, 26⟩, ⟨26, 26⟩] := by
  decide +kernel

example : ([⟨0, 26⟩, ⟨26, 26⟩] : List Member).length ≤ (exMember ++ exMember).length / 4 :=
  (scanMembers_count4 _ _ _ (magicOf_noOverlap _) exScan).2

example : Contig 4 0 [⟨0, 26⟩, ⟨26, 26⟩] (exMember ++ exMember).length := (scanFile_tiles _ exScan).2.1

/-- 3 bytes in front of the first member (the code before `d20d8cb` ignores them and answers
`.ok [⟨3, 26⟩, ⟨29, 26⟩]`), and a first member of which only the last 10 bytes are left -/
example : scanFile ([9, 9, 9] ++ exMember ++ exMember) = .error .leading := by decide +kernel
example : scanFile (exMember.drop 16 ++ exMember ++ exMember) = .error .leading := by decide +kernel

/-- …and a trailer announcing a member bigger than the file is an error, not a huge allocation -/
example : scanFile (exMember.take 18 ++ [255, 255, 255, 255, 255, 255, 255, 255]) = .error .badSize := by
  decide +kernel

end ScanEx

end LzmaVerif.Total
