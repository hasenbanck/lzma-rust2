import LzmaVerif.Proofs.FiltersFields
/-!
ARM Thumb BCJ filter (`arm_thumb_code`).  `Round` is shown on the bytes, in bit fields: the stored bytes are recognised
(`thumbBytes_rec`), the displacement read from them is the one stored (`thumbBytes_read`), and storing a destination
that agrees with the displacement of a recognised window gives the window back (`thumbBytes_src`); between the last
two, `shiftBy_inv`.  A window that is not recognised is only two bytes on, so the decoder's test reads a byte that a
later encoder step may rewrite: what it reads of it stays (`thumbSig`).  Core Lean only.
-/
namespace LzmaVerif.Filters
open LzmaVerif.Bits

def thumbRec (_ b1 _ b3 : Nat) : Prop := b3 &&& 0xF8 = 0xF8 ∧ b1 &&& 0xF8 = 0xF0

instance (b0 b1 b2 b3 : Nat) : Decidable (thumbRec b0 b1 b2 b3) :=
  inferInstanceAs (Decidable (b3 &&& 0xF8 = 0xF8 ∧ b1 &&& 0xF8 = 0xF0))

def thumbSrc (b0 b1 b2 b3 : Nat) : Nat := ((b1 &&& 7) <<< 19) ||| (b0 <<< 11) ||| ((b3 &&& 7) <<< 8) ||| b2

def thumbBytes (D : Nat) : Nat × Nat × Nat × Nat :=
  (D >>> 11, 0xF0 ||| ((D >>> 19) &&& 7), D, 0xF8 ||| ((D >>> 8) &&& 7))

/-- the four bytes `arm_thumb_code` stores for a recognised window -/
def thumbOut (enc : Bool) (st : St) (i b0 b1 b2 b3 : Nat) : Nat × Nat × Nat × Nat :=
  thumbBytes (shiftBy 2 enc (posAt st i) (thumbSrc b0 b1 b2 b3))

def thumbStep (enc : Bool) (st : St) (i : Nat) (b : Buf) : Buf × Nat :=
  (winStep thumbRec (thumbOut enc st) i b,
    if thumbRec (gb b i) (gb b (i + 1)) (gb b (i + 2)) (gb b (i + 3)) then 4 else 2)

theorem thumbLoop_eq_scan (enc : Bool) (st : St) : ∀ fuel i b,
    thumbLoop enc st fuel i b = scan 4 (thumbStep enc st) fuel i b :=
  eq_scan _ (fun _ _ => rfl) (fun n i b => by
    rw [thumbLoop]
    refine ite_congr rfl (fun _ => rfl) (fun _ => ?_)
    unfold thumbStep
    by_cases hr : thumbRec (gb b i) (gb b (i + 1)) (gb b (i + 2)) (gb b (i + 3))
    · rw [if_pos hr, winStep_pos i b hr, put4, sb_comm b _ _ (show i ≠ i + 1 by omega),
        sb_comm _ _ _ (show i + 2 ≠ i + 3 by omega)]
      simp only [thumbOut]
      exact if_pos hr
    · rw [if_neg hr, winStep_neg i b hr]
      exact if_neg hr)

theorem thumbStep_bytes (enc : Bool) (st : St) (i : Nat) (b : Buf) (h : BBytes b) : BBytes (thumbStep enc st i b).1 :=
  winStep_bytes i b h

/-- Thumb `BL` is a pair of little-endian halfwords `11110 hi11`, `11111 lo11`; the displacement (in halfwords)
    is `hi11 : lo11`. -/
theorem thumbRec_iff (b0 b1 b2 b3 : Nat) : thumbRec b0 b1 b2 b3 ↔ fld b3 3 5 = 31 ∧ fld b1 3 5 = 30 := by
  rw [thumbRec, mask_F8, mask_F8, show (0xF8 : Nat) = 31 <<< 3 from rfl, show (0xF0 : Nat) = 30 <<< 3 from rfl,
    Nat.shiftLeft_eq, Nat.shiftLeft_eq, Nat.shiftLeft_eq, Nat.shiftLeft_eq, Nat.mul_left_inj (by decide),
    Nat.mul_left_inj (by decide)]

theorem thumbSrc_fields (b0 b1 b2 b3 : Nat) :
    thumbSrc b0 b1 b2 b3 = fld b1 0 3 <<< 19 ||| b0 <<< 11 ||| fld b3 0 3 <<< 8 ||| b2 := by
  rw [thumbSrc, mask_7, mask_7]

theorem thumbBytes_rec (b0 b2 D : Nat) : thumbRec b0 ((thumbBytes D).2.1 % 256) b2 ((thumbBytes D).2.2.2 % 256) := by
  rw [thumbRec_iff]
  fld_simp [thumbBytes, mod256_fld, mask_7, show (0xF8 : Nat) = 31 <<< 3 from rfl, show (0xF0 : Nat) = 30 <<< 3 from rfl]
  decide

theorem thumbBytes_read (D : Nat) :
    thumbSrc ((thumbBytes D).1 % 256) ((thumbBytes D).2.1 % 256) ((thumbBytes D).2.2.1 % 256)
      ((thumbBytes D).2.2.2 % 256) % 2 ^ 22 = D % 2 ^ 22 := by
  have e : ∀ x, x % 2 ^ 22 = fld x 0 8 ||| (fld x 8 3 ||| (fld x 11 8 ||| fld x 19 3 <<< 8) <<< 3) <<< 8 := by
    intro x
    rw [fld_cat x 11 8 19 3 rfl, fld_cat x 8 3 11 _ rfl, fld_cat x 0 8 8 _ rfl, fld_zero]
  rw [e, e D]
  fld_simp [thumbSrc_fields, thumbBytes, mod256_fld, mask_7, show (0xF8 : Nat) = 31 <<< 3 from rfl,
    show (0xF0 : Nat) = 30 <<< 3 from rfl]

theorem thumbBytes_src (b0 b1 b2 b3 D : Nat) (h0 : b0 < 256) (h2 : b2 < 256) (hr : thumbRec b0 b1 b2 b3)
    (hD : D % 2 ^ 22 = thumbSrc b0 b1 b2 b3 % 2 ^ 22) :
    (thumbBytes D).1 % 256 = fld b0 0 8 ∧ (thumbBytes D).2.1 % 256 = fld b1 0 8 ∧
    (thumbBytes D).2.2.1 % 256 = fld b2 0 8 ∧ (thumbBytes D).2.2.2 % 256 = fld b3 0 8 := by
  have e : ∀ lo n, lo + n ≤ 22 → fld D lo n = fld (thumbSrc b0 b1 b2 b3) lo n := fun lo n => fld_congr hD lo n
  rw [thumbRec_iff] at hr
  fld_simp [thumbBytes, mod256_fld, mask_7, e, thumbSrc_fields, show (0xF8 : Nat) = 31 <<< 3 from rfl,
    show (0xF0 : Nat) = 30 <<< 3 from rfl, fld_byte_hi h0, fld_byte_hi h2, ← hr.1, ← hr.2, fld_shl_lo, fld_fld_wide,
    Nat.or_comm (fld b1 3 5 <<< 3), Nat.or_comm (fld b3 3 5 <<< 3), fld_cat, and_self]

theorem thumb_round (st : St) (i : Nat) (hp : posAt st i % 2 = 0) :
    Round thumbRec (thumbOut true st i) (thumbOut false st i) := by
  constructor
  · intro b0 b1 b2 b3 _ _ _ _ _
    exact thumbBytes_rec _ _ _
  · intro b0 b1 b2 b3 h0 h1 h2 h3 hr d hd
    have := thumbBytes_src b0 b1 b2 b3 _ h0 h2 hr
      (shiftBy_inv 2 (2 ^ 22) (by decide) (by decide) (posAt st i) hp _ _ (thumbBytes_read _))
    rw [fld_of_lt (n := 8) h0, fld_of_lt (n := 8) h1, fld_of_lt (n := 8) h2, fld_of_lt (n := 8) h3] at this
    rw [hd]
    exact this

/-- what a decoder step may look at beyond its own advance: the top five bits of the byte at offset 1 -/
def thumbSig (r x : Nat) : Nat := if r = 1 then x &&& 0xF8 else 0

theorem thumbStep_inv (st : St) (hp : st.pos % 2 = 0) (i : Nat) (b : Buf) (hi : i % 2 = 0) (hB : BBytes b)
    (hw : i + 4 ≤ b.size) : thumbStep false st i (thumbStep true st i b).1 = (b, (thumbStep true st i b).2) := by
  unfold thumbStep
  refine Prod.ext ?_ ?_
  · exact winStep_inv (O := fun enc => thumbOut enc st) i
      (thumb_round st i (posAt_aligned st i 2 (by decide) hp hi)) b hB hw
  · by_cases hr : thumbRec (gb b i) (gb b (i + 1)) (gb b (i + 2)) (gb b (i + 3))
    · obtain ⟨_, g1, _, g3⟩ := put4_get b i
        (thumbOut true st i (gb b i) (gb b (i + 1)) (gb b (i + 2)) (gb b (i + 3))) hw
      simp only [winStep_pos i b hr, g1, g3, if_pos hr]
      exact if_pos (thumbBytes_rec _ _ _)
    · simp only [winStep_neg i b hr]

theorem thumbStep_frame (enc : Bool) (st : St) (i : Nat) (b : Buf) (k : Nat)
    (hk : k < i ∨ i + (thumbStep enc st i b).2 ≤ k) : gb (thumbStep enc st i b).1 k = gb b k := by
  unfold thumbStep at hk ⊢
  by_cases hr : thumbRec (gb b i) (gb b (i + 1)) (gb b (i + 2)) (gb b (i + 3))
  · rw [if_pos hr] at hk
    exact winStep_frame i b k hk
  · exact congrArg (gb · k) (winStep_neg i b hr)

theorem thumbStep_sig (st : St) (i : Nat) (b : Buf) (hw : i + 4 ≤ b.size) :
    gb (thumbStep true st i b).1 (i + 1) &&& 0xF8 = gb b (i + 1) &&& 0xF8 := by
  unfold thumbStep
  by_cases hr : thumbRec (gb b i) (gb b (i + 1)) (gb b (i + 2)) (gb b (i + 3))
  · rw [winStep_pos i b hr, (put4_get b i _ hw).2.1, hr.2]
    exact (mask_F8 _).trans (congrArg (· <<< 3) ((thumbRec_iff 0 _ 0 _).mp (thumbBytes_rec 0 0 _)).2)
  · rw [winStep_neg i b hr]

theorem thumb_stepOK (st : St) (hp : st.pos % 2 = 0) :
    StepOK 4 (fun i => i % 2 = 0) thumbSig (thumbStep true st) (thumbStep false st) where
  size_e := fun _ _ => winStep_size _ _
  size_d := fun _ _ => winStep_size _ _
  adv_V := fun i b h => by
    show (i + if _ then 4 else 2) % 2 = 0
    split <;> omega
  frame_e := thumbStep_frame true st
  frame_d := thumbStep_frame false st
  bytes_e := fun _ _ => winStep_bytes _ _
  sig_e := by
    intro j b E _ hw hE r
    unfold thumbSig
    split
    next h1 =>
      have h2 : j + 1 < j + (thumbStep true st j b).2 := by
        show j + 1 < j + if _ then 4 else 2
        split <;> omega
      rw [h1, hE _ h2, thumbStep_sig st j b hw]
    next => rfl
  loc_d := by
    intro i b b' _ hs hw hag hsig
    have h1 : gb b' (i + 1) = gb b (i + 1) := hag _ (by omega) (by
      show i + 1 < i + if _ then 4 else 2
      split <;> omega)
    unfold thumbStep at hag hsig ⊢
    by_cases hr : thumbRec (gb b i) (gb b (i + 1)) (gb b (i + 2)) (gb b (i + 3))
    · rw [if_pos hr] at hag ⊢
      have hr' : thumbRec (gb b' i) (gb b' (i + 1)) (gb b' (i + 2)) (gb b' (i + 3)) := by
        rw [h1, hag (i + 3) (by omega) (by omega)]
        exact hr
      exact ⟨if_pos hr', (winStep_agree i b b' ⟨hs, hag⟩).2⟩
    · rw [if_neg hr] at hag hsig ⊢
      have h3 := hsig 1
      simp only [thumbSig, if_pos] at h3
      have hr' : ¬ thumbRec (gb b' i) (gb b' (i + 1)) (gb b' (i + 2)) (gb b' (i + 3)) := by
        unfold thumbRec at hr ⊢
        rw [h1, ← h3]
        exact hr
      rw [winStep_neg i b hr, winStep_neg i b' hr']
      exact ⟨if_neg hr', hag⟩
  inv := fun i b hi hB hw => thumbStep_inv st hp i b hi hB hw

theorem thumb_inv (start : Nat) (hs : start % 2 = 0) (xs : List Nat) (h : Bytes xs) :
    oneShot .armThumb false start (oneShot .armThumb true start xs) = xs := by
  have hp : (St.init .armThumb start).pos % 2 = 0 := by simp only [St.init]; omega
  simp only [oneShot, code, thumbLoop_eq_scan]
  exact scan_inv_list (thumb_stepOK _ hp) (by rfl) xs h

end LzmaVerif.Filters
