/-
  `Finder.Sim`: related states give the same answers; then the parses are equal (`fastParse_sim`).  Instance for
  evaluation: HC4 on views (`hc4_view_sim`), relation `s.view = v ∧ Sized`; `Sized` makes every hash an existing slot,
  so a table write is `upd` of the read function.

  There is no such lemma for the normal parser: its run witness (`Props/C01Normal.lean`) checks the finder's answers on
  views (`hc4AnswersOk`) and goes through `hc4SoundOn` and the general validity theorem instead.  The renormalising
  finders get no `Finder.Sim` instance here (no `Finder` is built from `findN` / `skipN`);
  `C01Renorm.hc4_renorm_step` / `bt4_renorm_step` state the `find` and `skip` fields for them.
-/
import LzmaVerif.Model.EncFast
import LzmaVerif.Proofs.Hc4View

namespace LzmaVerif.EncFast
open LzmaVerif Mf Lzma

structure Finder.Sim {σ τ : Type} (F : Finder σ) (G : Finder τ) (d : Array UInt8) (R : σ → τ → Prop) : Prop where
  init : R F.init G.init
  find : ∀ {s t}, R s t → (F.find d s).1 = (G.find d t).1 ∧ R (F.find d s).2 (G.find d t).2
  skip : ∀ {s t} (n : Nat), R s t → R (F.skip d n s) (G.skip d n t)

section
variable {σ τ : Type} {F : Finder σ} {G : Finder τ} {d : Array UInt8} {R : σ → τ → Prop}

/-- two steps that differ in the finder state only -/
def Step.Rel (R : σ → τ → Prop) (a : Step σ) (b : Step τ) : Prop :=
  a.sym = b.sym ∧ a.len = b.len ∧ R a.mf b.mf ∧ a.ms = b.ms ∧ a.ra = b.ra

theorem Step.Rel.ite {c : Prop} [Decidable c] {a a' : Step σ} {b b' : Step τ} (h1 : c → Step.Rel R a b)
    (h2 : ¬ c → Step.Rel R a' b') : Step.Rel R (if c then a else a') (if c then b else b') := by
  split
  · exact h1 ‹_›
  · exact h2 ‹_›

/-- every branch of `nextCore` leaves the finder as it was, after a `skip`, after the look-ahead `find`, or after
    both: the third component of each leaf says which -/
theorem nextCore_sim (h : Finder.Sim F G d R) (P : FastParams) (nice p : Nat) (c : Coder) {mf : σ} {mg : τ}
    (hm : R mf mg) (ms : List Match) :
    Step.Rel R (nextCore F P nice d p c mf ms) (nextCore G P nice d p c mg ms) := by
  obtain ⟨e, r⟩ := h.find hm
  unfold nextCore
  simp only [e]
  refine Step.Rel.ite (fun _ => ⟨rfl, rfl, hm, rfl, rfl⟩) fun _ => ?_
  split
  · exact ⟨rfl, rfl, h.skip _ hm, rfl, rfl⟩
  · split
    · exact ⟨rfl, rfl, h.skip _ hm, rfl, rfl⟩
    · exact Step.Rel.ite (fun _ => ⟨rfl, rfl, h.skip _ hm, rfl, rfl⟩) fun _ =>
        Step.Rel.ite (fun _ => ⟨rfl, rfl, hm, rfl, rfl⟩) fun _ =>
        Step.Rel.ite (fun _ => ⟨rfl, rfl, r, rfl, rfl⟩) fun _ =>
        Step.Rel.ite (fun _ => ⟨rfl, rfl, r, rfl, rfl⟩) fun _ => ⟨rfl, rfl, h.skip _ r, rfl, rfl⟩

theorem nextSymbol_sim (h : Finder.Sim F G d R) (P : FastParams) (nice p : Nat) (c : Coder) {mf : σ} {mg : τ}
    (hm : R mf mg) (ms : List Match) (ra : Nat) :
    Step.Rel R (nextSymbol F P nice d p c mf ms ra) (nextSymbol G P nice d p c mg ms ra) := by
  unfold nextSymbol
  by_cases h0 : ra = 0
  · simp only [if_pos h0]
    obtain ⟨e, r⟩ := h.find hm
    rw [e]
    exact nextCore_sim h P nice p c r _
  · simp only [if_neg h0]
    exact nextCore_sim h P nice p c hm _

theorem loop_sim (h : Finder.Sim F G d R) (P : FastParams) (nice : Nat) :
    ∀ (fuel p : Nat) (c : Coder) {mf : σ} {mg : τ}, R mf mg → ∀ (ms : List Match) (ra : Nat) (acc : List Sym),
      loop F P nice d fuel p c mf ms ra acc = loop G P nice d fuel p c mg ms ra acc
  | 0, _, _, _, _, _, _, _, _ => rfl
  | fuel + 1, p, c, mf, mg, hm, ms, ra, acc => by
    rw [loop, loop]
    split
    · obtain ⟨e1, e2, r, e4, e5⟩ := nextSymbol_sim h P nice p c hm ms ra
      dsimp only
      rw [e1, e2, e4, e5]
      exact loop_sim h P nice fuel _ _ r _ _ _
    · rfl

theorem fastParse_sim (h : Finder.Sim F G d R) (P : FastParams) (nice : Nat) :
    fastParse F P nice d = fastParse G P nice d := by
  unfold fastParse
  split
  · rfl
  · exact loop_sim h P nice _ _ _ (h.skip 1 h.init) _ _ _

end

/-- HC4 on views (`Proofs/Hc4View.lean`) -/
def hc4ViewFinder (H : Hc4.Hc4Params) (c : Hc4.Cfg) : Finder Hc4.View :=
  { init := Hc4.View.init H c
    find := fun d v => (v.find H c d, v.skip1 H c d)
    skip := fun d n v => Hc4.View.skip H c d n v }

theorem hc4_view_sim (H : Hc4.Hc4Params) (c : Hc4.Cfg) (d : Array UInt8)
    (h2 : 0 < H.hash.hash2Size) (h3 : 0 < H.hash.hash3Size) (hm : 1 ≤ c.mlmax) :
    Finder.Sim (hc4Finder H c) (hc4ViewFinder H c) d fun s v => s.view = v ∧ Hc4.Sized H c s :=
  ⟨⟨Hc4.view_init H c, Array.size_replicate, Array.size_replicate, Array.size_replicate⟩,
   fun {s t} h => by
    obtain ⟨rfl, hs⟩ := h
    show (Hc4.find H c d s).1 = _ ∧ (Hc4.find H c d s).2.view = _ ∧ Hc4.Sized H c (Hc4.find H c d s).2
    rw [Hc4.find_snd H c d s hm]
    exact ⟨Hc4.view_find H c d s hm, Hc4.view_skip1 H c d h2 h3 s hs⟩,
   fun {s t} n h => by
    obtain ⟨rfl, hs⟩ := h
    exact Hc4.view_skip H c d h2 h3 n s hs⟩

end LzmaVerif.EncFast
