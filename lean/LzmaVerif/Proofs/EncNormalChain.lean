/-
  Normal encoder (`Model/EncNormal.lean`): the symbols one run of the optimiser hands out, what makes them valid
  (`ChainOk`, over `SymAt` of `Proofs/EncFastLoop.lean`) and what a run guarantees (`StepOk`).  The probabilities, price tables and the contents of `opts[]`
  influence WHICH parse is chosen, never whether it is valid.
-/
import LzmaVerif.Model.EncNormal
import LzmaVerif.Proofs.EncFastLoop

namespace LzmaVerif.EncNormal
open LzmaVerif Mf Lzma Rc EncFast EncPrices
open LzmaVerif.Mf.Hc4 (Eqs)
open LzmaVerif.Lzma2W (histOf)

def ChainOk (d : Array UInt8) (dict : Nat) : List (Sym × Nat) → Nat → Coder → Prop
  | [], _, _ => True
  | (s, len) :: rest, q, c =>
    1 ≤ len ∧ q + len ≤ d.size ∧ SymAt d dict q c s len ∧ ChainOk d dict rest (q + len) (c.apply s)

def chainLen : List (Sym × Nat) → Nat
  | [] => 0
  | (_, len) :: rest => len + chainLen rest

def applyAll (c : Coder) : List (Sym × Nat) → Coder
  | [] => c
  | (s, _) :: rest => applyAll (c.apply s) rest

theorem chain_run {d : Array UInt8} {dict : Nat} (dictBuf : Nat) (hdb : min dict d.size ≤ dictBuf)
    (h32 : dict ≤ 2 ^ 32) :
    ∀ (syms : List (Sym × Nat)) (q : Nat) (c : Coder),
      ChainOk d dict syms q c → RepsLt c q → RepsLt c dict → q ≤ d.size →
      (∀ rest, parseRun dictBuf (syms.map (·.1) ++ rest) c (histOf d q) =
        parseRun dictBuf rest (applyAll c syms) (histOf d (q + chainLen syms))) ∧
        RepsLt (applyAll c syms) (q + chainLen syms) ∧ RepsLt (applyAll c syms) dict ∧ q + chainLen syms ≤ d.size
  | [], q, c, _, hrp, hrd, hq => ⟨fun _ => rfl, hrp, hrd, hq⟩
  | (s, len) :: syms, q, c, hc, hrp, hrd, hq => by
    obtain ⟨hl1, hlle, hsym, hrest⟩ := hc
    obtain ⟨hstep, hrp1, hrd1⟩ := sym_run dictBuf hdb h32 s len q c hq hsym hrp hrd
    have ih := chain_run dictBuf hdb h32 syms (q + len) (c.apply s) hrest hrp1 hrd1 hlle
    rw [Nat.add_assoc] at ih
    exact ⟨fun rest => (hstep _).trans (ih.1 rest), ih.2⟩

theorem encodeSyms_eq (pr : Params) (d : Array UInt8) :
    ∀ (syms : List (Sym × Nat)) (q : Nat) (c : Coder) (ps : Probs) (pt : PriceSt), ∃ ps' pt', ∀ acc,
      encodeSyms pr d syms q c ps pt acc =
        (q + chainLen syms, applyAll c syms, ps', pt', (syms.map (·.1)).reverse ++ acc)
  | [], _, _, ps, pt => ⟨ps, pt, fun _ => rfl⟩
  | (s, len) :: syms, q, c, ps, pt => by
    obtain ⟨ps', pt', h⟩ := encodeSyms_eq pr d syms (q + len) (encodeSym pr d q c ps pt s).1
      (encodeSym pr d q c ps pt s).2.1 (encodeSym pr d q c ps pt s).2.2
    refine ⟨ps', pt', fun acc => ?_⟩
    rw [encodeSyms, h (s :: acc), chainLen, Nat.add_assoc, List.map_cons, List.reverse_cons, List.append_assoc]
    rfl

structure StepOk {σ : Type} {F : Finder σ} {d : Array UInt8} {dict : Nat}
    (FS : FinderSound F d dict 273) (n p : Nat) (c : Coder) (st : Step σ) : Prop where
  progress : 1 ≤ chainLen st.syms
  chain : ChainOk d dict st.syms p c
  optsSize : st.opts.size = n
  mfR : FS.R st.mf
  mfPos : FS.pos st.mf = p + chainLen st.syms + st.ra
  ra : st.ra = 0 ∨ (st.ra = 1 ∧ (∀ m ∈ st.ms,
        ValidMatch d dict (p + chainLen st.syms) (min 273 (d.size - (p + chainLen st.syms))) m) ∧
        lensIncreasing st.ms = true)

end LzmaVerif.EncNormal
