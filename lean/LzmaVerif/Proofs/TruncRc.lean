import LzmaVerif.Proofs.ProgRun
/-!
# Truncation, level 1: the range decoder is monotone in its input

`ExtBy extra d d'` : `d` and `d'` are the same decoder state, neither has read past the end, and `d'` has exactly the
bytes `extra` more input available behind what `d` has.  Every decoder step (`normalize`, `decodeBitP p`,
`decodeDirect1`) from `ExtBy`-related states either stays `ExtBy`-related (same `extra`) with equal outputs, or the
short side has run out (`over > 0`).  Lifted to every decision program (`decRun_extBy`).
-/
namespace LzmaVerif.Rc

def ExtBy (extra : List Nat) (d d' : Dec) : Prop :=
  d.range = d'.range ∧ d.code = d'.code ∧ d.over = 0 ∧ d'.over = 0 ∧ d'.inp = d.inp ++ extra

def Ext (d d' : Dec) : Prop :=
  d.range = d'.range ∧ d.code = d'.code ∧ d.over = 0 ∧ d'.over = 0 ∧ ∃ extra, d'.inp = d.inp ++ extra

theorem ExtBy.ext {x : List Nat} {d d' : Dec} (h : ExtBy x d d') : Ext d d' :=
  ⟨h.1, h.2.1, h.2.2.1, h.2.2.2.1, x, h.2.2.2.2⟩

theorem Ext.extBy {d d' : Dec} (h : Ext d d') : ∃ x, ExtBy x d d' := by
  obtain ⟨h1, h2, h3, h4, x, h5⟩ := h
  exact ⟨x, h1, h2, h3, h4, h5⟩


theorem normalize_cases (d : Dec) :
    (¬ d.range < 2^24 ∧ d.normalize = d) ∨
    (d.range < 2^24 ∧ ∃ b rest, d.inp = b :: rest ∧
      d.normalize = { range := d.range * 256, code := (d.code * 256 + b) % 2^32, inp := rest, over := d.over }) ∨
    (d.range < 2^24 ∧ d.inp = [] ∧
      d.normalize = { range := d.range * 256, code := (d.code * 256 + 0) % 2^32, inp := [], over := d.over + 1 }) := by
  obtain ⟨r, c, i, o⟩ := d
  by_cases h : r < 2^24
  · right
    cases i with
    | nil =>
      right
      refine ⟨h, rfl, ?_⟩
      unfold Dec.normalize Dec.readByte
      simp only [if_pos h]
    | cons b rest =>
      left
      refine ⟨h, b, rest, rfl, ?_⟩
      unfold Dec.normalize Dec.readByte
      simp only [if_pos h]
  · left
    refine ⟨h, ?_⟩
    unfold Dec.normalize
    simp only [if_neg h]

theorem normalize_over_le (d : Dec) : d.over ≤ d.normalize.over := by
  rcases normalize_cases d with ⟨_, h⟩ | ⟨_, b, rest, _, h⟩ | ⟨_, _, h⟩
  · exact Nat.le_of_eq (by rw [h])
  · exact Nat.le_of_eq (by rw [h])
  · rw [h]
    exact Nat.le_succ _

theorem normalize_inp_suffix (d : Dec) : d.normalize.inp <:+ d.inp := by
  rcases normalize_cases d with ⟨_, h⟩ | ⟨_, b, rest, hi, h⟩ | ⟨_, hi, h⟩ <;> rw [h]
  · exact List.suffix_refl _
  · rw [hi]; exact List.suffix_cons b rest
  · rw [hi]; exact List.suffix_refl _

theorem normalize_ext {x : List Nat} {d d' : Dec} (h : ExtBy x d d') :
    d.normalize.over > 0 ∨ ExtBy x d.normalize d'.normalize := by
  obtain ⟨r, c, i, o⟩ := d
  obtain ⟨r', c', i', o'⟩ := d'
  obtain ⟨hr, hc, ho, ho', hi⟩ := h
  simp only at hr hc ho ho' hi
  subst hr hc ho ho' hi
  unfold Dec.normalize Dec.readByte
  by_cases hlt : r < 2 ^ 24
  · simp only [if_pos hlt]
    cases i with
    | nil => exact .inl Nat.one_pos
    | cons b rest => exact .inr ⟨rfl, rfl, rfl, rfl, rfl⟩
  · simp only [if_neg hlt]
    exact .inr ⟨rfl, rfl, rfl, rfl, rfl⟩

/- NOTE: nothing here may mention a projection of `d.decodeDirect1` (`d.decodeDirect1.1`, `.2`): weak-head normalising
it makes Lean compare `2^31` with an open term in unary.  Results are always named through an equation
`decodeEv d e = (b, d1)`. -/

/-- an operation is `normalize` followed by an update of `range`/`code` that depends on `range`/`code` only -/
theorem decodeEv_pair (d d' : Dec) (e : Ideal.Ev) (hr : d.normalize.range = d'.normalize.range)
    (hc : d.normalize.code = d'.normalize.code) :
    ∃ b r c, decodeEv d e = (b, { d.normalize with range := r, code := c }) ∧
      decodeEv d' e = (b, { d'.normalize with range := r, code := c }) := by
  cases e with
  | bit p _ =>
    simp only [decodeEv, Dec.decodeBitP]
    generalize d.normalize = n at *
    generalize d'.normalize = n' at *
    rw [← hr, ← hc]
    by_cases h : n.code < n.range / 2 ^ 11 * p
    · rw [if_pos h, if_pos h]
      exact ⟨false, n.range / 2 ^ 11 * p, n.code, rfl, by rw [hc]⟩
    · rw [if_neg h, if_neg h]
      exact ⟨true, n.range - n.range / 2 ^ 11 * p, n.code - n.range / 2 ^ 11 * p, rfl, rfl⟩
  | direct _ =>
    simp only [decodeEv, Dec.decodeDirect1]
    generalize d.normalize = n at *
    generalize d'.normalize = n' at *
    rw [← hr, ← hc]
    by_cases h : (n.code + 2 ^ 32 - n.range / 2) % 2 ^ 32 ≥ 2 ^ 31
    · rw [if_pos h, if_pos h]
      exact ⟨false, n.range / 2, n.code, rfl, by rw [hc]⟩
    · rw [if_neg h, if_neg h]
      exact ⟨true, n.range / 2, (n.code + 2 ^ 32 - n.range / 2) % 2 ^ 32, rfl, rfl⟩

theorem decodeEv_norm {d : Dec} {e : Ideal.Ev} {b : Bool} {d1 : Dec} (h : decodeEv d e = (b, d1)) :
    d1.over = d.normalize.over ∧ d1.inp = d.normalize.inp := by
  obtain ⟨b', r, c, h', _⟩ := decodeEv_pair d d e rfl rfl
  cases h'.symm.trans h
  exact ⟨rfl, rfl⟩

theorem decodeEv_mono {d : Dec} {e : Ideal.Ev} {b : Bool} {d1 : Dec} (h : decodeEv d e = (b, d1)) :
    d.over ≤ d1.over ∧ d1.inp <:+ d.inp := by
  obtain ⟨ho, hi⟩ := decodeEv_norm h
  exact ⟨ho ▸ normalize_over_le d, hi ▸ normalize_inp_suffix d⟩

theorem decodeEv_ext {x : List Nat} {d d' : Dec} (h : ExtBy x d d') {e : Ideal.Ev} {b : Bool} {d1 : Dec}
    (h1 : decodeEv d e = (b, d1)) : d1.over > 0 ∨ ∃ d1', decodeEv d' e = (b, d1') ∧ ExtBy x d1 d1' := by
  rcases normalize_ext h with ho | he
  · exact .inl ((decodeEv_norm h1).1 ▸ ho)
  · obtain ⟨b', r, c, h2, h2'⟩ := decodeEv_pair d d' e he.1 he.2.1
    cases h2.symm.trans h1
    exact .inr ⟨_, h2', rfl, rfl, he.2.2.1, he.2.2.2.1, he.2.2.2.2⟩

end LzmaVerif.Rc

namespace LzmaVerif.Prog
open LzmaVerif Rc

theorem decRun_mono {α : Type} (prog : Prog α) (ps : Probs) (d : Dec) (a : α) (ps₁ : Probs) (e₁ : Dec)
    (hr : prog.decRun ps d = (a, ps₁, e₁)) : d.over ≤ e₁.over ∧ e₁.inp <:+ d.inp := by
  refine run_inv (I := fun s => d.over ≤ s.2.over ∧ s.2.inp <:+ d.inp) (fun q s b s₁ h hs => ?_)
    (run_of_decRun hr) ⟨Nat.le_refl _, List.suffix_refl _⟩
  obtain ⟨ho, hi⟩ := decodeEv_mono (decSrc_eq h).1
  exact ⟨Nat.le_trans hs.1 ho, hi.trans hs.2⟩

theorem decRun_inp_length_le {α : Type} (prog : Prog α) (ps : Probs) (d : Dec) (a : α) (ps₁ : Probs) (e₁ : Dec)
    (hr : prog.decRun ps d = (a, ps₁, e₁)) : e₁.inp.length ≤ d.inp.length :=
  (decRun_mono prog ps d a ps₁ e₁ hr).2.length_le

theorem decRun_norm_over_le {α : Type} (prog : Prog α) (ps : Probs) (d : Dec) (a : α) (ps₁ : Probs) (e₁ : Dec)
    (hr : prog.decRun ps d = (a, ps₁, e₁)) : d.normalize.over ≤ e₁.normalize.over := by
  refine run_inv (I := fun s => d.normalize.over ≤ s.2.normalize.over) (fun q s b s₁ h hs => ?_)
    (run_of_decRun hr) (Nat.le_refl _)
  exact Nat.le_trans hs ((decodeEv_norm (decSrc_eq h).1).1 ▸ normalize_over_le _)

theorem decRun_extBy {α : Type} (prog : Prog α) : ∀ (ps : Probs) (d d' : Dec) (x : List Nat), ExtBy x d d' →
    ∀ (a a' : α) (ps₁ ps₁' : Probs) (e₁ e₁' : Dec),
    prog.decRun ps d = (a, ps₁, e₁) → prog.decRun ps d' = (a', ps₁', e₁') →
    e₁.over > 0 ∨ (a = a' ∧ ps₁ = ps₁' ∧ ExtBy x e₁ e₁') := by
  intro ps d d' x hx a a' ps₁ ps₁' e₁ e₁' hr hr'
  -- the two decoders in step, tables equal and states `ExtBy`-related, until the short one has read past its end
  refine (run_sim (o₂ := decSrc) (R := fun s t => s.1 = t.1 ∧ ExtBy x s.2 t.2) (Bad := fun s => s.2.over > 0)
    (fun q s b s₁ h hs => ?_) (fun q s t b s₁ h hR => ?_) (run_of_decRun hr) (t := (ps, d')) ⟨rfl, hx⟩).imp_right ?_
  · exact Nat.lt_of_lt_of_le hs (decodeEv_mono (decSrc_eq h).1).1
  · obtain ⟨hd, hp⟩ := decSrc_eq h
    refine (decodeEv_ext hR.2 hd).imp_right fun ⟨d₁', hd', he⟩ => ⟨_, decSrc_of (hR.1 ▸ hd'), ?_, he⟩
    exact hp.trans (hR.1 ▸ rfl)
  · rintro ⟨t', ht, hp, he⟩
    cases (run_of_decRun hr').symm.trans ht
    exact ⟨rfl, hp, he⟩

/-- `decRun_extBy` with the surplus forgotten -/
theorem decRun_ext {α : Type} (prog : Prog α) (ps : Probs) (d d' : Dec) (h : Ext d d')
    (a a' : α) (ps₁ ps₁' : Probs) (e₁ e₁' : Dec)
    (hr : prog.decRun ps d = (a, ps₁, e₁)) (hr' : prog.decRun ps d' = (a', ps₁', e₁')) :
    e₁.over > 0 ∨ (a = a' ∧ ps₁ = ps₁' ∧ Ext e₁ e₁') := by
  obtain ⟨x, hx⟩ := h.extBy
  rcases decRun_extBy prog ps d d' x hx a a' ps₁ ps₁' e₁ e₁' hr hr' with h | ⟨h1, h2, h3⟩
  · exact Or.inl h
  · exact Or.inr ⟨h1, h2, h3.ext⟩

end LzmaVerif.Prog
