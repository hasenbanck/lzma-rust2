import LzmaVerif.Model.Rc
import Mathlib.Tactic.Ring
import Mathlib.Tactic.Linarith
/-!
Refinement of the real range encoder (`Enc`: 33-bit `low`, `cache`, `cacheSize`, reversed `out`)
to a single unbounded number `val`.  `shiftLow` multiplies `val` by 256.
-/
namespace LzmaVerif.Rc

def num : List Nat → Nat
  | [] => 0
  | b :: bs => b * 256 ^ bs.length + num bs

theorem num_append (a b : List Nat) : num (a ++ b) = num a * 256 ^ b.length + num b := by
  induction a with
  | nil => simp [num]
  | cons x xs ih =>
    simp only [List.cons_append, num, List.length_append, ih]
    rw [Nat.pow_add]; ring

theorem num_replicate_zero (n : Nat) : num (List.replicate n 0) = 0 := by
  induction n with
  | zero => simp [num]
  | succ n ih => simp only [List.replicate_succ, num, ih]; omega

theorem num_replicate_ff (n : Nat) : num (List.replicate n 255) + 1 = 256 ^ n := by
  induction n with
  | zero => simp [num]
  | succ n ih =>
    simp only [List.replicate_succ, num, List.length_replicate]
    rw [Nat.pow_succ]; omega

theorem num_lt (bs : List Nat) (h : ∀ b ∈ bs, b < 256) : num bs < 256 ^ bs.length := by
  induction bs with
  | nil => simp [num]
  | cons x xs ih =>
    have hx : x < 256 := h x (by simp)
    have ih' := ih (fun b hb => h b (by simp [hb]))
    simp only [num, List.length_cons]
    rw [Nat.pow_succ]
    have : x * 256 ^ xs.length ≤ 255 * 256 ^ xs.length := Nat.mul_le_mul_right _ (by omega)
    omega

theorem pushN_eq (n v : Nat) : ∀ acc : List Nat, pushN n v acc = List.replicate n v ++ acc := by
  induction n with
  | zero => intro acc; rfl
  | succ n ih =>
    intro acc
    rw [pushN, ih, List.replicate_succ', List.append_assoc]
    rfl

/-- the bytes the encoder is committed to up to a carry: those written, the cache byte and the
    pending `0xFF` bytes -/
def pending (s : Enc) : List Nat := s.out.reverse ++ s.cache :: List.replicate (s.cacheSize - 1) 255

/-- the number the encoder state denotes (the ideal, unbounded `low`) -/
def val (s : Enc) : Nat := num (pending s) * 2^32 + s.low

theorem val_add_low (s : Enc) (δ ρ : Nat) :
    val { s with low := s.low + δ, range := ρ } = val s + δ := by
  simp only [val, pending, Nat.add_assoc]

/-- a carry into `c :: 0xFF … 0xFF` -/
theorem num_carry (l : List Nat) (c n : Nat) :
    num (l ++ (c + 1) :: List.replicate n 0) = num (l ++ c :: List.replicate n 255) + 1 := by
  have hff := num_replicate_ff n
  simp only [num_append, num, List.length_cons, List.length_replicate, num_replicate_zero,
    Nat.succ_mul]
  omega

/-- What `shiftLow` needs of a state whose interval is `[low, low + r)`: the interval fits into 33
bits, and it does not reach `2^32` when the cache byte is `0xFF`, so that a carry never has to
propagate into the bytes already written.  (`r` is `range`, or anything smaller.) -/
structure Inv (s : Enc) (r : Nat) : Prop where
  cs : 1 ≤ s.cacheSize
  cache : s.cache ≤ 255
  bytes : ∀ b ∈ s.out, b < 256
  fits : s.low + r ≤ 2^33
  noCarry : s.cache = 255 → s.low + r ≤ 2^32

theorem Inv.frame {s t : Enc} {r r' : Nat} (h : Inv s r) (hcs : t.cacheSize = s.cacheSize)
    (hc : t.cache = s.cache) (ho : t.out = s.out) (hl : t.low + r' ≤ s.low + r) : Inv t r' := by
  obtain ⟨h1, h2, h3, h4, h5⟩ := h
  refine ⟨by rw [hcs]; exact h1, by rw [hc]; exact h2, by rw [ho]; exact h3, by omega, ?_⟩
  intro h255
  have := h5 (hc ▸ h255)
  omega

theorem shiftLow_flush (s : Enc) (h : s.low / 2^32 ≠ 0 ∨ s.low < 0xFF000000) :
    shiftLow s = { s with
      out := pushN (s.cacheSize - 1) ((0xFF + s.low / 2^32) % 256) (((s.cache + s.low / 2^32) % 256) :: s.out)
      cache := (s.low / 2^24) % 256
      cacheSize := 1
      low := (s.low % 2^24) * 256 } := by
  simp only [shiftLow]
  rw [if_pos h]

theorem shiftLow_low (s : Enc) : (shiftLow s).low = s.low % 2^24 * 256 := by
  simp only [shiftLow]
  split <;> rfl

theorem shiftLow_range (s : Enc) : (shiftLow s).range = s.range := by
  simp only [shiftLow]
  split <;> rfl

theorem flush_num (s : Enc) (hcache : s.cache ≤ 255) (carry : Nat)
    (hc : carry = 0 ∨ (carry = 1 ∧ s.cache ≤ 254)) :
    num (pushN (s.cacheSize - 1) ((0xFF + carry) % 256) (((s.cache + carry) % 256) :: s.out)).reverse
      = num (pending s) + carry := by
  rw [pushN_eq, List.reverse_append, List.reverse_replicate, List.reverse_cons, List.append_assoc,
    List.singleton_append]
  rcases hc with rfl | ⟨rfl, h254⟩
  · rw [Nat.mod_eq_of_lt (by omega : s.cache + 0 < 256)]
    rfl
  · rw [Nat.mod_eq_of_lt (by omega : s.cache + 1 < 256), num_carry]
    rfl

/-- **`shiftLow` multiplies the denoted number by 256**, the width `r` of the interval with it, and
writes or defers one byte. -/
theorem shiftLow_spec (s : Enc) (r : Nat) (h : Inv s r) (hr0 : 0 < r) (hr : r ≤ 2^24) :
    Inv (shiftLow s) (r * 256) ∧ val (shiftLow s) = 256 * val s ∧
    (shiftLow s).out.length + (shiftLow s).cacheSize = s.out.length + s.cacheSize + 1 := by
  obtain ⟨hcs, hcache, hbytes, hfits, hnc⟩ := h
  -- `low` = carry bit, top byte, 24 low bits
  have hlow : s.low = s.low / 2^32 * 2^32 + s.low / 2^24 % 256 * 2^24 + s.low % 2^24 := by omega
  have htop : s.low / 2^24 % 256 < 256 := Nat.mod_lt _ (by decide)
  have hlo : s.low % 2^24 < 2^24 := Nat.mod_lt _ (by decide)
  simp only [shiftLow]
  generalize s.low / 2^32 = cy at *
  generalize s.low / 2^24 % 256 = top at *
  generalize s.low % 2^24 = lo at *
  split
  · next hf =>
    -- a carry finds a cache byte that can take it; a new cache byte `0xFF` comes from a carry
    have ha : (cy = 0 ∨ (cy = 1 ∧ s.cache ≤ 254)) ∧ lo * 256 + r * 256 ≤ 2^33 ∧
        (top = 255 → lo * 256 + r * 256 ≤ 2^32) := by omega
    have hnum := flush_num s hcache cy ha.1
    refine ⟨⟨Nat.le_refl _, Nat.le_of_lt_succ htop, ?_, ha.2.1, ha.2.2⟩, ?_, ?_⟩
    · intro b hb
      rw [pushN_eq] at hb
      rcases List.mem_append.mp hb with hb' | hb'
      · rw [(List.mem_replicate.mp hb').2]
        exact Nat.mod_lt _ (by decide)
      · rcases List.mem_cons.mp hb' with rfl | hb''
        · exact Nat.mod_lt _ (by decide)
        · exact hbytes b hb''
    · simp only [val, pending, Nat.sub_self, List.replicate_zero, num_append, num, List.length_cons,
        List.length_nil, Nat.pow_zero, Nat.mul_one, Nat.add_zero, hnum, hlow]
      ring
    · simp only [pushN_eq, List.length_append, List.length_replicate, List.length_cons]
      omega
  · next hf =>
    have ha : lo * 256 + r * 256 ≤ 2^33 ∧ (s.cache = 255 → lo * 256 + r * 256 ≤ 2^32) ∧
        s.low = 0xFF000000 + lo := by omega
    refine ⟨⟨Nat.le_succ_of_le hcs, hcache, hbytes, ha.1, ha.2.1⟩, ?_, (Nat.add_assoc _ _ _).symm⟩
    -- one more pending `0xFF`, and `low` loses its top byte `0xFF`
    obtain ⟨n, hn⟩ : ∃ n, s.cacheSize = n + 1 := ⟨s.cacheSize - 1, by omega⟩
    simp only [val, pending, hn, Nat.add_sub_cancel, List.replicate_succ', ← List.cons_append,
      ← List.append_assoc, num_append (_ ++ _) [255], num, List.length_cons, List.length_nil,
      Nat.pow_zero, Nat.mul_one, Nat.add_zero, ha.2.2]
    ring

end LzmaVerif.Rc

