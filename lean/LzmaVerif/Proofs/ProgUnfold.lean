import Lean
import Mathlib.Tactic.DefEqTransformations
import LzmaVerif.Model.Prog
/-!
Unfolding lemmas for `Prog.decRun`, not obtainable by `simp`/`unfold`/`rfl`: the kernel unfolds a matcher first and so
weak-head normalises `d.decodeDirect1` on an open `d` (`2^31` against `_ + 2^32 - _` in unary).  `decRun` and `decRun._f`
are unfolded as closed constants only (`delta`), with computation rules of `brecOn` and the matchers stated for a
variable `F`.
-/
set_option linter.auxLemma false

namespace LzmaVerif
open Rc

namespace Prog

theorem decRun_def {α : Type} : @Prog.decRun α =
    fun t ps d => Prog.brecOn (motive := fun _ => Probs → Dec → α × Probs × Dec) t Prog.decRun._f ps d := by
  delta Prog.decRun
  rfl

universe u

theorem brecOn_direct {α : Type} {motive : Prog α → Sort u}
    (F : (t : Prog α) → @Prog.below α motive t → motive t) (k : Bool → Prog α) :
    @Prog.brecOn α motive (Prog.direct k) F
      = F (Prog.direct k) (fun b => @Prog.brecOn.go α motive (k b) F) := rfl

theorem brecOn_bit {α : Type} {motive : Prog α → Sort u}
    (F : (t : Prog α) → @Prog.below α motive t → motive t) (i : Nat) (k : Bool → Prog α) :
    @Prog.brecOn α motive (Prog.bit i k) F
      = F (Prog.bit i k) (fun b => @Prog.brecOn.go α motive (k b) F) := rfl

theorem brecOn_go_fst {α : Type} {motive : Prog α → Sort u}
    (F : (t : Prog α) → @Prog.below α motive t → motive t) (t : Prog α) :
    (@Prog.brecOn.go α motive t F).1 = @Prog.brecOn α motive t F := rfl

theorem match_3_direct {α : Type} (motive : Prog α → Probs → Dec → Sort u) (k : Bool → Prog α)
    (ps : Probs) (d : Dec) h1 h2 h3 :
    Prog.decRun.match_3 motive (Prog.direct k) ps d h1 h2 h3 = h3 k ps d := rfl

theorem match_3_bit {α : Type} (motive : Prog α → Probs → Dec → Sort u) (i : Nat) (k : Bool → Prog α)
    (ps : Probs) (d : Dec) h1 h2 h3 :
    Prog.decRun.match_3 motive (Prog.bit i k) ps d h1 h2 h3 = h2 i k ps d := rfl

theorem match_3_ret {α : Type} (motive : Prog α → Probs → Dec → Sort u) (a : α)
    (ps : Probs) (d : Dec) h1 h2 h3 :
    Prog.decRun.match_3 motive (Prog.ret a) ps d h1 h2 h3 = h1 a ps d := rfl

theorem match_1_mk (motive : Bool × Dec → Sort u) (b : Bool) (d : Dec) h :
    Prog.decRun.match_1 motive (b, d) h = h b d := rfl

open Lean Elab Tactic Meta in
/-- goal `Prog.decRun.match_3 M (direct k | bit i k) ps d H1 H2 H3 B = rhs`: rewrite the left-hand side with the
propositional computation rule of the matcher and beta/zeta-reduce the head; not a definitional step, see the head of
the file. -/
elab "match3_step" : tactic => withMainContext do
  let g ← getMainGoal
  let t ← instantiateMVars (← g.getType)
  let some (_, lhs, rhs) := t.eq? | throwError "match3_step: not an equation"
  let fn := lhs.getAppFn
  let args := lhs.getAppArgs
  unless fn.isConstOf ``LzmaVerif.Prog.decRun.match_3 && args.size == 9 do
    throwError "match3_step: unexpected lhs {lhs}"
  let x := args[2]!
  let name ←
    if x.isAppOf ``LzmaVerif.Prog.direct then pure ``LzmaVerif.Prog.match_3_direct
    else if x.isAppOf ``LzmaVerif.Prog.bit then pure ``LzmaVerif.Prog.match_3_bit
    else throwError "match3_step: unexpected discriminant {x}"
  -- `match_3_direct motive k ps d h1 h2 h3`, resp. `match_3_bit motive i k ps d h1 h2 h3`
  let lem := mkAppN (mkConst name fn.constLevels!)
    (args[0:2] ++ x.getAppArgs[1:] ++ args[3:8])
  let p ← mkCongrFun lem args[8]!
  let some (_, _, mid) := (← inferType p).eq? | throwError "match3_step: bad lemma type"
  let g' ← mkFreshExprSyntheticOpaqueMVar (← mkEq (← zetaReduce mid.headBeta) rhs)
  g.assign (← mkEqTrans p g')
  replaceMainGoal [g'.mvarId!]

theorem decRun_direct_eq {α : Type} (k : Bool → Prog α) (ps : Probs) (d : Dec) (b : Bool) (d' : Dec)
    (h : d.decodeDirect1 = (b, d')) :
    (Prog.direct k).decRun ps d = (k b).decRun ps d' := by
  rw [decRun_def]
  beta_reduce
  rw [brecOn_direct (motive := fun _ => Probs → Dec → α × Probs × Dec) Prog.decRun._f k]
  conv =>
    lhs
    fun
    fun
    fun
    fun
    delta Prog.decRun._f
  match3_step
  rw [h]

theorem decRun_bit_eq {α : Type} (i : Nat) (k : Bool → Prog α) (ps : Probs) (d : Dec) (b : Bool) (d' : Dec)
    (h : d.decodeBitP (ps.get i) = (b, d')) :
    (Prog.bit i k).decRun ps d = (k b).decRun (ps.set i (updProb (ps.get i) b)) d' := by
  rw [decRun_def]
  beta_reduce
  rw [brecOn_bit (motive := fun _ => Probs → Dec → α × Probs × Dec) Prog.decRun._f i k]
  conv =>
    lhs
    fun
    fun
    fun
    fun
    delta Prog.decRun._f
  match3_step
  rw [h]

theorem decRun_ret {α : Type} (a : α) (ps : Probs) (d : Dec) :
    (Prog.ret a).decRun ps d = (a, ps, d) := rfl

end Prog
end LzmaVerif
