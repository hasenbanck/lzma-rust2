/-
  The `.lzma` header of the writer model (`Model/LzmaWriter.lean`) is read back by `Lzma.decodeAlone` as the writer's
  lc/lp/pb, a dictionary at least as large as the encoder's and the declared size; the raw stream of the fast parse
  decodes to the data.
-/
import LzmaVerif.Model.LzmaWriter
import LzmaVerif.Proofs.Options
import LzmaVerif.Proofs.ChecksBasic
import LzmaVerif.Props.C01Fast
import LzmaVerif.Proofs.EndToEndLzma

namespace LzmaVerif.LzmaWriter
open LzmaVerif Mf Lzma EncFast


theorem le4_eq (h : Nat) : Checks.le 4 h = [h % 256, h / 256 % 256, h / 65536 % 256, h / 16777216 % 256] := by
  simp [Checks.le, List.range_succ]

theorem le8_eq (s : Nat) : Checks.le 8 s = [s % 256, s / 256 % 256, s / 65536 % 256, s / 16777216 % 256,
    s / 4294967296 % 256, s / 1099511627776 % 256, s / 281474976710656 % 256, s / 72057594037927936 % 256] := by
  simp [Checks.le, List.range_succ]

/-- the reader's `u32::from_le_bytes` / `u64::from_le_bytes` are `ofLe` of the four / eight bytes -/
theorem le32_eq_ofLe (b0 b1 b2 b3 : Nat) : le32 b0 b1 b2 b3 = Checks.ofLe [b0, b1, b2, b3] := rfl

theorem le64_eq_ofLe (b0 b1 b2 b3 b4 b5 b6 b7 : Nat) :
    le32 b0 b1 b2 b3 + 2 ^ 32 * le32 b4 b5 b6 b7 = Checks.ofLe [b0, b1, b2, b3, b4, b5, b6, b7] := by
  simp only [le32, Checks.ofLe, List.foldr]
  omega

theorem le32_digits (h : Nat) (hh : h < 2 ^ 32) :
    le32 (h % 256) (h / 256 % 256) (h / 65536 % 256) (h / 16777216 % 256) = h := by
  rw [le32_eq_ofLe, ← le4_eq]
  exact Checks.ofLe_le 4 h hh

theorem le64_digits (s : Nat) (hs : s < 2 ^ 64) :
    le32 (s % 256) (s / 256 % 256) (s / 65536 % 256) (s / 16777216 % 256) +
      2 ^ 32 * le32 (s / 4294967296 % 256) (s / 1099511627776 % 256) (s / 281474976710656 % 256) (s / 72057594037927936 % 256) = s := by
  rw [le64_eq_ofLe, ← le8_eq]
  exact Checks.ofLe_le 8 s hs

theorem valid_iff (o : FastOpts) : o.valid = true ↔
    (o.lc ≤ 8 ∧ o.lp ≤ 4 ∧ o.pb ≤ 4) ∧ (4096 ≤ o.dict ∧ o.dict ≤ 805306368) ∧ (8 ≤ o.nice ∧ o.nice ≤ 273) := by
  simp [FastOpts.valid, Options.validate_iff]

/-- the reader takes the props byte apart as a number in mixed radix 9, 5 -/
theorem paramsOfProps_mk (lc lp pb : Nat) (h1 : lc < 9) (h2 : lp < 5) :
    paramsOfProps (45 * pb + (9 * lp + lc)) = { lc := lc, lp := lp, pb := pb } := by
  have hr : 9 * lp + lc < 45 := by omega
  simp only [paramsOfProps, Nat.mul_add_div (by decide : 0 < 45), Nat.mul_add_mod, Nat.div_eq_of_lt hr,
    Nat.mod_eq_of_lt hr, Nat.mul_add_div (by decide : 0 < 9), Nat.div_eq_of_lt h1, Nat.mod_eq_of_lt h1,
    Nat.add_zero]

theorem props_rt (o : FastOpts) (h : o.lc ≤ 8 ∧ o.lp ≤ 4 ∧ o.pb ≤ 4) :
    propsByte o ≤ 224 ∧ paramsOfProps (propsByte o) = o.params := by
  obtain ⟨h1, h2, h3⟩ := h
  have e : propsByte o = 45 * o.pb + (9 * o.lp + o.lc) := by unfold propsByte; omega
  rw [e]
  exact ⟨by omega, paramsOfProps_mk _ _ _ (by omega) (by omega)⟩

theorem hdrDict_bounds (dict : Nat) (h1 : 1 ≤ dict) (h2 : dict ≤ 2 ^ 30) : dict ≤ hdrDict dict ∧ hdrDict dict ≤ 2 ^ 30 := by
  have smear : ∀ (x k : Nat), x < 2 ^ 30 → x ≤ (x ||| (x >>> k)) ∧ (x ||| (x >>> k)) < 2 ^ 30 := by
    intro x k hx
    refine ⟨Nat.left_le_or, Nat.or_lt_two_pow hx ?_⟩
    exact Nat.lt_of_le_of_lt (Nat.shiftRight_le x k) hx
  have h0 : dict - 1 < 2 ^ 30 := by omega
  obtain ⟨a1, b1⟩ := smear _ 2 h0
  obtain ⟨a2, b2⟩ := smear _ 3 b1
  obtain ⟨a3, b3⟩ := smear _ 4 b2
  obtain ⟨a4, b4⟩ := smear _ 8 b3
  obtain ⟨a5, b5⟩ := smear _ 16 b4
  simp only [hdrDict]
  rw [if_pos (by omega)]
  omega

theorem fastParseOf_hc4 (K : MfConsts) (o : FastOpts) (ho : o.bt4 = false) (d : Array UInt8) :
    fastParseOf K o d = fastParseHc4 K.hc4 K.fast o.dict o.nice o.depth d := by
  simp [fastParseOf, ho]

/-- for ANY parse of the data: ONE stream (symbol budget `parse.length + 1`) for every cap that admits the data -/
theorem rawBytes_marker_of_valid (pr : Params) (dictBuf : Nat) (hbuf : dictBuf ≤ END_DIST) (d : Array UInt8)
    (parse : List Sym)
    (hv : ∃ c' h', parseRun dictBuf parse Coder.init (#[] : Hist) = some (c', h') ∧ h' = d.map (fun b => b.toNat)) :
    ∃ bytes, rawBytes pr dictBuf true d.size parse = some bytes ∧
      ∀ (rest : List Nat) (cap : Nat), d.size ≤ cap →
        decodeRaw pr dictBuf #[] none (bytes ++ rest) cap
          = .ok (d.map (fun b => b.toNat)) bytes.length (parse ++ [endMarker]) := by
  obtain ⟨c', h', hp, rfl⟩ := hv
  have hlen : parse.length ≤ d.size := by
    have := parseRun_size_le _ _ _ _ _ _ hp
    rwa [Array.size_map, List.size_toArray, List.length_nil, Nat.zero_add] at this
  obtain ⟨bytes, henc, -, hdec⟩ := marker_of_valid pr dictBuf hbuf parse 2 ⟨Nat.le_refl 2, by decide⟩ c' _ hp
  exact ⟨bytes, henc _ (Nat.lt_succ_self _), fun rest cap hcap => hdec rest cap (Nat.le_trans hlen hcap)⟩

section
/-! HC4 with valid constants; `dictBuf` holds every distance the encoder can use -/
variable (pr : Params) (K : MfConsts) (hH : K.hc4.ok) (hP : K.fast.ok) (o : FastOpts) (ho : o.bt4 = false)
  (dictBuf : Nat) (d : Array UInt8) (hd1 : 1 ≤ o.dict) (hdb : min o.dict d.size ≤ dictBuf) (h32 : o.dict ≤ 2 ^ 32)
include hH hP ho hd1 hdb h32

theorem rawBytes_size_rt (rest : List Nat) (cap : Nat) :
    ∃ bytes, rawBytes pr dictBuf false d.size (fastParseOf K o d) = some bytes ∧
      decodeRaw pr dictBuf #[] (some d.size) (bytes ++ rest) cap
        = .ok (d.map (fun b => b.toNat)) bytes.length (fastParseOf K o d) := by
  rw [fastParseOf_hc4 K o ho]
  simp only [rawBytes, Bool.false_eq_true, if_false]
  exact Props.C01Fast.fast_roundtrip pr K.hc4 hH K.fast hP o.dict o.nice o.depth dictBuf d hd1 hdb h32 rest cap

theorem rawBytes_marker_rt (hbuf : dictBuf ≤ END_DIST) :
    ∃ bytes, rawBytes pr dictBuf true d.size (fastParseOf K o d) = some bytes ∧
      ∀ (rest : List Nat) (cap : Nat), d.size ≤ cap →
        decodeRaw pr dictBuf #[] none (bytes ++ rest) cap
          = .ok (d.map (fun b => b.toNat)) bytes.length (fastParseOf K o d ++ [endMarker]) :=
  rawBytes_marker_of_valid pr dictBuf hbuf d _ (fastParseOf_hc4 K o ho d ▸
    Props.C01Fast.fast_parse_valid K.hc4 hH K.fast hP o.dict o.nice o.depth dictBuf d hd1 hdb h32)

end

theorem header_length (o : FastOpts) (expected : Option Nat) : (header o expected).length = 13 := by
  simp [header, Checks.le_length]

/-- what `LZMAReader::new_mem_limit` makes of the header `LZMAWriter::new` wrote: the writer's lc/lp/pb, the
    dictionary buffer `aloneDictBuf`, the declared size (`none` for `u64::MAX`) -/
theorem decodeAlone_header (o : FastOpts) (hv : o.valid = true) (expected : Option Nat)
    (he : expected.getD (2 ^ 64 - 1) < 2 ^ 64) (tail : List Nat) (cap : Nat) :
    decodeAlone #[] (header o expected ++ tail) cap =
      match decodeRaw o.params (aloneDictBuf o expected) #[]
          (if expected.getD (2 ^ 64 - 1) = 2 ^ 64 - 1 then none else some (expected.getD (2 ^ 64 - 1))) tail cap with
      | .ok out c parse => .ok out (c + 13) parse
      | other => other := by
  obtain ⟨hl, ⟨hd1, hd2⟩, _⟩ := (valid_iff o).mp hv
  obtain ⟨hp1, hp2⟩ := props_rt o hl
  obtain ⟨_, hh2⟩ := hdrDict_bounds o.dict (by omega) (by omega)
  simp only [header, aloneDictBuf, le4_eq, le8_eq, List.cons_append, List.nil_append, decodeAlone]
  generalize expected.getD (2 ^ 64 - 1) = size at he ⊢
  rw [le32_digits _ (by omega), le64_digits _ he]
  rw [if_neg (by simp only [Consts.DICT_SIZE_MAX]; omega), if_neg (by omega), hp2]
  rfl

end LzmaVerif.LzmaWriter
