/-
  Normal encoder: every insertion site keeps `Thr`.  A site only says why the entry it writes is a valid candidate
  (`OneOk`, `fromCur_set2`, `fromCur_set3`).  Where an offer lands relative to `opt_end` and what its price is does not
  matter (`Thr.write`); prices are looked at in one place, the literal / short rep of `calc1_byte_prices`, which is what
  keeps `opts[cur + 1]` below `INFINITY_PRICE`.
-/
import LzmaVerif.Proofs.EncNormalInv2

namespace LzmaVerif.EncNormal
open LzmaVerif Mf Lzma Rc EncFast EncPrices
open LzmaVerif.Mf.Hc4 (Eqs)

section
variable {P : NormalParams} {d : Array UInt8} {dict p : Nat} {c0 : Coder} {avail0 cur b : Nat} {a : OA}

theorem Inv.raise (h : Inv P d dict p c0 avail0 cur b a) (hb : (oat a.opts (b + 1)).price ≤ 1152 * (b + 1)) :
    Inv P d dict p c0 avail0 cur (b + 1) a :=
  ⟨h.size, h.endLe, h.zero, h.fin, h.pend, fun i h1 hib hie => by
    by_cases hi : i = b + 1
    · subst hi; exact hb
    · exact h.bnd i h1 (by omega) hie⟩

theorem Inv.lower (h : Inv P d dict p c0 avail0 cur b a) (b' : Nat) (hb : b' ≤ b) :
    Inv P d dict p c0 avail0 cur b' a :=
  ⟨h.size, h.endLe, h.zero, h.fin, h.pend, fun i h1 hib hie => h.bnd i h1 (by omega) hie⟩

end

structure PosOk (P : NormalParams) (d : Array UInt8) (p avail0 cur : Nat) (nice : Nat) : Prop where
  pok : P.ok
  nice2 : 2 ≤ nice
  nice273 : nice ≤ 273
  av0 : p + avail0 ≤ d.size
  av1 : avail0 < P.opts
  curLt : cur < avail0

section
variable {P : NormalParams} {d : Array UInt8} {dict p : Nat} {c0 : Coder} {avail0 cur b : Nat} {cc : Coder} {lo : Nat}
  {a : OA}

/-- `if price < self.opts[t].price { self.opts[t].setN(…) }`: whatever the comparison says -/
theorem Thr.offer (h : Thr P d dict p c0 avail0 cur b cc lo a) (t price : Nat) (f : Opt → Opt) (hb : b < t)
    (hcand : ∀ old, FromCur P d dict p cur cc (f old) t) :
    Thr P d dict p c0 avail0 cur b cc lo (a.offer t price f) := by
  unfold OA.offer
  split
  · exact h.write t f hb hcand
  · exact h

theorem Thr.offer1 (h : Thr P d dict p c0 avail0 cur b cc lo a) (len price : Nat) (back : Int) (hb : b < cur + len)
    (hok : OneOk P d dict (p + cur) cc back len) :
    Thr P d dict p c0 avail0 cur b cc lo (a.offer (cur + len) price fun o => o.set1 price cur back) :=
  h.offer _ price _ hb fun _ => fromCur_set1 rfl rfl hok

/-- `if c { self.opts[cur + 1].set1(price, cur, back) }` while `opts[cur + 1]` has no price bound yet; `bound` holds for
    the new price, and for the old one when nothing is written -/
theorem Thr.set1If (h : Thr P d dict p c0 avail0 cur cur cc lo a) (hav : avail0 < P.opts) (hce : cur < lo)
    (c : Bool) (price bound : Nat) (back : Int) (hok : c = true → OneOk P d dict (p + cur) cc back 1)
    (h1 : c = true → price ≤ bound) (h0 : c = false → (oat a.opts (cur + 1)).price ≤ bound) (a' : OA)
    (ha' : a' = if c = true then { a with opts := a.opts.modify (cur + 1) fun o => o.set1 price cur back } else a) :
    Thr P d dict p c0 avail0 cur cur cc lo a' ∧ (oat a'.opts (cur + 1)).price ≤ bound := by
  subst ha'
  cases c
  · exact ⟨h, h0 rfl⟩
  · refine ⟨h.write (cur + 1) _ (Nat.lt_succ_self cur) fun _ => fromCur_set1 rfl rfl (hok rfl), ?_⟩
    show (oat (a.opts.modify (cur + 1) _) (cur + 1)).price ≤ bound
    rw [oat_modify_self _ _ _ (by rw [h.1.size]; have := h.1.endLe; have := h.2.2.1; omega)]
    exact h1 rfl

end

section
variable {dict p : Nat} {c0 : Coder} {avail0 cur : Nat} {cc : Coder} {lo : Nat} {a : OA}

theorem calc1BytePrices_inv (E : Env) (hpos : PosOk E.P E.d p avail0 cur E.nice)
    (h : Thr E.P E.d dict p c0 avail0 cur cur cc lo a) (hce : cur < lo) (hcur : 1 ≤ cur) (anyRep : Nat) :
    Thr E.P E.d dict p c0 avail0 cur (cur + 1) cc lo (calc1BytePrices E a cur (p + cur) (avail0 - cur) anyRep) := by
  have hreps : E.P.reps = 4 := hpos.pok.2.2.1
  have hav1 := hpos.av1
  have hq : p + cur < E.d.size := by have := hpos.av0; have := hpos.curLt; omega
  unfold calc1BytePrices
  extract_lets oc posState curByte matchByte literalPrice lit a1 o1 tryShort srp short a2 lenLimit len nextState price i
  have hoc : oc.c = cc := h.2.1
  -- a literal costs at most 1152 more than `opts[cur]`
  have hlp : literalPrice ≤ 1152 * (cur + 1) := by
    have := litPrice_le E.pr E.ps curByte matchByte (byteAt E.d (p + cur - 1)) (p + cur) oc.c.state
    have : oc.price ≤ 1152 * cur := h.1.bnd cur hcur (Nat.le_refl _) h.2.2.2.1
    omega
  obtain ⟨h1, hp1⟩ := h.set1If hav1 hce lit literalPrice literalPrice (-1)
    (fun _ => oneOk_lit E.P E.d dict (p + cur) cc hq) (fun _ => Nat.le_refl _)
    (fun hl => Nat.not_lt.mp (of_decide_eq_false hl)) a1 rfl
  have hshort : short = true → matchByte = curByte ∧ srp ≤ o1.price := by
    intro hs
    simp only [short, tryShort, Bool.and_eq_true, decide_eq_true_eq] at hs
    exact ⟨hs.1.1, hs.2⟩
  obtain ⟨h2, hp2⟩ := h1.set1If hav1 hce short srp literalPrice 0
    (fun hs => oneOk_short E.P hreps E.d dict (p + cur) cc hq (hoc ▸ (hshort hs).1.symm))
    (fun hs => Nat.le_trans (hshort hs).2 hp1) (fun _ => hp1) a2 rfl
  have h2' : Thr E.P E.d dict p c0 avail0 cur (cur + 1) cc lo a2 :=
    ⟨h2.1.raise (Nat.le_trans hp2 hlp), h2.2.1, h2.2.2.1, h2.2.2.2.1, Nat.le_trans hce h2.2.2.1⟩
  split
  · split
    · next hge =>
      obtain ⟨hlim, heq⟩ := getMatchLen2_spec E.d (p + cur) 1 oc.c.rep0 lenLimit
      obtain ⟨hln, hla⟩ : len ≤ E.nice ∧ len ≤ avail0 - cur - 1 := Nat.le_min.mp hlim
      have hlen : 2 ≤ len := by rwa [hpos.pok.1] at hge
      have hn273 := hpos.nice273
      have hav0 := hpos.av0
      refine (h2'.extend hav1 i (by omega)).offer i price _ (by omega) fun old => ?_
      exact fromCur_set2 hreps old price len hlen
        (cand_lit_rep0 E.d dict (p + cur) cc len len hlen (Nat.le_refl _) (Nat.le_min.mpr ⟨by omega, by omega⟩) hq
          (hoc ▸ heq))
    · exact h2'
  · exact h2'

theorem offerComposite_thr (E : Env) (hpos : PosOk E.P E.d p avail0 cur E.nice)
    (h : Thr E.P E.d dict p c0 avail0 cur (cur + 1) cc lo a)
    (len dist price0 stateX : Nat) (back2 : Int) (hl2 : 2 ≤ len)
    (hX : OneOk E.P E.d dict (p + cur) cc back2 len)
    (hd : (cc.apply (symOf E.P E.d (p + cur) back2 len)).rep0 = dist) :
    Thr E.P E.d dict p c0 avail0 cur (cur + 1) cc lo
      (offerComposite E a cur (p + cur) (avail0 - cur) len dist price0 stateX back2) := by
  unfold offerComposite
  extract_lets len2Limit len2 curByte matchByte prevByte price nextState price' i
  split
  · next hge =>
    obtain ⟨hlim, heq⟩ := getMatchLen2_spec E.d (p + cur) (len + 1) dist len2Limit
    obtain ⟨hln, hla⟩ : len2 ≤ E.nice ∧ len2 ≤ avail0 - cur - len - 1 := Nat.le_min.mp hlim
    have hlen2 : 2 ≤ len2 := by rwa [hpos.pok.1] at hge
    have hn273 := hpos.nice273
    have hav0 := hpos.av0
    refine (h.extend hpos.av1 i (by omega)).offer i price' _ (by omega) fun old => ?_
    refine fromCur_set3 hpos.pok.2.2.1 old len len2 price' back2 hl2 hlen2 hX ?_
    refine cand_lit_rep0 E.d dict (p + cur + len) _ len2 len2 hlen2 (Nat.le_refl _)
      (Nat.le_min.mpr ⟨by omega, by omega⟩) (by omega) ?_
    rw [hd, Nat.add_assoc (p + cur) len 1]
    exact heq
  · exact h

theorem offerRepLens_thr (E : Env) (hmin : E.P.matchLenMin = 2) (hreps : E.P.reps = 4)
    (posState longRep rep Lm : Nat) (hr : rep ≤ 3) (hLm : Lm ≤ min (E.d.size - (p + cur)) 273)
    (he : Eqs E.d (p + cur) (cc.rep rep + 1) Lm) :
    ∀ (n : Nat) (a : OA), Thr E.P E.d dict p c0 avail0 cur (cur + 1) cc lo a → n + 1 ≤ Lm →
      Thr E.P E.d dict p c0 avail0 cur (cur + 1) cc lo (offerRepLens E cur posState longRep (rep : Int) n a)
  | 0, a, h, _ => h
  | n + 1, a, h, hn => by
    rw [offerRepLens, hmin]
    exact offerRepLens_thr E hmin hreps posState longRep rep Lm hr hLm he n _
      (h.offer1 (n + 2) _ rep (by omega)
        (oneOk_rep E.P hreps E.d dict (p + cur) cc rep (n + 2) Lm hr (by omega) (by omega) hLm he))
      (by omega)

theorem getMatchLenFastReject_spec (d : Array UInt8) (q dist limit : Nat) (hl : 2 ≤ limit) :
    getMatchLenFastReject d q dist limit = 0 ∨
      (2 ≤ getMatchLenFastReject d q dist limit ∧ getMatchLenFastReject d q dist limit ≤ limit ∧
        Eqs d q (dist + 1) (getMatchLenFastReject d q dist limit)) := by
  unfold getMatchLenFastReject
  split
  · next hb =>
    right
    have he2 : Eqs d q (dist + 1) 2 := by
      intro i hi
      rcases i with _ | _ | i
      · simpa only [Nat.add_zero] using hb.1
      · exact hb.2
      · omega
    have := extendMatch_spec d q (dist + 1) limit 2 hl he2
    exact ⟨this.1, this.2.1, this.2.2⟩
  · exact Or.inl rfl

theorem longRepOne_thr (E : Env) (hpos : PosOk E.P E.d p avail0 cur E.nice) (hav2 : 2 ≤ avail0 - cur)
    (h : Thr E.P E.d dict p c0 avail0 cur (cur + 1) cc lo a) (anyRep startLen rep : Nat) (hr : rep ≤ 3) :
    Thr E.P E.d dict p c0 avail0 cur (cur + 1) cc lo
      (longRepOne E cur (p + cur) (avail0 - cur) anyRep a startLen rep).1 := by
  have hmin : E.P.matchLenMin = 2 := hpos.pok.1
  have hreps : E.P.reps = 4 := hpos.pok.2.2.1
  have hn2 := hpos.nice2
  have hn273 := hpos.nice273
  have hav0 := hpos.av0
  unfold longRepOne
  extract_lets oc posState lenLimit dist len a1 lrp a2 startLen' price0
  have hoc : oc.c = cc := h.2.1
  split
  · exact h
  · next hl2 =>
    rcases getMatchLenFastReject_spec E.d (p + cur) dist lenLimit (by omega) with h0 | ⟨h2, hlim, heq⟩
    · omega
    · obtain ⟨hla, hln⟩ : len ≤ avail0 - cur ∧ len ≤ E.nice := Nat.le_min.mp hlim
      have hLm : len ≤ min (E.d.size - (p + cur)) 273 := Nat.le_min.mpr ⟨by omega, by omega⟩
      have heq' : Eqs E.d (p + cur) (cc.rep rep + 1) len := hoc ▸ heq
      have h2' := offerRepLens_thr E hmin hreps posState lrp rep len hr hLm heq' (len + 1 - E.P.matchLenMin) a1
        (h.extend hpos.av1 (cur + len) (by omega)) (by omega)
      refine offerComposite_thr E hpos h2' len dist price0 (stLongRep oc.c.state) rep h2
        (oneOk_rep E.P hreps E.d dict (p + cur) cc rep len len hr h2 (Nat.le_refl _) hLm heq') ?_
      rw [symOf_rep E.P hreps E.d _ rep len (by omega) h2, rep0_after_rep, ← hoc]

theorem calcLongRepPrices_thr (E : Env) (hpos : PosOk E.P E.d p avail0 cur E.nice) (hav2 : 2 ≤ avail0 - cur)
    (h : Thr E.P E.d dict p c0 avail0 cur (cur + 1) cc lo a) (anyRep : Nat) :
    Thr E.P E.d dict p c0 avail0 cur (cur + 1) cc lo (calcLongRepPrices E a cur (p + cur) (avail0 - cur) anyRep).1 := by
  unfold calcLongRepPrices
  rw [hpos.pok.2.2.1]
  refine List.foldlRecOn (motive := fun r : OA × Nat => Thr E.P E.d dict p c0 avail0 cur (cur + 1) cc lo r.1) _ _ h
    fun r hr rep hrep => longRepOne_thr E hpos hav2 hr anyRep r.2 rep ?_
  have := List.mem_range.mp hrep
  omega

end

end LzmaVerif.EncNormal
