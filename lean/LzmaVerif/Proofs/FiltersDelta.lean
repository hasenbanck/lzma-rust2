import LzmaVerif.Proofs.FiltersBase
/-! Delta filter: the decoder adds the history byte the encoder subtracted, and both then store the same byte, so the
histories stay equal (`Delta.run_inv`; `HistOk`: the history holds bytes).  Core Lean only. -/
namespace LzmaVerif.Filters

def Delta.HistOk (d : Delta) : Prop := ∀ i, d.history.getD i 0 < 256

theorem Delta.histOk_set (d : Delta) (h : d.HistOk) (j x : Nat) (hx : x < 256) :
    ∀ i, (d.history.setIfInBounds j x).getD i 0 < 256 := by
  intro i
  have := h i
  simp only [Array.getD_eq_getD_getElem?, Array.getElem?_setIfInBounds] at this ⊢
  by_cases e : j = i
  · subst e
    by_cases e2 : j < d.history.size
    · simp [e2, hx]
    · simp [e2]
  · simp [e, this]

theorem Delta.run_inv (xs : List Nat) : ∀ (d : Delta), d.HistOk → Bytes xs →
    Delta.run Delta.decode1 d (Delta.run Delta.encode1 d xs).1 = (xs, (Delta.run Delta.encode1 d xs).2) := by
  induction xs with
  | nil => intro d _ _; rfl
  | cons x xs ih =>
    intro d hd hb
    have hx : x < 256 := hb x (by simp)
    have hb' : Bytes xs := fun y hy => hb y (by simp [hy])
    have hh := hd ((d.distance + d.pos) % 256)
    have key : ((x + 256 - d.history.getD ((d.distance + d.pos) % 256) 0) % 256
        + d.history.getD ((d.distance + d.pos) % 256) 0) % 256 = x := by omega
    have hd' : Delta.HistOk { d with history := d.history.setIfInBounds (d.pos % 256) x, pos := (d.pos + 255) % 256 } :=
      Delta.histOk_set d hd _ _ hx
    have := ih _ hd' hb'
    simp only [Delta.run, Delta.encode1, Delta.decode1, key]
    rw [this]

theorem Delta.new_histOk (n : Nat) : (Delta.new n).HistOk := by
  intro i
  simp only [Delta.new, Array.getD_eq_getD_getElem?]
  by_cases h : i < 256
  · simp [h]
  · simp [h]

theorem delta_inv (d : Nat) (xs : List Nat) (h : Bytes xs) : deltaDecode d (deltaEncode d xs) = xs := by
  unfold deltaDecode deltaEncode
  rw [Delta.run_inv xs _ (Delta.new_histOk d) h]

end LzmaVerif.Filters
