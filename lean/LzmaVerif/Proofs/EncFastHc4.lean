/-
  Fast encoder: the HC4 model is a sound match finder in the sense of `FinderSound`
  (reachable states, logical position in step, `hc4_find_sound`).
-/
import LzmaVerif.Proofs.EncFastStep
import LzmaVerif.Props.C01Hc4

namespace LzmaVerif.EncFast
open LzmaVerif Mf Lzma

theorem hc4_skip1_pos (H : Hc4.Hc4Params) (c : Hc4.Cfg) (d : Array UInt8) (s : Hc4.State) :
    (Hc4.skip1 H c d s).pos = s.pos + 1 := by
  obtain ⟨h2, h3, h4, ch, cp, lz, pos⟩ := s
  unfold Hc4.skip1 Hc4.movePos
  by_cases h : Hc4.encMovePos H d pos ≠ 0
  · simp only [if_pos h, Hc4.updateTables, Hc4.setChain]
  · simp only [if_neg h]

theorem hc4_skip_pos (H : Hc4.Hc4Params) (c : Hc4.Cfg) (d : Array UInt8) :
    ∀ (n : Nat) (s : Hc4.State), (Hc4.skip H c d n s).pos = s.pos + n
  | 0, s => rfl
  | n + 1, s => by
    rw [Hc4.skip, hc4_skip_pos H c d n, hc4_skip1_pos]; omega

theorem hc4_find_pos (H : Hc4.Hc4Params) (c : Hc4.Cfg) (d : Array UInt8) (s : Hc4.State)
    (hm : 1 ≤ c.mlmax) : (Hc4.find H c d s).2.pos = s.pos + 1 := by
  rw [Hc4.find_snd H c d s hm, hc4_skip1_pos]

theorem hc4_skip_skip (H : Hc4.Hc4Params) (c : Hc4.Cfg) (d : Array UInt8) (n : Nat) :
    ∀ (k : Nat) (s : Hc4.State), Hc4.skip H c d n (Hc4.skip H c d k s) = Hc4.skip H c d (k + n) s
  | 0, s => by rw [Nat.zero_add]; rfl
  | k + 1, s => by
    rw [Nat.add_right_comm]
    exact hc4_skip_skip H c d n k _

theorem hc4_find_past_end (H : Hc4.Hc4Params) (c : Hc4.Cfg) (d : Array UInt8) (s : Hc4.State)
    (hm : 1 ≤ c.mlmax) (h : d.size ≤ s.pos) : (Hc4.find H c d s).1 = [] := by
  have h0 : Hc4.encMovePos H d s.pos = 0 := by
    unfold Hc4.encMovePos
    simp only [Nat.sub_eq_zero_of_le h, ite_self]
  unfold Hc4.find
  simp only [h0]
  rw [if_pos ⟨by omega, trivial⟩]

def hc4Sound (H : Hc4.Hc4Params) (hH : H.ok) (dict nice depth : Nat) (hd : 1 ≤ dict) (d : Array UInt8) :
    FinderSound (hc4Finder H { dict := dict, niceLen := nice, mlmax := 273, depthLimit := depth }) d dict 273 where
  R := Hc4.Reachable H { dict := dict, niceLen := nice, mlmax := 273, depthLimit := depth } d
  pos := fun s => s.pos
  init_R := Hc4.Reachable.init
  init_pos := rfl
  find_R := fun s h => Hc4.Reachable.find s h
  find_pos := fun s _ => hc4_find_pos H _ d s (by show 1 ≤ 273; omega)
  find_valid := fun s h => (Hc4.hc4_find_sound H hH _ d hd (by show 3 ≤ 273; omega) s h).1
  skip_R := fun s n h => Hc4.Reachable.skip s n h
  skip_pos := fun s n _ => hc4_skip_pos H _ d n s

end LzmaVerif.EncFast
