import LzmaVerif.Proofs.Lzma2
/-!
Fully concrete instance of the LZMA2 round trip.  The 60 bytes `exBytes` are also accepted by the real `xz`
(`xz --format=raw --lzma2=dict=4096 -dc`) and decode to `exData`.
-/
namespace LzmaVerif.Lzma2.Example
open LzmaVerif Lzma Lzma2

theorem exChunks_bytes : reencode 4096 #[] exChunks = some exBytes :=
  exChunks_enc

theorem exBytes_decode (rest : List Nat) (cap : Nat) (h : 17 ≤ cap) :
    decode 4096 #[] (exBytes ++ rest) cap
      = .ok { out := exData.toArray, consumed := 60, chunks := exChunks } := by
  obtain ⟨bytes, hb, hd⟩ := exChunks_roundtrip
  rw [exChunks_bytes] at hb
  cases hb
  exact hd rest cap h

end LzmaVerif.Lzma2.Example

#print axioms LzmaVerif.Lzma2.Example.exChunks_bytes
#print axioms LzmaVerif.Lzma2.Example.exBytes_decode
