import LzmaVerif.Model.LzmaStream
import LzmaVerif.Proofs.LoopRt
import LzmaVerif.Proofs.TruncRc
/-!
# What `decodeRaw` does, decoder only

`decodeRaw` is `Dec.init`, ONE run of `rawProg` by the range decoder, and `rawFinish` on what it left (`decodeRaw_run`); the
run does not depend on the symbol budget once it suffices (`loop_run_fuel`).  No encoder.
-/
namespace LzmaVerif.Lzma
open LzmaVerif Prog Rc

def rawProg (pr : Params) (dictBuf : Nat) (preset : Array Nat) (size : Option Nat) (cap : Nat) : Prog LoopRes :=
  loopProg pr dictBuf (match size with | some n => n + 1 | none => cap + 1) size Coder.init
    (presetUsedOf preset dictBuf) [] 0

def rawPs0 (pr : Params) : Probs := Array.replicate (numProbs pr.lc pr.lp) PROB_INIT

/-- the model's `rawFinish` (tail of `LZMAReader::read_decode`); `len` = length of the input -/
def rawResult (preset : Array Nat) (dictBuf : Nat) (size : Option Nat) (len : Nat) (r : LoopRes) (e : Dec) : DecOut :=
  rawFinish (presetUsedOf preset dictBuf).size size len r e

theorem decodeRaw_run (pr : Params) (dictBuf : Nat) (preset : Array Nat) (size : Option Nat)
    {input : List Nat} (cap : Nat) {d0 : Dec} (hinit : Dec.init input = some d0)
    {r : LoopRes} {ps : Probs} {e : Dec}
    (hrun : (rawProg pr dictBuf preset size cap).decRun (rawPs0 pr) d0 = (r, ps, e)) :
    decodeRaw pr dictBuf preset size input cap = rawResult preset dictBuf size input.length r e := by
  obtain ⟨b1, b2, b3, b4, rest, rfl, _⟩ := init_inv hinit
  unfold rawProg rawPs0 at hrun
  simp only [decodeRaw, hinit, ne_eq, not_true_eq_false, if_false]
  -- the fuel is a `match` on `size` in `decodeRaw` and in `rawProg`: two matchers, the same only once `size` is known
  cases size with
  | none =>
    simp only at hrun ⊢
    rw [hrun]
    rfl
  | some n =>
    simp only at hrun ⊢
    rw [hrun]
    rfl

/-- **More fuel changes nothing**, whoever answers the decisions (`o`) -/
theorem loop_run_fuel {σ : Type} (o : Src σ) (pr : Params) (dictBuf : Nat) {a : LoopRes} (hne : a.stop ≠ .fuel) :
    ∀ {F F' : Nat}, F ≤ F' → ∀ (rem : Option Nat) (c : Coder) (h : Hist) (acc : List Sym) (em : Nat) (s s' : σ),
      (loopProg pr dictBuf F rem c h acc em).run o s = some (a, s') →
      (loopProg pr dictBuf F' rem c h acc em).run o s = some (a, s') := by
  intro F
  induction F with
  | zero =>
    intro F' _ rem c h acc em s s' hr
    cases hr
    exact absurd rfl hne
  | succ F ih =>
    intro F' hF rem c h acc em s s' hr
    obtain ⟨F', rfl⟩ := Nat.exists_eq_add_one.2 (Nat.zero_lt_of_lt hF)
    rw [loopProg_succ] at hr ⊢
    by_cases h0 : rem = some 0
    · rwa [if_pos h0] at hr ⊢
    · rw [if_neg h0, run_bind] at hr ⊢
      cases hsym : (symProg pr (ctxOf c h)).run o s with
      | none => simp only [hsym, Option.bind_none] at hr; cases hr
      | some r =>
        simp only [hsym, Option.bind_some] at hr ⊢
        cases hn : loopNext dictBuf rem c h acc em r.1 with
        | stop x => rwa [hn] at hr
        | go rem' h' em' =>
          rw [hn] at hr
          exact ih (Nat.le_of_succ_le_succ hF) _ _ _ _ _ _ _ hr

theorem loop_decRun_mono (pr : Params) (dictBuf : Nat) (rem : Option Nat) (c : Coder) (h : Hist) (acc : List Sym)
    (em : Nat) {F F' : Nat} (hF : F ≤ F') (ps : Probs) (d : Dec) (a : LoopRes) (ps' : Probs) (e : Dec)
    (hr : (loopProg pr dictBuf F rem c h acc em).decRun ps d = (a, ps', e)) (hne : a.stop ≠ .fuel) :
    (loopProg pr dictBuf F' rem c h acc em).decRun ps d = (a, ps', e) :=
  Option.some.inj ((decRun_eq_run _ ps d).symm.trans
    (loop_run_fuel decSrc pr dictBuf hne hF rem c h acc em _ _ (run_of_decRun hr)))

/-- a byte was already missing when the symbol loop stopped: `UnexpectedEof`, whatever the loop stopped for
    (`stream_error()` is looked at before the result of `decode`) -/
theorem rawResult_over0 (preset : Array Nat) (dictBuf : Nat) (size : Option Nat) (len : Nat) (r : LoopRes) (e : Dec)
    (h : e.over > 0) : rawResult preset dictBuf size len r e = .err .eof := by
  have hn : e.normalize.over > 0 := Nat.lt_of_lt_of_le h (normalize_over_le e)
  unfold rawResult rawFinish
  cases hs : r.stop.isRepeatErr
  · simp only [Bool.false_eq_true, if_false, if_pos hn]
  · simp only [if_true, if_pos h]

/-- the loop did not stop for a corrupt symbol and the final normalisation misses a byte: `UnexpectedEof`.
    (For a corrupt symbol - `isRepeatErr`, i.e. "dist overflow" / an end marker - the decoder does not normalise; see
    `rawResult_repeatErr`.) -/
theorem rawResult_over (preset : Array Nat) (dictBuf : Nat) (size : Option Nat) (len : Nat) (r : LoopRes) (e : Dec)
    (hs : r.stop.isRepeatErr = false ∨ (r.stop = .endMarker ∧ size = none))
    (h : e.normalize.over > 0) : rawResult preset dictBuf size len r e = .err .eof := by
  by_cases h0 : e.over > 0
  · exact rawResult_over0 preset dictBuf size len r e h0
  · rcases hs with hs | ⟨hs, hsz⟩
    · unfold rawResult rawFinish
      simp only [hs, Bool.false_eq_true, if_false, if_pos h]
    · subst hsz
      unfold rawResult rawFinish
      simp only [hs, Stop.isRepeatErr, if_true, if_neg h0, if_pos h]

/-- a corrupt symbol reached without a missing byte is `Other`, even if the byte the next normalisation would ask for
    is not there: `LZMADecoder::decode` hands the error of `repeat` out without normalising -/
theorem rawResult_repeatErr (preset : Array Nat) (dictBuf : Nat) (size : Option Nat) (len : Nat) (r : LoopRes) (e : Dec)
    (hs : r.stop = .distOverflow ∨ (r.stop = .endMarker ∧ size.isSome)) (h : e.over = 0) :
    rawResult preset dictBuf size len r e = .err .other := by
  unfold rawResult rawFinish
  rcases hs with hs | ⟨hs, hsz⟩
  · simp only [hs, Stop.isRepeatErr, if_true, h, Nat.lt_irrefl, if_false]
  · obtain ⟨n, rfl⟩ := Option.isSome_iff_exists.mp hsz
    simp only [hs, Stop.isRepeatErr, if_true, h, Nat.lt_irrefl, if_false]

theorem rawResult_ok {preset : Array Nat} {dictBuf : Nat} {size : Option Nat} {len : Nat} {r : LoopRes} {e : Dec}
    {out : Array Nat} {c : Nat} {parse : List Sym}
    (h : rawResult preset dictBuf size len r e = .ok out c parse) :
    e.normalize.over = 0 ∧ c = len - e.normalize.inp.length ∧
      (r.stop = .limit ∨ (r.stop = .endMarker ∧ size = none)) := by
  unfold rawResult rawFinish at h
  rcases r with ⟨stop, coder, hist, parse', em⟩
  cases stop <;> simp only [Stop.isRepeatErr, Bool.false_eq_true, if_false, if_true] at h
  case limit =>
    split at h
    · cases h
    · injection h with _ hc _
      exact ⟨by omega, hc.symm, Or.inl rfl⟩
  case endMarker =>
    split at h
    · cases h
    · cases size with
      | some n => cases h
      | none =>
        simp only at h
        split at h
        · cases h
        · injection h with _ hc _
          exact ⟨by omega, hc.symm, Or.inr ⟨rfl, rfl⟩⟩
  all_goals
    split at h <;> cases h

theorem rawFinish_capped {presetSize : Nat} {size : Option Nat} {len : Nat} {r : LoopRes} {d : Dec}
    (h : rawFinish presetSize size len r d = .capped) : r.stop = .fuel := by
  unfold rawFinish at h
  rcases r with ⟨stop, coder, hist, parse, em⟩
  cases stop <;> simp only [Stop.isRepeatErr, Bool.false_eq_true, if_false, if_true] at h
  · split at h <;> cases h
  · split at h
    · cases h
    · cases size with
      | some n => cases h
      | none => simp only at h; split at h <;> cases h
  · split at h <;> cases h
  · split at h <;> cases h
  · rfl

theorem decodeRaw_ok_inv {pr : Params} {dictBuf : Nat} {preset : Array Nat} {size : Option Nat}
    {input : List Nat} {cap : Nat} {out : Array Nat} {c : Nat} {parse : List Sym}
    (h : decodeRaw pr dictBuf preset size input cap = .ok out c parse) :
    ∃ b1 b2 b3 b4 rest r ps e, input = 0 :: b1 :: b2 :: b3 :: b4 :: rest ∧
      (rawProg pr dictBuf preset size cap).decRun (rawPs0 pr)
        { range := 0xFFFFFFFF, code := ((b1 * 256 + b2) * 256 + b3) * 256 + b4, inp := rest, over := 0 } = (r, ps, e) ∧
      e.normalize.over = 0 ∧ c = input.length - e.normalize.inp.length ∧
      (r.stop = .limit ∨ (r.stop = .endMarker ∧ size = none)) := by
  cases hinit : Dec.init input with
  | none =>
    cases input with
    | nil => cases h
    | cons b0 tl =>
      simp only [decodeRaw, hinit] at h
      split at h <;> cases h
  | some d0 =>
    obtain ⟨b1, b2, b3, b4, rest, rfl, rfl⟩ := init_inv hinit
    rcases hrun : (rawProg pr dictBuf preset size cap).decRun (rawPs0 pr)
      { range := 0xFFFFFFFF, code := ((b1 * 256 + b2) * 256 + b3) * 256 + b4, inp := rest, over := 0 } with ⟨r, ps, e⟩
    rw [decodeRaw_run pr dictBuf preset size cap hinit hrun] at h
    exact ⟨b1, b2, b3, b4, rest, r, ps, e, rfl, hrun, rawResult_ok h⟩

theorem rawProg_decRun_mono {pr : Params} {dictBuf : Nat} {preset : Array Nat} {size : Option Nat} {cap cap' : Nat}
    (hcap : cap ≤ cap') {ps ps' : Probs} {d e : Dec} {r : LoopRes}
    (hr : (rawProg pr dictBuf preset size cap).decRun ps d = (r, ps', e)) (hne : r.stop ≠ .fuel) :
    (rawProg pr dictBuf preset size cap').decRun ps d = (r, ps', e) := by
  unfold rawProg at hr ⊢
  cases size with
  | some n => exact hr
  | none =>
    exact loop_decRun_mono _ _ _ _ _ _ _ (Nat.succ_le_succ hcap) _ _ _ _ _ hr hne

end LzmaVerif.Lzma

namespace LzmaVerif.Props.C01
open LzmaVerif Lzma Prog Rc

theorem rawFinish_limit (presetSize : Nat) (size : Option Nat) (len : Nat) (r : LoopRes) (d : Dec)
    (hs : r.stop = .limit) (ho : d.normalize.over = 0) :
    rawFinish presetSize size len r d
      = .ok (r.hist.extract presetSize r.hist.size) (len - d.normalize.inp.length) r.parse.reverse := by
  simp only [rawFinish, hs, Stop.isRepeatErr, Bool.false_eq_true, if_false, ho, Nat.lt_irrefl]

theorem rawFinish_marker (presetSize : Nat) (len : Nat) (r : LoopRes) (d : Dec)
    (hs : r.stop = .endMarker) (ho : d.over = 0) (hon : d.normalize.over = 0) :
    rawFinish presetSize none len r d
      = .ok (r.hist.extract presetSize r.hist.size) (len - d.normalize.inp.length) r.parse.reverse := by
  simp only [rawFinish, hs, Stop.isRepeatErr, if_true, ho, hon, Nat.lt_irrefl, if_false]

end LzmaVerif.Props.C01

#print axioms LzmaVerif.Lzma.loop_run_fuel
