/-
  (B5) (`bt4_tree_matches_valid`, `Props/C01Bt4.lean`) the two tree walks of bt4.rs (`findLoop` = bt4.rs:231-283,
  `skipLoop` = :95-140) preserve the binary-search-tree invariant `TInv`, and every match `findLoop` reports is a real
  repetition from its first byte.
-/
import LzmaVerif.Proofs.Bt4Bst
import LzmaVerif.Proofs.Bt4Access
namespace LzmaVerif.Mf.Bt4

/-- `cyclic_pos` after `move_pos` (bt4.rs:74-77) -/
theorem succ_mod_cases (cs a : Nat) (hcs : 0 < cs) :
    (if a % cs + 1 = cs then 0 else a % cs + 1) = (a + 1) % cs := by
  have hl := Nat.mod_lt a hcs
  rw [← Nat.mod_add_mod a cs 1]
  split
  · rename_i h
    rw [h, Nat.mod_self]
  · exact (Nat.mod_eq_of_lt (by omega)).symm

theorem sub_mod_cases (a d cs : Nat) (hd : d < cs) (h : d ≤ a) :
    (a - d) % cs = if a % cs < d then a % cs + cs - d else a % cs - d := by
  have hl := Nat.mod_lt a (by omega : 0 < cs)
  have hdm := Nat.div_add_mod a cs
  split
  · rw [← Nat.add_mod_right, show a - d + cs = a % cs + cs - d + cs * (a / cs) by omega,
      Nat.add_mul_mod_self_left, Nat.mod_eq_of_lt (by omega)]
  · rw [show a - d = a % cs - d + cs * (a / cs) by omega, Nat.add_mul_mod_self_left, Nat.mod_eq_of_lt (by omega)]

/-- `pair` (bt4.rs:105-106 / :244-245) is the slot pair of the node `lz_pos - delta` -/
theorem pairOf_eq_sl {P : Bt4Params} (hok : P.ok) (k : Ctx) (delta : Nat)
    (hcp : k.cyclicPos = (k.lzPos - 1) % k.cs) (hd1 : 1 ≤ delta) (hd : delta < k.cs) (hlz : k.cs + delta ≤ k.lzPos) :
    pairOf P k delta = sl k.cs (k.lzPos - delta) := by
  unfold pairOf sl
  rw [shl_eq hok, ok_pairSel hok]
  show 2 * (k.cyclicPos + (if geOrGt false delta k.cyclicPos = true then k.cs else 0) - delta) = _
  rw [geOrGt_false, show k.lzPos - delta - 1 = k.lzPos - 1 - delta by omega,
    sub_mod_cases _ _ _ hd (by omega), ← hcp]
  by_cases h : k.cyclicPos < delta
  · rw [if_pos (decide_eq_true h), if_pos h]
  · rw [if_neg (fun h' => h (of_decide_eq_true h')), if_neg h, Nat.add_zero]

theorem shl_eq_sl {P : Bt4Params} (hok : P.ok) {cs lz cp : Nat} (hcp : cp = (lz - 1) % cs) : shl P cp = sl cs lz := by
  rw [shl_eq hok, hcp]; rfl

section
variable {d : Array UInt8} {cs niceLen lo hi : Nat}

theorem newSlots (hlo1 : 1 ≤ lo) (hgeo : hi + 1 = lo + cs) :
    NewSlot cs lo hi (sl cs (hi + 1)) ∧ NewSlot cs lo hi (sl cs (hi + 1) + 1) :=
  have key : ∀ v, lo < v → v ≤ hi → NotSlot cs v (sl cs (hi + 1)) ∧ NotSlot cs v (sl cs (hi + 1) + 1) :=
    fun v a b => notSlot_of_ne (by omega) (by omega) (by omega) (by omega) (by omega)
  ⟨fun v a b => (key v a b).1, fun v a b => (key v a b).2⟩

/-- bt4.rs:90-93 / :226-229: the holes are the two slots of the new node, `len0 = len1 = 0` -/
theorem loopInv_init (hcs : 0 < cs) (hlo1 : 1 ≤ lo) (hgeo : hi + 1 = lo + cs) {p : Nat} {T : Array Nat} {cur : Nat}
    (htbl : ∀ i, T.getD i 0 ≤ hi) (hsize : 2 * cs ≤ T.size) (hcur : cur ≤ hi) (hti : TInv d cs niceLen T lo hi) :
    LoopInv d cs niceLen lo hi p T (sl cs (hi + 1) + 1) (sl cs (hi + 1)) 0 0 cur := by
  obtain ⟨n1, n0⟩ := newSlots (cs := cs) hlo1 hgeo
  have := sl_lt hcs (hi + 1)
  refine ⟨htbl, hsize, hcur, by omega, by omega, by omega, hti, Or.inl n0, Or.inl n1, Or.inr (Or.inr ⟨n0, n1⟩), ?_, ?_⟩
  · intro v a b
    exact ⟨n0 v a (by omega), n1 v a (by omega)⟩
  · intro x _
    exact ⟨LeN.zero _ _ _, LeN.zero _ _ _⟩

theorem TInv.lo_mono {T : Array Nat} {lo' : Nat} (hl : lo ≤ lo') (ht : TInv d cs niceLen T lo hi) :
    TInv d cs niceLen T lo' hi := by
  intro q a b
  exact ⟨fun x hx => (ht q (by omega) b).1 x (Reach.lo_mono hl hx),
    fun x hx => (ht q (by omega) b).2 x (Reach.lo_mono hl hx)⟩

theorem post_top (hlo1 : 1 ≤ lo) (hgeo : hi + 1 = lo + cs) {T F : Array Nat} {cur : Nat}
    (hP : Post d cs lo hi (nw d cs niceLen (hi + 1)) (posOf cs (hi + 1)) T F (sl cs (hi + 1) + 1) (sl cs (hi + 1)) cur)
    (hti : TInv d cs niceLen T lo hi) (hF : ∀ i, F.getD i 0 ≤ hi) : TInv d cs niceLen F lo (hi + 1) := by
  obtain ⟨n1, n0⟩ := newSlots (cs := cs) hlo1 hgeo
  intro q a b
  have hdrop : ∀ σ x, RS cs F lo (hi + 1) σ x → RS cs F lo hi σ x :=
    fun σ x hx => Reach.hi_drop hF (hF _) hx
  by_cases hq : q = hi + 1
  · subst hq
    constructor
    · intro x hx
      have := hP.n1 x (hdrop _ x hx)
      exact ⟨by have := this.1.target; omega, this.2⟩
    · intro x hx
      have := hP.n0 x (hdrop _ x hx)
      exact ⟨by have := this.1.target; omega, this.2⟩
  · have hq' : q ≤ hi := by omega
    constructor
    · intro x hx
      exact (hti q a hq').1 x (hP.p1 _ x (Ne.symm (n0 q a hq').1) (Ne.symm (n1 q a hq').1) (hdrop _ x hx))
    · intro x hx
      exact (hti q a hq').2 x (hP.p1 _ x (Ne.symm (n0 q a hq').2) (Ne.symm (n1 q a hq').2) (hdrop _ x hx))

end

variable {P : Bt4Params} {c : Cfg} {data : Array UInt8}

theorem pos_shift {k : Ctx} {hi : Nat} (hk : KCore P c data k hi)
    {cur : Nat} (h1 : k.cs < cur) (h2 : cur ≤ hi) (i : Nat) :
    k.p + i - (k.lzPos - cur) = posOf k.cs cur + i := by
  have := hk.lz
  have := hk.hi
  unfold posOf; omega

theorem nw_mono (d : Array UInt8) (cs niceLen : Nat) {a b : Nat} (h : a ≤ b) :
    nw d cs niceLen b ≤ nw d cs niceLen a :=
  Nat.le_min.2 ⟨Nat.min_le_left _ _, Nat.le_trans (Nat.min_le_right _ _)
    (Nat.sub_le_sub_left (Nat.sub_le_sub_right (Nat.sub_le_sub_right h cs) 1) _)⟩

/-- what is known when a walk looks at a candidate that passed the `delta >= cyclic_size` test -/
structure CandFacts (P : Bt4Params) (c : Cfg) (data : Array UInt8) (k : Ctx) (hi cur : Nat) : Prop where
  d1 : 1 ≤ k.lzPos - cur
  d2 : k.lzPos - cur ≤ k.p
  d3 : k.lzPos - cur ≤ c.dict
  lo : k.p + 1 < cur
  csLt : k.cs < cur
  hiLe : cur ≤ hi
  pair : pairOf P k (k.lzPos - cur) = sl k.cs cur

theorem candFacts (hok : P.ok) {k : Ctx} {hi cur : Nat}
    (hk : KCore P c data k hi) (hcp : k.cyclicPos = (k.lzPos - 1) % k.cs) (hc : EntryOk k.cs hi cur)
    (hstop : ¬ geOrGt P.treeStopGe (k.lzPos - cur) k.cs = true) : CandFacts P c data k hi cur := by
  obtain ⟨dlt, d1, d2, d3⟩ := walk_cand hok hk hc hstop
  have h1 := hk.lz
  have h2 := hk.hi
  have h3 := hk.cs
  have hcur : k.cs < cur ∧ cur ≤ hi := by
    rcases hc with h | h
    · subst h; omega
    · exact h
  refine ⟨d1, d2, d3, by omega, hcur.1, hcur.2, ?_⟩
  have := pairOf_eq_sl hok k (k.lzPos - cur) hcp d1 dlt (by omega)
  rw [this]; congr 1; omega

theorem cand_prefix_eq {k : Ctx} {hi : Nat} {T : Array Nat}
    {ptr0 ptr1 len0 len1 cur : Nat}
    (h : LoopInv data k.cs c.niceLen (k.p + 1) hi k.p T ptr0 ptr1 len0 len1 cur)
    (hf : CandFacts P c data k hi cur) : EqN data (min len0 len1) (posOf k.cs cur) k.p := by
  have := h.v cur (Reach.refl hf.lo hf.hiLe)
  exact LeN.antisymm (this.1.mono (Nat.min_le_left _ _)) (this.2.mono (Nat.min_le_right _ _))

/-- what the invariant needs of the comparison with a candidate whose first `m` bytes agree with the new string: the
    `len` bytes it reports agree, it asks for a replacement only when `nice_len_limit` bytes agree, otherwise the byte
    after them differs; `J` holds of the walk's own state meanwhile, `Q` of its final state -/
def ProbeBst {σ : Type} (c : Cfg) (data : Array UInt8) (k : Ctx) (probe : Probe σ) (J Q : σ → Prop) : Prop :=
  ∀ st lg m delta r, probe st lg m delta = r → J st → m < k.niceLimit → 1 ≤ delta → delta ≤ k.p → delta ≤ c.dict →
    (∀ i, i < m → byteAt data (k.p + i - delta) = byteAt data (k.p + i)) →
    (∀ i, i < r.1 → byteAt data (k.p + i - delta) = byteAt data (k.p + i)) ∧
    (r.2.1 = true → k.niceLimit ≤ r.1 ∧ Q r.2.2.1) ∧
    (r.2.1 = false → r.1 < k.niceLimit ∧ byteAt data (k.p + r.1 - delta) ≠ byteAt data (k.p + r.1) ∧ J r.2.2.1)

theorem walk_bst {σ : Type} (hok : P.ok) (k : Ctx) {hi : Nat}
    (hk : KCore P c data k hi) (hcp : k.cyclicPos = (k.lzPos - 1) % k.cs)
    (hNn : k.niceLimit = nw data k.cs c.niceLen (hi + 1)) (probe : Probe σ) (J Q : σ → Prop)
    (hJQ : ∀ st, J st → Q st) (hprobe : ProbeBst c data k probe J Q)
    (depth : Nat) (tree : Array Nat) (ptr0 ptr1 len0 len1 cur : Nat) (st : σ) (lg : Log) :
    LoopInv data k.cs c.niceLen (k.p + 1) hi k.p tree ptr0 ptr1 len0 len1 cur → TblOk k.cs hi tree →
    EntryOk k.cs hi cur → len0 < k.niceLimit → len1 < k.niceLimit → J st →
    Post data k.cs (k.p + 1) hi k.niceLimit k.p tree
      (walk P data k probe depth tree ptr0 ptr1 len0 len1 cur st lg).1 ptr0 ptr1 cur ∧
    Q (walk P data k probe depth tree ptr0 ptr1 len0 len1 cur st lg).2.1 := by
  have hlo1 : 1 ≤ k.p + 1 := by omega
  have hgeo : hi < k.p + 1 + k.cs := by have := hk.hi; omega
  have hnw : ∀ {cur}, cur ≤ hi → k.niceLimit ≤ nw data k.cs c.niceLen cur := fun h =>
    hNn ▸ nw_mono data k.cs c.niceLen (Nat.le_trans h (Nat.le_add_right hi 1))
  have hcand : ∀ {tree ptr0 ptr1 len0 len1 cur st} (lg : Log) {r},
      probe st lg (min len0 len1) (k.lzPos - cur) = r →
      LoopInv data k.cs c.niceLen (k.p + 1) hi k.p tree ptr0 ptr1 len0 len1 cur → CandFacts P c data k hi cur →
      len0 < k.niceLimit → len1 < k.niceLimit → J st →
      EqN data r.1 (posOf k.cs cur) k.p ∧ (r.2.1 = true → k.niceLimit ≤ r.1 ∧ Q r.2.2.1) ∧
      (r.2.1 = false →
        r.1 < k.niceLimit ∧ byteAt data (posOf k.cs cur + r.1) ≠ byteAt data (k.p + r.1) ∧ J r.2.2.1) := by
    intro tree ptr0 ptr1 len0 len1 cur st lg r hr h hf hl0 hl1 hj
    have hpre := cand_prefix_eq h hf
    obtain ⟨a, b, d⟩ := hprobe st lg _ _ r hr hj (by omega) hf.d1 hf.d2 hf.d3
      (fun i hi' => by rw [pos_shift hk hf.csLt hf.hiLe]; exact hpre i hi')
    refine ⟨fun i hi' => ?_, b, fun hn => ?_⟩
    · have := a i hi'; rw [pos_shift hk hf.csLt hf.hiLe] at this; exact this
    · have := d hn; rw [pos_shift hk hf.csLt hf.hiLe] at this; exact this
  fun_induction walk P data k probe depth tree ptr0 ptr1 len0 len1 cur st lg with
  | case1 => intro h _ _ _ _ hj; exact ⟨post_terminate h, hJQ _ hj⟩
  | case2 => intro h _ _ _ _ hj; exact ⟨post_terminate h, hJQ _ hj⟩
  | case3 depth tree ptr0 ptr1 len0 len1 cur st lg delta hstop pair r hnice =>
    intro h ht hc hl0 hl1 hj
    have hf := candFacts hok hk hcp hc hstop
    obtain ⟨heq, hs, _⟩ := hcand lg rfl h hf hl0 hl1 hj
    obtain ⟨hge, hq⟩ := hs hnice
    refine ⟨?_, hq⟩
    rw [relink_fst, show pair = sl k.cs cur from hf.pair]
    exact post_relink h hf.lo (hnw hf.hiLe) (heq.mono hge)
  | case4 depth tree ptr0 ptr1 len0 len1 cur st lg delta hstop pair r hnice lg1 hlt tree1 ih =>
    intro h ht hc hl0 hl1 hj
    have hf := candFacts hok hk hcp hc hstop
    obtain ⟨heq, _, hs⟩ := hcand lg rfl h hf hl0 hl1 hj
    obtain ⟨hlen, _, hj'⟩ := hs (Bool.eq_false_iff.2 hnice)
    have hlt' : byteAt data (posOf k.cs cur + r.1) < byteAt data (k.p + r.1) := by
      have := hlt; rw [pos_shift hk hf.csLt hf.hiLe] at this; exact this
    obtain ⟨hinv, hpost⟩ := step_small hlo1 hgeo h hf.lo (hnw hf.hiLe) (Nat.le_trans (Nat.le_of_lt hlen) (hnw hf.hiLe)) heq hlt'
    rw [← show pair = sl k.cs cur from hf.pair] at hinv hpost
    have ht1 : TblOk k.cs hi tree1 := ht.set ptr1 cur hc
    obtain ⟨a, b⟩ := ih hinv ht1 (ht1 _) hl0 hlen hj'
    exact ⟨hpost _ a, b⟩
  | case5 depth tree ptr0 ptr1 len0 len1 cur st lg delta hstop pair r hnice lg1 hlt tree1 ih =>
    intro h ht hc hl0 hl1 hj
    have hf := candFacts hok hk hcp hc hstop
    obtain ⟨heq, _, hs⟩ := hcand lg rfl h hf hl0 hl1 hj
    obtain ⟨hlen, hne, hj'⟩ := hs (Bool.eq_false_iff.2 hnice)
    have hlt' : byteAt data (k.p + r.1) < byteAt data (posOf k.cs cur + r.1) := by
      have h1 := hlt
      rw [pos_shift hk hf.csLt hf.hiLe] at h1
      exact Nat.lt_of_le_of_ne (Nat.le_of_not_lt h1) (Ne.symm hne)
    obtain ⟨hinv, hpost⟩ := step_large hlo1 hgeo h hf.lo (hnw hf.hiLe) (Nat.le_trans (Nat.le_of_lt hlen) (hnw hf.hiLe)) heq hlt'
    rw [← show pair = sl k.cs cur from hf.pair] at hinv hpost
    have ht1 : TblOk k.cs hi tree1 := ht.set ptr0 cur hc
    obtain ⟨a, b⟩ := ih hinv ht1 (ht1 _) hlen hl1 hj'
    exact ⟨hpost _ a, b⟩

/-- `find_matches`: `J` says that `len_best` lies in `[2, nice_len_limit)` and that the matches so far are real -/
theorem findProbe_bst (hok : P.ok) {k : Ctx} {hi : Nat}
    (hk : KFacts P c data k hi) (hNL : k.niceLimit ≤ k.lenLimit) :
    ProbeBst c data k (findProbe P data k.p k.lenLimit k.niceLimit)
      (fun st => 2 ≤ st.1 ∧ st.1 < k.niceLimit ∧
        ∀ x ∈ st.2.toList, ValidMatch data c.dict k.p (min c.mlmax (data.size - k.p)) x)
      (fun st => ∀ x ∈ st.2.toList, ValidMatch data c.dict k.p (min c.mlmax (data.size - k.p)) x) := by
  rintro ⟨lb, ms⟩ lg m delta r rfl ⟨hlb2, hlb, hms⟩ hm d1 d2 d3 hpre
  have hmin : m ≤ k.lenLimit := by omega
  have hlenle := extendMatch_le data k.p delta k.lenLimit m hmin
  have heq : ∀ i, i < extendMatch data k.p delta k.lenLimit m →
      byteAt data (k.p + i - delta) = byteAt data (k.p + i) := by
    intro i hi'
    by_cases hi2 : i < m
    · exact hpre i hi2
    · exact (extendMatch_eq data k.p delta k.lenLimit m i (by omega) hi').symm
  -- below `nice_len_limit` the extension has stopped at a mismatch
  have hne : extendMatch data k.p delta k.lenLimit m < k.niceLimit →
      byteAt data (k.p + extendMatch data k.p delta k.lenLimit m - delta) ≠
        byteAt data (k.p + extendMatch data k.p delta k.lenLimit m) := by
    intro hlt
    rcases extendMatch_stop data k.p delta k.lenLimit m hmin with h | h
    · omega
    · exact Ne.symm h
  by_cases hit : lb < extendMatch data k.p delta k.lenLimit m
  · rw [findProbe_hit hok hit]
    have hms1 : ∀ x ∈ (ms.push (extendMatch data k.p delta k.lenLimit m, delta - 1)).toList,
        ValidMatch data c.dict k.p (min c.mlmax (data.size - k.p)) x := by
      intro x hx
      rcases List.mem_append.1 (Array.toList_push ▸ hx) with h | h
      · exact hms x h
      · rw [List.mem_singleton.1 h]
        exact valid_of_prefix hk delta _ d1 d2 d3 (by omega) hlenle (fun i hi' => (heq i hi').symm)
    refine ⟨heq, fun hn => ⟨of_decide_eq_true hn, hms1⟩, fun hn => ?_⟩
    have hlt : extendMatch data k.p delta k.lenLimit m < k.niceLimit := Nat.lt_of_not_le (of_decide_eq_false hn)
    exact ⟨hlt, hne hlt, by show 2 ≤ extendMatch _ _ _ _ _; omega, hlt, hms1⟩
  · rw [findProbe_miss hok hit]
    have hlt : extendMatch data k.p delta k.lenLimit m < k.niceLimit := by omega
    exact ⟨heq, fun hn => by simp at hn, fun _ => ⟨hlt, hne hlt, hlb2, hlb, hms⟩⟩

theorem skipInner_spec (data : Array UInt8) (p delta niceLimit : Nat) (fuel len : Nat) (lg : Log) :
    len < niceLimit → niceLimit ≤ fuel + len →
    (∀ i, i ≤ len → byteAt data (p + i - delta) = byteAt data (p + i)) →
    (∀ i, i < (skipInner data p delta niceLimit fuel len lg).1 → byteAt data (p + i - delta) = byteAt data (p + i)) ∧
    ((skipInner data p delta niceLimit fuel len lg).2.1 = true →
      (skipInner data p delta niceLimit fuel len lg).1 = niceLimit) ∧
    ((skipInner data p delta niceLimit fuel len lg).2.1 = false →
      (skipInner data p delta niceLimit fuel len lg).1 < niceLimit ∧
      byteAt data (p + (skipInner data p delta niceLimit fuel len lg).1 - delta) ≠
        byteAt data (p + (skipInner data p delta niceLimit fuel len lg).1)) := by
  fun_induction skipInner data p delta niceLimit fuel len lg with
  | case1 len lg => intro h1 h2 _; omega
  | case2 fuel len lg len1 heq =>
    intro _ _ he
    exact ⟨fun i hi => he i (by omega), fun _ => heq, fun h => by simp at h⟩
  | case3 fuel len lg len1 hne lg1 hby =>
    intro h1 _ he
    exact ⟨fun i hi => he i (by omega), fun h => by simp at h, fun _ => ⟨by omega, hby⟩⟩
  | case4 fuel len lg len1 hne lg1 hby ih =>
    intro h1 h2 he
    refine ih (by omega) (by omega) ?_
    intro i hi
    by_cases h : i ≤ len
    · exact he i h
    · have : i = len1 := by omega
      subst this
      exact Decidable.not_not.1 hby

theorem skipProbe_bst (c : Cfg) (data : Array UInt8) (k : Ctx) :
    ProbeBst c data k (skipProbe data k.p k.niceLimit) (fun _ => True) (fun _ => True) := by
  rintro _ lg m delta r rfl _ hm _ _ _ hpre
  unfold skipProbe
  simp only []
  split
  · rename_i hb
    obtain ⟨a, b, d⟩ := skipInner_spec data k.p delta k.niceLimit k.niceLimit m
      ((lg.push (.byte k.p m delta)).push (.byte k.p m 0)) hm (by omega) (by
        intro i hi
        by_cases h : i < m
        · exact hpre i h
        · rw [show i = m by omega]; exact hb)
    exact ⟨a, fun h => ⟨Nat.le_of_eq (b h).symm, trivial⟩, fun h => ⟨(d h).1, (d h).2, trivial⟩⟩
  · rename_i hb
    exact ⟨hpre, fun h => by simp at h, fun _ => ⟨hm, hb, trivial⟩⟩

end LzmaVerif.Mf.Bt4
