/-
  Fast encoder (`Model/EncFast.lean`): `histOf d p` - the decoder's history after the first `p` bytes of the data; a
  literal of the data byte and a copy that really repeats the data extend it.
-/
import LzmaVerif.Model.EncFast
import LzmaVerif.Proofs.LoopRt
import LzmaVerif.Proofs.MfCands

namespace LzmaVerif.Lzma2W
open LzmaVerif Lzma

/-- the history of the first `q0` bytes of `d` (for the LZMA2 writer: the used part of the preset dictionary) -/
def histOf (d : Array UInt8) (q0 : Nat) : Hist := Lzma2.pushAll #[] (sliceNat d 0 q0)

end LzmaVerif.Lzma2W

namespace LzmaVerif.EncFast
open LzmaVerif Mf Lzma
open LzmaVerif.Lzma2W (histOf sliceNat)
open LzmaVerif.Mf.Hc4 (Eqs)

theorem pushAll_snoc (b : Nat) : ∀ (l : List Nat) (a : Array Nat),
    Lzma2.pushAll a (l ++ [b]) = (Lzma2.pushAll a l).push b
  | [], _ => rfl
  | _ :: l, _ => pushAll_snoc b l _

theorem histOf_succ (d : Array UInt8) (p : Nat) : histOf d (p + 1) = (histOf d p).push (byteAt d p) := by
  unfold histOf sliceNat
  simp only [List.range_succ, List.map_append, List.map_cons, List.map_nil, pushAll_snoc, Nat.zero_add]

theorem histOf_size (d : Array UInt8) : ∀ p, (histOf d p).size = p
  | 0 => rfl
  | p + 1 => by rw [histOf_succ, Array.size_push, histOf_size d p]

theorem histOf_getD (d : Array UInt8) : ∀ {p i : Nat}, i < p → (histOf d p).getD i 0 = byteAt d i
  | p + 1, i, hi => by
    rw [histOf_succ, Array.getD_eq_getD_getElem?, Array.getElem?_push, histOf_size]
    split
    · next hip =>
      rw [hip]
      rfl
    · next hip =>
      rw [← Array.getD_eq_getD_getElem?]
      exact histOf_getD d (Nat.lt_of_le_of_ne (Nat.le_of_lt_succ hi) hip)

theorem histOf_back (d : Array UInt8) (p dist : Nat) :
    (histOf d p).back dist = if dist < p then byteAt d (p - 1 - dist) else 0 := by
  unfold Hist.back
  rw [histOf_size]
  split
  · exact histOf_getD d (by omega)
  · rfl

theorem histOf_copy {d : Array UInt8} (dist : Nat) :
    ∀ (len p : Nat), dist + 1 ≤ p → Eqs d p (dist + 1) len → (histOf d p).copy dist len = histOf d (p + len)
  | 0, _, _, _ => rfl
  | len + 1, p, hd, he => by
    -- the byte copied first is the byte of the data at `p`; the rest is a copy at `p + 1`
    have hb : byteAt d p = byteAt d (p - (dist + 1)) := he 0 (Nat.succ_pos len)
    rw [Hist.copy, histOf_back, if_pos (show dist < p from hd), Nat.sub_sub, Nat.add_comm 1, ← hb, ← histOf_succ,
      Nat.add_comm len 1, ← Nat.add_assoc]
    refine histOf_copy dist len (p + 1) (Nat.le_succ_of_le hd) fun i hi => ?_
    rw [Nat.add_right_comm]
    exact he (i + 1) (Nat.succ_lt_succ hi)

theorem histOf_full (d : Array UInt8) : histOf d d.size = d.map (fun b => b.toNat) := by
  apply Array.ext
  · rw [Array.size_map, histOf_size]
  · intro i h1 h2
    rw [Array.size_map] at h2
    have := histOf_getD d h2
    simp only [byteAt, Array.getD_eq_getD_getElem?, Array.getElem?_eq_getElem, h1, h2, Option.getD_some] at this
    rw [this, Array.getElem_map]

theorem parseRun_lit (dictBuf b : Nat) (rest : List Sym) (c : Coder) (h : Hist) (hb : b < 256) :
    parseRun dictBuf (.lit b :: rest) c h = parseRun dictBuf rest (c.apply (.lit b)) (h.push b) := by
  simp only [parseRun, if_pos hb]

theorem parseRun_copy_step (dictBuf : Nat) (s : Sym) (rest : List Sym) (c : Coder) (h : Hist)
    (dist len : Nat) (hok : SymOk s) (hs : ∀ b, s ≠ .lit b) (hc : s.copyOf c = some (dist, len))
    (hd1 : dist < h.size) (hd2 : dist < dictBuf) :
    parseRun dictBuf (s :: rest) c h = parseRun dictBuf rest (c.apply s) (h.copy dist len) := by
  have hif : SymOk s ∧ dist < h.size ∧ dist < dictBuf := ⟨hok, hd1, hd2⟩
  cases s with
  | lit b => exact absurd rfl (hs b)
  | _ => simp only [parseRun, hc, if_pos hif]

theorem parseRun_of_cont {dictBuf : Nat} {p : List Sym} {c0 c : Coder} {h0 h : Hist}
    (hpr : ∀ rest, parseRun dictBuf (p ++ rest) c0 h0 = parseRun dictBuf rest c h) :
    parseRun dictBuf p c0 h0 = some (c, h) := by
  have := hpr []
  rw [List.append_nil] at this
  exact this

end LzmaVerif.EncFast
