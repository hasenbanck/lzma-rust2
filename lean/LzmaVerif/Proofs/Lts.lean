/-
What the two protocol models (`Model/MT.lean`, `Model/WorkQueue.lean`) share: runs under an invariant and a measure,
and a pool of threads kept as the list of their program counters.  A step that moves one thread meets its weight
through `sum_map_set`; a step that wakes threads (`Woke`) meets the weights through `Woke.sum` and everything a
single move keeps through `Woke.induct`.  Core Lean only.
-/
namespace LzmaVerif.Lts

/-- `run` is any function with the two equations of `runSched` (each holds by `rfl`): the two models define
    their own. -/
theorem run_bound {σ ι : Type} {step : σ → ι → Option σ} {run : σ → List ι → Option σ}
    (hnil : ∀ s, run s [] = some s)
    (hcons : ∀ s l ls, run s (l :: ls) = (step s l).bind fun s' => run s' ls)
    {P : σ → Prop} {mu : σ → Nat} (hstep : ∀ s l s', P s → step s l = some s' → P s' ∧ mu s' < mu s) :
    ∀ (sched : List ι) (s s' : σ), P s → run s sched = some s' → P s' ∧ sched.length + mu s' ≤ mu s
  | [], s, s', h, hr => by
    cases (hnil s).symm.trans hr
    exact ⟨h, Nat.le_of_eq (Nat.zero_add _)⟩
  | l :: ls, s, s', h, hr => by
    obtain ⟨s1, hst, hr⟩ := Option.bind_eq_some_iff.mp ((hcons s l ls).symm.trans hr)
    have h1 := hstep s l s1 h hst
    have h2 := run_bound hnil hcons hstep ls s1 s' h1.1 hr
    exact ⟨h2.1, by rw [List.length_cons]; omega⟩

variable {α : Type}

theorem sum_map_set (f : α → Nat) {ws : List α} {i : Nat} {old : α} (new : α) (h : ws[i]? = some old) :
    ((ws.set i new).map f).sum + f old = (ws.map f).sum + f new := by
  induction ws generalizing i with
  | nil => cases h
  | cons a r ih =>
    cases i with
    | zero => cases h; simp only [List.set_cons_zero, List.map_cons, List.sum_cons]; omega
    | succ j =>
      have := ih (i := j) h
      simp only [List.set_cons_succ, List.map_cons, List.sum_cons]; omega

theorem mem_set_of_ne {ws : List α} {i : Nat} {old w : α} (v : α) (h : ws[i]? = some old)
    (hw : w ∈ ws) (hne : w ≠ old) : w ∈ ws.set i v := by
  obtain ⟨j, hj⟩ := List.getElem?_of_mem hw
  have hij : i ≠ j := fun hc => hne (Option.some.inj ((hc ▸ hj).symm.trans h))
  exact List.mem_iff_getElem?.mpr ⟨j, by rw [List.getElem?_set_ne hij]; exact hj⟩

/-- `ws'` is `ws` after a wake-up (`notify_one`, `notify_all`): `n` of the threads at `a` are now at `b` -/
inductive Woke (a b : α) : Nat → List α → List α → Prop
  | nil : Woke a b 0 [] []
  | keep (w : α) {n : Nat} {r r' : List α} : Woke a b n r r' → Woke a b n (w :: r) (w :: r')
  | wake {n : Nat} {r r' : List α} : Woke a b n r r' → Woke a b (n + 1) (a :: r) (b :: r')

namespace Woke
variable {a b : α} {n : Nat} {ws ws' : List α}

theorem refl : ∀ ws : List α, Woke a b 0 ws ws
  | [] => .nil
  | w :: r => .keep w (refl r)

theorem length (h : Woke a b n ws ws') : ws'.length = ws.length := by
  induction h <;> simp [*]

theorem le_length (h : Woke a b n ws ws') : n ≤ ws.length := by
  induction h <;> simp only [List.length_nil, List.length_cons] <;> omega

theorem sum (h : Woke a b n ws ws') (f : α → Nat) : (ws'.map f).sum + n * f a = (ws.map f).sum + n * f b := by
  induction h with
  | nil => simp
  | keep w _ ih => simp only [List.map_cons, List.sum_cons]; omega
  | wake _ ih => simp only [List.map_cons, List.sum_cons, Nat.add_mul, Nat.one_mul]; omega

/-- A wake-up is a series of moves `a → b` of single threads, made on their behalf: what every such move
    keeps, the wake-up keeps. -/
theorem induct (h : Woke a b n ws ws') {P : List α → Prop} (h0 : P ws)
    (hset : ∀ l i, P l → l[i]? = some a → P (l.set i b)) : P ws' := by
  induction h generalizing P with
  | nil => exact h0
  | keep w _ ih =>
    exact ih (P := fun l => P (w :: l)) h0 fun l i hl hi => hset (w :: l) (i + 1) hl hi
  | @wake _ r _ _ ih =>
    exact ih (P := fun l => P (b :: l)) (hset (a :: r) 0 h0 rfl) fun l i hl hi => hset (b :: l) (i + 1) hl hi

end Woke

/-- `notify_all` as both models write it -/
theorem woke_map [DecidableEq α] (a b : α) :
    ∀ ws : List α, ∃ n, Woke a b n ws (ws.map fun w => if w = a then b else w)
  | [] => ⟨0, .nil⟩
  | w :: r => by
    obtain ⟨n, h⟩ := woke_map a b r
    by_cases hw : w = a
    · subst hw; exact ⟨n + 1, by simpa using h.wake⟩
    · exact ⟨n, by simpa [hw] using h.keep w⟩

theorem not_mem_map [DecidableEq α] {a b : α} (hab : b ≠ a) (ws : List α) :
    ∀ w ∈ ws.map (fun w => if w = a then b else w), w ≠ a := by
  intro w hw
  obtain ⟨x, _, rfl⟩ := List.mem_map.mp hw
  split <;> assumption

end LzmaVerif.Lts

