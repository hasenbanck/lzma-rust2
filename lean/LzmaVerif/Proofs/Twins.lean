import LzmaVerif.Model.Twins
import LzmaVerif.Model.Rc
/-!
The twins of `Model/Twins.lean` (T1 .. T5 as numbered there): the optimized variant computes what the portable one
computes wherever the callers' invariants hold (C14), and every index in its trace lies inside the buffer (C15).
Each twin rests on one arithmetic fact and a thin induction over its loop: T1 `byteMatchLen_word` (what a word compare
decides) under `matchLoop_slices`, `matchLoop_congr`; T2 `clamp_inBounds_iff`, `u16_eq_iff`; T3 `simdChunks_eq_map`;
T4 `wsub32_sign` (bit 31 of the wrapped `code - r`) under `directLoop_congr`, `directPortable_eq_loop`, `directLoop_pos`;
T5 `alignedNew_spec`.
-/

namespace LzmaVerif.Twins


def TwinParams.Ok (P : TwinParams) : Prop :=
  P.wordSize = 8 ∧ P.tzDiv = 8 ∧ P.bufLimitSub = 2 ∧ P.u16Bytes = 2 ∧ P.asmLimitSub = 1 ∧
  P.topValue = 2 ^ 24 ∧ P.shiftBits = 8 ∧ P.signShift = 31 ∧ P.alignment = 64 ∧ P.elemSize = 4 ∧
  P.rcBufSub = 5 ∧ P.rcBufSize = 65536

instance (P : TwinParams) : Decidable P.Ok := by unfold TwinParams.Ok; infer_instance

theorem srcParams_ok : srcParams.Ok := by decide

/-! The theorems name the constants they depend on one by one; the instance generated from the source hands them over
through these projections, and a changed constant in the source makes its `Ok` (`by decide`) fail. -/

section
variable {P : TwinParams} (h : P.Ok)
include h

theorem TwinParams.Ok.wordSize : P.wordSize = 8 := h.1
theorem TwinParams.Ok.tzDiv : P.tzDiv = 8 := h.2.1
theorem TwinParams.Ok.bufLimitSub : P.bufLimitSub = 2 := h.2.2.1
theorem TwinParams.Ok.u16Bytes : P.u16Bytes = 2 := h.2.2.2.1
theorem TwinParams.Ok.asmLimitSub : P.asmLimitSub = 1 := h.2.2.2.2.1
theorem TwinParams.Ok.topValue : P.topValue = 2 ^ 24 := h.2.2.2.2.2.1
theorem TwinParams.Ok.shiftBits : P.shiftBits = 8 := h.2.2.2.2.2.2.1
theorem TwinParams.Ok.signShift : P.signShift = 31 := h.2.2.2.2.2.2.2.1
theorem TwinParams.Ok.alignment : P.alignment = 64 := h.2.2.2.2.2.2.2.2.1
theorem TwinParams.Ok.elemSize : P.elemSize = 4 := h.2.2.2.2.2.2.2.2.2.1
theorem TwinParams.Ok.rcBufSub : P.rcBufSub = 5 := h.2.2.2.2.2.2.2.2.2.2.1
theorem TwinParams.Ok.rcBufSize : P.rcBufSize = 65536 := h.2.2.2.2.2.2.2.2.2.2.2

theorem TwinParams.Ok.wordSize_pos : 0 < P.wordSize := by
  rw [h.wordSize]; decide

end

def Bytes (l : List Nat) : Prop := ∀ b ∈ l, b < 256


theorem getD_of_lt {l : List Nat} {i : Nat} (h : i < l.length) : l.getD i 0 = l[i] := by
  rw [List.getD_eq_getElem?_getD, List.getElem?_eq_getElem h, Option.getD_some]

theorem getD_of_le {l : List Nat} {i : Nat} (h : l.length ≤ i) : l.getD i 0 = 0 := by
  rw [List.getD_eq_getElem?_getD, List.getElem?_eq_none h, Option.getD_none]

theorem xor_eq_zero_imp {a b : Nat} (h : a ^^^ b = 0) : a = b := by
  have h1 : a ^^^ (a ^^^ b) = b := by rw [← Nat.xor_assoc, Nat.xor_self, Nat.zero_xor]
  rw [h, Nat.xor_zero] at h1
  exact h1

theorem tzAux_succ_even {f x : Nat} (h : x % 2 = 0) : tzAux (f + 1) x = 1 + tzAux f (x / 2) := by
  simp [tzAux, h]

theorem tzAux_succ_odd {f x : Nat} (h : x % 2 = 1) : tzAux (f + 1) x = 0 := by
  simp [tzAux, h]

theorem tzAux_two_pow_mul (f y : Nat) : ∀ k, tzAux (f + k) (2 ^ k * y) = k + tzAux f y
  | 0 => by simp
  | k + 1 => by
    have e : 2 ^ (k + 1) * y = 2 * (2 ^ k * y) := by rw [Nat.pow_succ, Nat.mul_comm _ 2, Nat.mul_assoc]
    rw [← Nat.add_assoc, e, tzAux_succ_even (Nat.mul_mod_right 2 _),
      Nat.mul_div_cancel_left _ (by decide : 0 < 2), tzAux_two_pow_mul f y k]
    omega

theorem tzAux_lt (f r : Nat) : ∀ k c, 0 < c → c < 2 ^ k → tzAux (f + k) (c + 2 ^ k * r) < k
  | 0, c, h0, h => by omega
  | k + 1, c, h0, h => by
    rw [← Nat.add_assoc, Nat.pow_succ, Nat.mul_comm _ 2, Nat.mul_assoc]
    rw [Nat.pow_succ] at h
    rcases Nat.mod_two_eq_zero_or_one c with hc | hc
    · obtain ⟨d, rfl⟩ : ∃ d, c = 2 * d := ⟨c / 2, by omega⟩
      rw [← Nat.mul_add, tzAux_succ_even (Nat.mul_mod_right 2 _),
        Nat.mul_div_cancel_left _ (by decide : 0 < 2)]
      have := tzAux_lt f r k d (by omega) (by omega)
      omega
    · rw [tzAux_succ_odd (by rw [Nat.add_mul_mod_self_left]; exact hc)]
      exact Nat.succ_pos k

theorem byte_add_mul {a : Nat} (x : Nat) (ha : a < 256) :
    (a + 256 * x) % 2 ^ 8 = a ∧ (a + 256 * x) / 2 ^ 8 = x :=
  ⟨by rw [Nat.add_mul_mod_self_left]; exact Nat.mod_eq_of_lt ha,
   by rw [Nat.add_mul_div_left _ _ (by decide), Nat.div_eq_of_lt ha, Nat.zero_add]⟩

theorem leVal_cons_xor {a b : Nat} (as bs : List Nat) (ha : a < 256) (hb : b < 256) :
    leVal (a :: as) ^^^ leVal (b :: bs) = (a ^^^ b) + 256 * (leVal as ^^^ leVal bs) := by
  rw [← Nat.mod_add_div (leVal (a :: as) ^^^ leVal (b :: bs)) (2 ^ 8), Nat.xor_mod_two_pow,
    Nat.xor_div_two_pow, leVal, leVal, (byte_add_mul _ ha).1, (byte_add_mul _ ha).2,
    (byte_add_mul _ hb).1, (byte_add_mul _ hb).2]

theorem u16_eq_iff {a b c d : Nat} (ha : a < 256) (hc : c < 256) :
    a + 256 * b = c + 256 * d ↔ a = c ∧ b = d := by
  omega

/-- Comparing two equally long byte strings as little-endian words decides how
    far two lists starting with them agree: equal words are skipped, and for different words
    `trailing_zeros(w1 ^ w2) / 8` is the index of the first differing byte. -/
theorem byteMatchLen_word : ∀ (u v x y : List Nat), u.length = v.length → Bytes u → Bytes v →
    byteMatchLen (u ++ x) (v ++ y) =
      if leVal u = leVal v then u.length + byteMatchLen x y
      else tz (8 * u.length) (leVal u ^^^ leVal v) / 8
  | [], [], x, y, _, _, _ => by simp
  | a :: u, b :: v, x, y, hl, hu, hv => by
    obtain ⟨ha, hu⟩ := List.forall_mem_cons.1 hu
    obtain ⟨hb, hv⟩ := List.forall_mem_cons.1 hv
    have ih := byteMatchLen_word u v x y (Nat.succ.inj hl) hu hv
    rw [List.cons_append, List.cons_append, byteMatchLen, leVal_cons_xor u v ha hb, List.length_cons,
      Nat.mul_succ, tz, leVal, leVal]
    simp only [u16_eq_iff ha hb]
    by_cases hab : a = b
    · -- the low byte of the xor is 0: eight zero bits, then the words above
      rw [if_pos hab, ih, hab, Nat.xor_self, Nat.zero_add, tzAux_two_pow_mul _ _ 8]
      by_cases he : leVal u = leVal v
      · rw [if_pos he, if_pos ⟨rfl, he⟩]
        omega
      · rw [if_neg he, if_neg fun h => he h.2, Nat.add_div_left _ (by decide : 0 < 8), Nat.add_comm]
        rfl
    · -- the low byte of the xor is not 0: the count stops inside it
      have hx : 0 < a ^^^ b := Nat.pos_of_ne_zero fun h0 => hab (xor_eq_zero_imp h0)
      have : tzAux (8 * u.length + 8) ((a ^^^ b) + 256 * (leVal u ^^^ leVal v)) < 8 :=
        tzAux_lt _ _ 8 _ hx (Nat.xor_lt_two_pow (n := 8) ha hb)
      rw [if_neg hab, if_neg fun h => hab h.1, Nat.div_eq_of_lt this]

theorem byteMatchLen_nil_left (l : List Nat) : byteMatchLen [] l = 0 := by
  cases l <;> rfl

theorem byteMatchLen_nil_right (l : List Nat) : byteMatchLen l [] = 0 := by
  cases l <;> rfl

theorem byteMatchLen_le_left : ∀ (a b : List Nat), byteMatchLen a b ≤ a.length
  | [], b => by simp [byteMatchLen_nil_left]
  | _ :: _, [] => by simp [byteMatchLen]
  | x :: a, y :: b => by
    have := byteMatchLen_le_left a b
    simp only [byteMatchLen, List.length_cons]
    split <;> omega

theorem slice_length (l : List Nat) (a n : Nat) (h : a + n ≤ l.length) : (slice l a n).length = n := by
  simp [slice]; omega

theorem Bytes.slice {l : List Nat} (h : Bytes l) (a n : Nat) : Bytes (slice l a n) :=
  fun b hb => h b (List.mem_of_mem_drop (List.mem_of_mem_take hb))

theorem drop_eq_slice_append (l : List Nat) (m w : Nat) :
    l.drop m = slice l m w ++ l.drop (m + w) := by
  rw [slice, ← List.drop_drop, List.take_append_drop]

theorem matchLoop_slices (P : TwinParams) (hW : 0 < P.wordSize) (hd : P.tzDiv = 8)
    (s1 s2 : List Nat) (h1 : Bytes s1) (h2 : Bytes s2) (len : Nat) (hm1 : len ≤ s1.length)
    (hm2 : len ≤ s2.length) (hmin : s1.length ≤ len ∨ s2.length ≤ len) :
    ∀ (f m : Nat), m ≤ len → len < f + m →
      matchLoop P len (fun m => leVal (slice s1 m P.wordSize)) (fun m => leVal (slice s2 m P.wordSize))
        (fun m => s1.getD m 0) (fun m => s2.getD m 0) f m
      = m + byteMatchLen (s1.drop m) (s2.drop m)
  | 0, m, h, h' => by omega
  | f + 1, m, hm, hf => by
    have ih := matchLoop_slices P hW hd s1 s2 h1 h2 len hm1 hm2 hmin f
    rw [matchLoop]
    by_cases hw : m + P.wordSize ≤ len
    · -- a whole word: split both rests into that word and what follows it
      have l1 := slice_length s1 m P.wordSize (by omega)
      have l2 := slice_length s2 m P.wordSize (by omega)
      rw [if_pos hw, drop_eq_slice_append s1 m P.wordSize, drop_eq_slice_append s2 m P.wordSize,
        byteMatchLen_word _ _ _ _ (l1.trans l2.symm) (h1.slice _ _) (h2.slice _ _), l1]
      split
      · rw [ih _ hw (by omega), Nat.add_assoc]
      · rw [hd]
    · rw [if_neg hw]
      by_cases hlt : m < len
      · have hl1 : m < s1.length := by omega
        have hl2 : m < s2.length := by omega
        rw [if_pos hlt, List.drop_eq_getElem_cons hl1, List.drop_eq_getElem_cons hl2, byteMatchLen,
          getD_of_lt hl1, getD_of_lt hl2]
        split
        · rw [ih (m + 1) hlt (by omega), Nat.add_assoc]
        · rfl
      · -- `m = len`: the shorter slice is exhausted
        rw [if_neg hlt]
        by_cases h : s1.length ≤ m
        · rw [List.drop_eq_nil_of_le h, byteMatchLen_nil_left]; rfl
        · rw [List.drop_eq_nil_of_le (as := s2) (by omega), byteMatchLen_nil_right]; rfl

/-- **T1 (a), C14.**  The word-at-a-time `extend_match_safe` (safe variant) is the byte-wise
    longest common prefix. -/
theorem extendMatchSafe_eq_byteMatchLen (P : TwinParams) (hW : 0 < P.wordSize) (hd : P.tzDiv = 8)
    (s1 s2 : List Nat) (h1 : Bytes s1) (h2 : Bytes s2) :
    extendMatchSafe P s1 s2 = byteMatchLen s1 s2 := by
  rw [extendMatchSafe, matchLoop_slices P hW hd s1 s2 h1 h2 _ (Nat.min_le_left _ _) (Nat.min_le_right _ _)
    (by omega) _ 0 (Nat.zero_le _) (Nat.lt_succ_self _)]
  exact Nat.zero_add _

theorem matchLoopT_fst (P : TwinParams) (len : Nat) (w1 w2 b1 b2 : Nat → Nat) :
    ∀ (f m : Nat), (matchLoopT P len w1 w2 b1 b2 f m).1 = matchLoop P len w1 w2 b1 b2 f m
  | 0, _ => rfl
  | f + 1, m => by
    simp only [matchLoopT, matchLoop, apply_ite Prod.fst, matchLoopT_fst P len w1 w2 b1 b2 f]

theorem matchLoop_congr (P : TwinParams) (len : Nat) (w1 w2 b1 b2 w1' w2' b1' b2' : Nat → Nat)
    (hw1 : ∀ m, m + P.wordSize ≤ len → w1 m = w1' m) (hw2 : ∀ m, m + P.wordSize ≤ len → w2 m = w2' m)
    (hb1 : ∀ m, m < len → b1 m = b1' m) (hb2 : ∀ m, m < len → b2 m = b2' m) :
    ∀ (f m : Nat), matchLoop P len w1 w2 b1 b2 f m = matchLoop P len w1' w2' b1' b2' f m
  | 0, _ => rfl
  | f + 1, m => by
    have ih := matchLoop_congr P len w1 w2 b1 b2 w1' w2' b1' b2' hw1 hw2 hb1 hb2 f
    unfold matchLoop
    by_cases hw : m + P.wordSize ≤ len
    · simp only [if_pos hw, hw1 m hw, hw2 m hw, ih]
    · simp only [if_neg hw]
      by_cases hl : m < len
      · simp only [if_pos hl, hb1 m hl, hb2 m hl, ih]
      · simp only [if_neg hl]

theorem rdBytes_eq_slice (mem : List Nat) (p n m w : Nat) (h : p + n ≤ mem.length) (hm : m + w ≤ n) :
    rdBytes mem (p + m) w = slice (slice mem p n) m w := by
  simp only [slice, List.drop_take, List.take_take, List.drop_drop, Nat.min_eq_left (Nat.le_sub_of_add_le' hm)]
  apply List.ext_getElem
  · simp [rdBytes]; omega
  · intro k hk1 hk2
    simp only [rdBytes, List.length_map, List.length_range] at hk1
    simp [rdBytes, List.getD]
    rw [List.getElem?_eq_getElem (by omega)]
    simp

theorem getD_slice (l : List Nat) (a n m : Nat) (h : m < n) :
    (slice l a n).getD m 0 = l.getD (a + m) 0 := by
  simp [slice, List.getD, h]

/-- **T1, C14.**  The raw-pointer variant on two in-bounds regions of `mem` returns what the safe
    variant returns on the corresponding slices. -/
theorem extendMatchPtr_eq_safe (P : TwinParams) (mem : List Nat) (p1 n1 p2 n2 : Nat)
    (hb1 : p1 + n1 ≤ mem.length) (hb2 : p2 + n2 ≤ mem.length) :
    (extendMatchPtrT P mem p1 n1 p2 n2).1 = extendMatchSafe P (slice mem p1 n1) (slice mem p2 n2) := by
  unfold extendMatchPtrT extendMatchSafe
  rw [matchLoopT_fst, slice_length _ _ _ hb1, slice_length _ _ _ hb2]
  have h1 := Nat.min_le_left n1 n2
  have h2 := Nat.min_le_right n1 n2
  generalize min n1 n2 = len at h1 h2
  apply matchLoop_congr
  · exact fun m hm => congrArg leVal (rdBytes_eq_slice _ _ _ _ _ hb1 (by omega))
  · exact fun m hm => congrArg leVal (rdBytes_eq_slice _ _ _ _ _ hb2 (by omega))
  · intro m hm; rw [getD_slice _ _ _ _ (by omega)]
  · intro m hm; rw [getD_slice _ _ _ _ (by omega)]

theorem matchLoopT_reads (P : TwinParams) (len : Nat) (w1 w2 b1 b2 : Nat → Nat) :
    ∀ (f m : Nat), ∀ r ∈ (matchLoopT P len w1 w2 b1 b2 f m).2, r.1 + r.2 ≤ len
  | 0, _ => fun _ h => nomatch h
  | f + 1, m => by
    have ih := matchLoopT_reads P len w1 w2 b1 b2 f
    rw [matchLoopT]
    -- each fetch is done under the guard that bounds it
    by_cases hw : m + P.wordSize ≤ len
    · rw [if_pos hw]
      by_cases he : w1 m = w2 m
      · rw [if_pos he]
        exact List.forall_mem_cons.2 ⟨hw, ih _⟩
      · rw [if_neg he]
        exact List.forall_mem_cons.2 ⟨hw, fun _ h => nomatch h⟩
    · rw [if_neg hw]
      by_cases hl : m < len
      · rw [if_pos hl]
        by_cases he : b1 m = b2 m
        · rw [if_pos he]
          exact List.forall_mem_cons.2 ⟨hl, ih _⟩
        · rw [if_neg he]
          exact List.forall_mem_cons.2 ⟨hl, fun _ h => nomatch h⟩
      · rw [if_neg hl]
        exact fun _ h => nomatch h

/-- **T1 (b), C15.**  Optimized `extend_match`: every index read through `get_unchecked` / `read_unaligned` / `*ptr`
    is inside `buf`, whatever `read_pos` and `limit` are.  (`start1 - distance` is truncated here; in the code it
    wraps for `distance > start1`: that case is not modelled.) -/
theorem extendMatchOptT_inBounds (P : TwinParams) (buf : List Nat) (readPos curLen dist limit : Nat) :
    ∀ i ∈ (extendMatchOptT P buf readPos curLen dist limit).2, i < buf.length := by
  intro i hi
  simp only [extendMatchOptT, absReads, List.mem_flatMap, List.mem_append, List.mem_map,
    List.mem_range] at hi
  obtain ⟨r, hr, hi⟩ := hi
  -- the fetch lies inside the clamped extension, which ends at the end of `buf`
  have : r.1 + r.2 ≤ buf.length - (readPos + curLen) :=
    Nat.le_trans (matchLoopT_reads P _ _ _ _ _ _ _ r hr)
      (Nat.le_trans (Nat.min_le_left _ _) (Nat.min_le_right _ _))
  obtain ⟨k, hk, rfl⟩ | ⟨k, hk, rfl⟩ := hi
  · omega
  · omega

/-- **T1, C14.**  Whenever the portable `extend_match` does not panic on its slice bounds, the
    optimized one returns the same length. -/
theorem extendMatchOpt_eq_portable (P : TwinParams) (buf : List Nat) (readPos curLen dist limit r : Nat)
    (h : extendMatchPortable P buf readPos curLen dist limit = some r) :
    (extendMatchOptT P buf readPos curLen dist limit).1 = r := by
  simp only [extendMatchPortable] at h
  split at h
  · next hb =>
    -- the slice bound that did not panic makes the clamp to the physical buffer the identity
    rw [← Option.some.inj h]
    simp only [extendMatchOptT]
    rw [Nat.min_eq_left (by omega), extendMatchPtr_eq_safe P buf _ _ _ _ hb (by omega)]
  · cases h

theorem extendMatchPortable_spec (P : TwinParams) (hW : 0 < P.wordSize) (hd : P.tzDiv = 8)
    (buf : List Nat) (hB : Bytes buf) (readPos curLen dist limit : Nat) (hc : curLen ≤ limit)
    (hb : readPos + curLen + (limit - curLen) ≤ buf.length) :
    extendMatchPortable P buf readPos curLen dist limit =
      some (curLen + byteMatchLen (slice buf (readPos + curLen) (limit - curLen))
                                  (slice buf (readPos + curLen - dist) (limit - curLen))) := by
  have he : extLogical limit curLen = limit - curLen := if_pos hc
  simp only [extendMatchPortable, he, if_pos hb]
  rw [extendMatchSafe_eq_byteMatchLen P hW hd _ _ (hB.slice _ _) (hB.slice _ _)]

example : extendMatchSafe srcParams [1,2,3,4,5,6,7,8,9,10,11,12,13] [1,2,3,4,5,6,7,8,9,10,11,99,13] = 11
    ∧ byteMatchLen [1,2,3,4,5,6,7,8,9,10,11,12,13] [1,2,3,4,5,6,7,8,9,10,11,99,13] = 11 := by decide +kernel

/-- the word path itself (difference inside the first word, byte 5): `tz / 8` is what decides -/
example : extendMatchSafe srcParams [1,2,3,4,5,6,7,8,9] [1,2,3,4,5,0x46,7,8,9] = 5 := by decide

/-- the `/ 8` matters: with `/ 4` the same input gives 11 instead of 5 -/
example : extendMatchSafe { srcParams with tzDiv := 4 } [1,2,3,4,5,6,7,8,9] [1,2,3,4,5,0x46,7,8,9] = 11 := by
  decide

/-- hypotheses of `extendMatchOpt_eq_portable` are satisfiable; the optimized variant reads
    indices 13..24 and 0..11 of a 26-byte buffer -/
example :
    let buf := [1,2,3,4,5,6,7,8,9,10,11,12,13,1,2,3,4,5,6,7,8,9,10,11,99,13]
    extendMatchPortable srcParams buf 13 0 13 13 = some 11 ∧
    (extendMatchOptT srcParams buf 13 0 13 13).1 = 11 := by decide +kernel

/-- Outside the caller's invariant (`limit` larger than what is left in the buffer) the variants
    differ observably: the portable one panics on the slice bound, the optimized one clamps and
    returns a length. -/
example :
    let buf := [1,2,3,4,5,6,7,8,9,10,11,12,13,1,2,3,4,5,6,7,8,9,10,11,99,13]
    extendMatchPortable srcParams buf 13 0 13 273 = none ∧
    (extendMatchOptT srcParams buf 13 0 13 273).1 = 11 := by decide +kernel

/-- **T2 (a), C15.**  Every clamped index leaves room for a `u16`, whatever `read_pos` (or the
    wrapped `read_pos - match_dist`) is, exactly when the clamp limit is at most `bufSize - 2`. -/
theorem clamp_inBounds_iff (bufSize lim : Nat) :
    (∀ i, min i lim + 2 ≤ bufSize) ↔ lim + 2 ≤ bufSize := by
  constructor
  · intro h; have := h lim; omega
  · intro h i; omega

theorem clamp_inBounds (bufSize lim i : Nat) (h : lim + 2 ≤ bufSize) : min i lim + 2 ≤ bufSize :=
  (clamp_inBounds_iff bufSize lim).2 h i

theorem bufLimitU16_largest (P : TwinParams) (hs : P.bufLimitSub = 2) (bufSize : Nat)
    (h2 : 2 ≤ bufSize) :
    (∀ i, min i (bufLimitU16 P bufSize) + 2 ≤ bufSize) ∧
    (∀ lim, (∀ i, min i lim + 2 ≤ bufSize) → lim ≤ bufLimitU16 P bufSize) := by
  unfold bufLimitU16
  rw [hs]
  refine ⟨(clamp_inBounds_iff _ _).2 (by omega), fun lim h => ?_⟩
  have := (clamp_inBounds_iff _ _).1 h
  omega

/-- witness: with `buf_size - 1` as limit, `read_pos = buf_size - 1` reads the byte at index
    `buf_size`, one past the end -/
theorem bufLimit_sub1_overruns (bufSize : Nat) (h : 1 ≤ bufSize) :
    min (bufSize - 1) (bufSize - 1) + 1 = bufSize := by omega

example : bufLimitU16 { srcParams with bufLimitSub := 1 } 4 = 3 ∧
    (fastRejectOpt { srcParams with bufLimitSub := 1 } [5,5,5,6] 3 1).2 = [3, 4, 2, 3] := by decide

/-- **T2 (a), C15.**  The optimized fast reject reads only inside `buf` for every `read_pos` and
    `match_dist`; `bufLimitSub ≤ buf.len()` is what `checked_sub(..).unwrap()` in the constructor
    guarantees. -/
theorem fastRejectOpt_inBounds (P : TwinParams) (hu : P.u16Bytes ≤ P.bufLimitSub) (buf : List Nat)
    (hlen : P.bufLimitSub ≤ buf.length) (readPos matchDist : Nat) :
    ∀ i ∈ (fastRejectOpt P buf readPos matchDist).2, i < buf.length := by
  intro i hi
  simp only [fastRejectOpt, fastRejectOptWith, bufLimitU16, List.mem_append, List.mem_map,
    List.mem_range] at hi
  rcases hi with ⟨k, hk, rfl⟩ | ⟨k, hk, rfl⟩ <;> omega

theorem getD_lt_of_Bytes {l : List Nat} (h : Bytes l) (i : Nat) : l.getD i 0 < 256 := by
  by_cases hi : i < l.length
  · rw [getD_of_lt hi]; exact h _ (List.getElem_mem hi)
  · rw [getD_of_le (Nat.not_lt.1 hi)]; decide

theorem rdU16_eq (P : TwinParams) (hu : P.u16Bytes = 2) (mem : List Nat) (i : Nat) :
    rdU16 P mem i = mem.getD i 0 + 256 * mem.getD (i + 1) 0 := by
  simp [rdU16, hu, rdBytes, List.range, List.range.loop, leVal]

/-- **T2 (b), C14.**  Where the portable variant does not panic and `match_dist ≤ read_pos`, the clamp is the identity
    and "u16 equal" ⇔ "both bytes equal". -/
theorem fastRejectOpt_eq_portable (P : TwinParams) (hs : P.bufLimitSub = 2) (hu : P.u16Bytes = 2)
    (buf : List Nat) (hB : Bytes buf) (readPos matchDist : Nat) (hd : matchDist ≤ readPos) (v : Bool)
    (h : fastRejectPortable buf readPos matchDist = some v) :
    (fastRejectOpt P buf readPos matchDist).1 = v := by
  unfold fastRejectPortable at h
  split at h
  · next hb =>
    rw [← Option.some.inj h]
    simp only [fastRejectOpt, fastRejectOptWith, bufLimitU16, hs]
    rw [Nat.min_eq_left (by omega), Nat.min_eq_left (by omega), rdU16_eq P hu, rdU16_eq P hu,
      show readPos + 1 - matchDist = readPos - matchDist + 1 by omega]
    exact decide_eq_decide.mpr ((not_congr (u16_eq_iff (getD_lt_of_Bytes hB _) (getD_lt_of_Bytes hB _))).trans
      Decidable.not_and_iff_or_not)
  · cases h

example : fastRejectPortable [5,5,5,6] 2 1 = some true ∧ (fastRejectOpt srcParams [5,5,5,6] 2 1).1 = true
    ∧ (1:Nat) ≤ 2 ∧ Bytes [5,5,5,6] := by
  refine ⟨by decide, by decide, by decide, by unfold Bytes; decide⟩

/-- witness: an off-by-one limit (`buf_size - 3`) changes the verdict at `read_pos = buf_size - 2`:
    portable rejects (`buf[3] ≠ buf[2]`), the mis-clamped variant compares the u16 at index 1 with
    itself and accepts -/
theorem bufLimit_sub3_diverges :
    fastRejectPortable [5,5,5,6] 2 1 = some true ∧
    (fastRejectOpt { srcParams with bufLimitSub := 3 } [5,5,5,6] 2 1).1 = false := by decide

theorem wrap32_id {x : Int} (h : IsI32 x) : wrap32 x = x := by
  unfold IsI32 at h; unfold wrap32; omega

theorem wrap32_isI32 (x : Int) : IsI32 (wrap32 x) := by
  unfold IsI32 wrap32; omega

/-- **T3, C14 (release profile).**  One SIMD lane (`pmaxsd`/`vmaxq_s32` then wrapping `psubd`/`vsubq_s32`) and the
    scalar code (`max` then `-`, which wraps in release builds) are transcribed to the same expression. -/
theorem normSimd_eq_normScalar (off p : Int) : normSimd off p = normScalar off p := rfl

/-- **T3, C14 (overflow checks on).**  Whenever the checked scalar subtraction does not panic, the
    SIMD lane returns its value. -/
theorem normSimd_eq_checked (off p r : Int)
    (h : normScalarChecked off p = some r) : normSimd off p = r := by
  simp only [normScalarChecked] at h
  split at h
  · next hlt =>
    rw [← Option.some.inj h]
    exact wrap32_id ⟨by omega, hlt⟩
  · cases h

/-- with a non-negative offset (the only kind the match finders pass: `0x7FFFFFFF - cyclic_size`
    with `1 ≤ cyclic_size ≤ 2^31 - 1`) the checked subtraction never panics, the result is
    `max p off - off`, and it is a non-negative `i32` -/
theorem normScalarChecked_nonneg_off (off p : Int) (hp : IsI32 p) (ho : 0 ≤ off) :
    normScalarChecked off p = some (max p off - off) ∧ 0 ≤ max p off - off ∧ IsI32 (max p off - off) := by
  have h1 : p < 2147483648 := hp.2
  have : max p off - off < 2147483648 := by omega
  refine ⟨?_, by omega, ?_⟩
  · unfold normScalarChecked
    simp only [this, if_true]
  · unfold IsI32; omega

example : IsI32 5 ∧ IsI32 3 ∧ normScalarChecked 3 5 = some 2 ∧ normSimd 3 5 = 2 := by
  unfold IsI32; decide

/-- witness (negative offset — never produced by the callers): the checked scalar subtraction
    overflows and panics, the SIMD lane wraps to `i32::MIN` -/
theorem norm_negative_offset_diverges :
    normScalarChecked (-1) 2147483647 = none ∧ normSimd (-1) 2147483647 = -2147483648 := by decide

theorem normSubFirst_eq_of_no_wrap (off p : Int) (h1 : -2147483648 ≤ p - off)
    (h2 : p - off < 2147483648) : max p off - off = normSimdSubFirst off p := by
  unfold normSimdSubFirst
  rw [wrap32_id ⟨h1, h2⟩]
  omega

theorem normSubFirst_eq (off p : Int) (hp0 : 0 ≤ p) (hp : p < 2147483648) (ho0 : 0 ≤ off)
    (ho : off < 2147483648) : max p off - off = normSimdSubFirst off p :=
  normSubFirst_eq_of_no_wrap off p (by omega) (by omega)

example : (0:Int) ≤ 7 ∧ (7:Int) < 2147483648 ∧ (0:Int) ≤ 9 ∧ (9:Int) < 2147483648 ∧
    normSimdSubFirst 9 7 = 0 ∧ normSimdSubFirst 7 9 = 2 := by decide

/-- witness: `0 ≤ p` IS needed for the subtract-first formulation (`p = i32::MIN`, `off = 1`: the
    wrapping subtraction yields `i32::MAX`), but NOT for the order the source uses (`max` first),
    which returns 0 -/
theorem normSubFirst_negative_p_diverges :
    normSimdSubFirst 1 (-2147483648) = 2147483647 ∧ normScalar 1 (-2147483648) = 0 ∧
    normSimd 1 (-2147483648) = 0 ∧ normScalarChecked 1 (-2147483648) = some 0 := by decide

/-- zero entries (empty slots, and the padding `AlignedMemoryI32` adds behind the requested
    length) stay zero -/
theorem normScalar_zero (off : Int) (ho0 : 0 ≤ off) : normScalar off 0 = 0 := by
  unfold normScalar wrap32; omega

theorem simdChunks_eq_map (off : Int) (lanes : Nat) :
    ∀ (n : Nat) (l : List Int), l.length ≤ n * lanes → simdChunks off lanes n l = l.map (normSimd off)
  | 0, l, h => by
    rw [List.eq_nil_of_length_eq_zero (by omega : l.length = 0)]
    rfl
  | n + 1, l, h => by
    have hl : (l.drop lanes).length ≤ n * lanes := by
      rw [List.length_drop, Nat.succ_mul] at *; omega
    rw [simdChunks, simdChunks_eq_map off lanes n _ hl, ← List.map_append, List.take_append_drop]

/-- **T3, C14 (list level).**  Scalar code on the unaligned head and tail, vector code on the aligned middle, for every
    vector width and head length (i.e. every address). -/
theorem normalizeSimd_eq_scalar (off : Int) (lanes pre : Nat) (ps : List Int) :
    normalizeSimd off lanes pre ps = normalizeScalar off ps := by
  unfold normalizeSimd normalizeScalar
  simp only
  rw [simdChunks_eq_map off lanes _ _ (by rw [List.length_take]; omega)]
  have e : normSimd off = normScalar off := funext (normSimd_eq_normScalar off)
  rw [e, ← List.map_append, ← List.map_append, List.append_assoc, List.take_append_drop,
    List.take_append_drop]

/-- every chunk starts at a multiple of the vector size when the first one does
    (`align_to_mut`'s guarantee); element size 4 -/
theorem normalizeSimd_chunk_aligned (base lanes i : Nat) (h : base % (4 * lanes) = 0) :
    (base + 4 * (i * lanes)) % (4 * lanes) = 0 := by
  have e : 4 * (i * lanes) = (4 * lanes) * i := by
    rw [Nat.mul_comm i lanes, ← Nat.mul_assoc]
  rw [e, Nat.add_mul_mod_self_left, h]

example : normalizeSimd 100 4 3 [1,2,3,4,500,6,7,800,9,10,101,12,13,14,15,16,1000] =
    [0,0,0,0,400,0,0,700,0,0,1,0,0,0,0,0,900] := by decide +kernel

theorem wsub32_of_le {code r : Nat} (h : r ≤ code) (hc : code < 2 ^ 32) : wsub32 code r = code - r := by
  rw [wsub32, Nat.sub_add_comm h, Nat.add_mod_right, Nat.mod_eq_of_lt (by omega)]

/-- the sign flag of `code - r` on `u32`, for `r = range >> 1` -/
theorem wsub32_sign (code r : Nat) (hc : code < 2 ^ 32) (hr : r < 2 ^ 31) :
    wsub32 code r / 2 ^ 31 = if r ≤ code ∧ code < r + 2 ^ 31 then 0 else 1 := by
  unfold wsub32
  split <;> omega

/-- **T4 (a).**  The sign-bit test of the portable loop / x86-64 assembly and the unsigned comparison of the aarch64
    assembly (`code ≥ r`, flags `hs`), for `r = range >> 1`. -/
theorem signTest_iff_unsigned (code r : Nat) (hc : code < 2 ^ 32) (hr : r < 2 ^ 31) :
    ((wsub32 code r / 2 ^ 31 = 0) ↔ r ≤ code) ↔ code < r + 2 ^ 31 := by
  rw [wsub32_sign code r hc hr]
  split <;> omega

/-- **T4 (a).**  Under the range-decoder invariant `code < range` all three tests agree. -/
theorem compare_agree_of_inv (code range : Nat) (hr : range < 2 ^ 32) (hinv : code < range) :
    ((wsub32 code (range / 2) / 2 ^ 31 = 0) ↔ range / 2 ≤ code) ∧
    (range / 2 ≤ code ↔ ¬ code < range / 2) := by
  rw [wsub32_sign code (range / 2) (by omega) (by omega)]
  split <;> omega

example : (0x12345678 : Nat) < 0xFFFFFFFF ∧ (0xFFFFFFFF : Nat) < 2 ^ 32 := by decide

theorem signTest_ne_unsigned (code r : Nat) (hc : code < 2 ^ 32) (h : r + 2 ^ 31 ≤ code) :
    wsub32 code r / 2 ^ 31 = 1 ∧ r ≤ code := by
  rw [wsub32_sign code r hc (by omega), if_neg (by omega)]
  omega

/-- a `u32` shifted left by `k` has its low `k` bits free: `|` into them is `+` -/
theorem shl_or_low {k b : Nat} (x : Nat) (hk : k ≤ 32) (hb : b < 2 ^ k) :
    x * 2 ^ k % 2 ^ 32 ||| b = x * 2 ^ k % 2 ^ 32 + b := by
  have e := Nat.div_add_mod (x * 2 ^ k % 2 ^ 32) (2 ^ k)
  rw [Nat.mod_mod_of_dvd _ (Nat.pow_dvd_pow 2 hk), Nat.mul_mod_left, Nat.add_zero] at e
  rw [← e]
  exact (Nat.two_pow_add_eq_or_of_lt hb _).symm

/-- `orr result_bit1, result, #1` after the shift is `+ 1`, and does not leave `u32` -/
theorem shl_or_one (x : Nat) :
    x * 2 % 2 ^ 32 ||| 1 = x * 2 % 2 ^ 32 + 1 ∧ (x * 2 % 2 ^ 32 + 1) % 2 ^ 32 = x * 2 % 2 ^ 32 + 1 := by
  refine ⟨shl_or_low (k := 1) x (by decide) (by decide), Nat.mod_eq_of_lt ?_⟩
  -- an even number below `2^32` is not `2^32 - 1`
  omega

/-- **T4, C14.**  The portable halving step and the x86-64 `sub`/`cmovs`/`cmovns` sequence are the
    same function on all `u32` states (no decoder invariant needed: both test the sign bit). -/
theorem halvePortable_eq_X86 (P : TwinParams) (hs : P.signShift = 31) (s : DState)
    (hr : s.range < 2 ^ 32) (hc : s.code < 2 ^ 32) : halvePortable P s = halveX86 s := by
  simp only [halvePortable, halveX86, hs]
  rw [wsub32_sign s.code (s.range / 2) hc (by omega)]
  split
  · -- `t = 0`: the mask is all ones
    next h =>
    simp only [show wsub32 0 1 = 2 ^ 32 - 1 from rfl, Nat.and_two_pow_sub_one_eq_mod,
      Nat.mod_eq_of_lt (show s.range / 2 < 2 ^ 32 by omega), wsub32_of_le h.1 hc, Nat.sub_zero,
      shl_or_one, Nat.zero_ne_one, if_false]
  · -- `t = 1`: the mask is 0
    simp only [show wsub32 1 1 = 0 from rfl, Nat.and_zero, Nat.sub_zero, Nat.sub_self, Nat.or_zero,
      if_true]

/-- **T4 (a), C14.**  x86-64 (sign flag) and aarch64 (carry flag) halving steps agree on every state
    with `code < range/2 + 2^31`. -/
theorem halveX86_eq_A64 (s : DState) (hr : s.range < 2 ^ 32) (hc : s.code < 2 ^ 32)
    (h : s.code < s.range / 2 + 2 ^ 31) : halveX86 s = halveA64 s := by
  have ht := wsub32_sign s.code _ hc (show s.range / 2 < 2 ^ 31 by omega)
  simp only [halveX86, halveA64]
  by_cases hge : s.range / 2 ≤ s.code
  · rw [if_pos ⟨hge, h⟩] at ht
    simp only [ht, hge, Nat.zero_ne_one, if_true, if_false, shl_or_one]
  · rw [if_neg fun hh => hge hh.1] at ht
    simp only [ht, hge, if_true, if_false]

theorem halveX86_eq_A64_of_inv (s : DState) (hr : s.range < 2 ^ 32) (hinv : s.code < s.range) :
    halveX86 s = halveA64 s :=
  halveX86_eq_A64 s hr (by omega) (by omega)

/-- **Witness, outside the invariant** (`code = range = 0xFFFFFFFF`, the state after the header
    `00 FF FF FF FF`): portable and x86-64 decode bit 0 and keep `code`; aarch64 decodes bit 1 and
    subtracts. -/
theorem halve_diverges_outside_invariant :
    let s : DState := ⟨0xFFFFFFFF, 0xFFFFFFFF, 0, 0⟩
    halvePortable srcParams s = ⟨0x7FFFFFFF, 0xFFFFFFFF, 0, 0⟩ ∧
    halveX86 s = ⟨0x7FFFFFFF, 0xFFFFFFFF, 0, 0⟩ ∧
    halveA64 s = ⟨0x7FFFFFFF, 0x80000000, 0, 1⟩ := by decide

/-- `u32` registers, and `range ≥ 2^16` so that one byte suffices to normalise (true between any two
    decoder operations: `decode_bit` leaves `range ≥ 31·2^13`, a direct bit leaves `range ≥ 2^23`) -/
def RangeOk (s : DState) : Prop := 2 ^ 16 ≤ s.range ∧ s.range < 2 ^ 32 ∧ s.code < 2 ^ 32

/-- every iteration's post-normalisation state satisfies `Q` -/
def RunAll (P : TwinParams) (rd : Nat → Nat) (h : DState → DState) (Q : DState → Prop) :
    Nat → DState → Prop
  | 0, _ => True
  | k + 1, s => Q (dNormalize P rd s) ∧ RunAll P rd h Q k (h (dNormalize P rd s))

theorem dNormalize_pos (P : TwinParams) (rd : Nat → Nat) (s : DState) :
    (dNormalize P rd s).pos = if s.range < P.topValue then s.pos + 1 else s.pos := by
  unfold dNormalize; split <;> rfl

theorem dNormalize_congr (P : TwinParams) (rd1 rd2 : Nat → Nat) (s : DState)
    (h : s.range < P.topValue → rd1 s.pos = rd2 s.pos) : dNormalize P rd1 s = dNormalize P rd2 s := by
  unfold dNormalize
  split
  · next hr => rw [h hr]
  · rfl

/-- **T4 (b).**  `pos` is incremented unclamped, once per normalisation, and the number of normalisations does not
    depend on the bytes read: `is_finished()` sees the same overrun in all variants. -/
theorem directLoop_pos (P : TwinParams) (rd : Nat → Nat) (h : DState → DState)
    (hrange : ∀ s, (h s).range = s.range / 2) (hpos : ∀ s, (h s).pos = s.pos) :
    ∀ k s, (directLoop P rd h k s).pos = s.pos + normCount P k s.range
  | 0, _ => rfl
  | k + 1, s => by
    rw [directLoop, normCount, directLoop_pos P rd h hrange hpos k, hrange, hpos, dNormalize_pos, dNormalize]
    split
    · exact Nat.add_assoc _ _ _
    · rfl

/-- two loops agree when their byte sources agree below `L`, the run stays below `L`, and their
    halving steps agree on the states the run meets -/
theorem directLoop_congr (P : TwinParams) (Q : DState → Prop) (rd1 rd2 : Nat → Nat)
    (h1 h2 : DState → DState) (L : Nat) (hrd : ∀ i, i < L → rd1 i = rd2 i)
    (hrange : ∀ s, (h1 s).range = s.range / 2) (hpos : ∀ s, (h1 s).pos = s.pos)
    (hh : ∀ t, Q t → h1 t = h2 t) :
    ∀ k s, RunAll P rd1 h1 Q k s → (directLoop P rd1 h1 k s).pos ≤ L →
      directLoop P rd1 h1 k s = directLoop P rd2 h2 k s
  | 0, _, _, _ => rfl
  | k + 1, s, ⟨hq, hrest⟩, hL => by
    unfold directLoop at hL ⊢
    -- a byte read in this iteration is at `s.pos`, and the final position, at most `L`, lies behind it
    have hn : dNormalize P rd1 s = dNormalize P rd2 s :=
      dNormalize_congr P rd1 rd2 s fun hr => hrd _ (by
        rw [directLoop_pos P rd1 h1 hrange hpos, hpos, dNormalize_pos, if_pos hr] at hL; omega)
    rw [← hn, ← hh _ hq]
    exact directLoop_congr P Q rd1 rd2 h1 h2 L hrd hrange hpos hh k _ hrest hL

theorem runAll_of_inv (P : TwinParams) (rd : Nat → Nat) (h : DState → DState) (Inv Q : DState → Prop)
    (hq : ∀ s, Inv s → Q (dNormalize P rd s))
    (hi : ∀ s, Inv s → Inv (h (dNormalize P rd s))) :
    ∀ k s, Inv s → RunAll P rd h Q k s
  | 0, _, _ => trivial
  | k + 1, s, hs => ⟨hq s hs, runAll_of_inv P rd h Inv Q hq hi k _ (hi s hs)⟩

theorem dNormalize_of_ge (P : TwinParams) (rd : Nat → Nat) {s : DState} (h : P.topValue ≤ s.range) :
    dNormalize P rd s = s :=
  if_neg (Nat.not_lt.2 h)

/-- the normalisation that happens, with the `|` of the new byte into the shifted `code` as `+` -/
theorem dNormalize_of_lt (P : TwinParams) (hS : P.shiftBits = 8) (rd : Nat → Nat) {s : DState}
    (hb : rd s.pos < 256) (h : s.range < P.topValue) :
    dNormalize P rd s =
      { s with code := s.code * 256 % 2 ^ 32 + rd s.pos, range := s.range * 256 % 2 ^ 32,
               pos := s.pos + 1 } := by
  rw [dNormalize, if_pos h, hS, shl_or_low _ (by decide) hb]

theorem dNormalize_rangeOk (P : TwinParams) (hT : P.topValue = 2 ^ 24) (hS : P.shiftBits = 8)
    (rd : Nat → Nat) (hrd : ∀ i, rd i < 256) (s : DState) (h : RangeOk s) :
    RangeOk (dNormalize P rd s) ∧ 2 ^ 24 ≤ (dNormalize P rd s).range := by
  have hb := hrd s.pos
  unfold RangeOk at *
  by_cases hr : s.range < P.topValue
  · rw [dNormalize_of_lt P hS rd hb hr]
    rw [hT] at hr
    simp only
    omega
  · rw [dNormalize_of_ge P rd (Nat.not_lt.1 hr)]
    omega

theorem halvePortable_rangeOk (P : TwinParams) (hs : P.signShift = 31) (s : DState) (h : RangeOk s)
    (h24 : 2 ^ 24 ≤ s.range) : RangeOk (halvePortable P s) := by
  rw [halvePortable_eq_X86 P hs s h.2.1 h.2.2]
  unfold RangeOk at *
  unfold halveX86 wsub32
  simp only
  refine ⟨by omega, by omega, ?_⟩
  split <;> omega

theorem directPortable_succ (P : TwinParams) (buf : List Nat) (f k : Nat) (s : DState) :
    directPortable P buf (f + 1) (k + 1) s =
      if P.topValue ≤ s.range then directPortable P buf f k (halvePortable P s)
      else directPortable P buf f (k + 1) (dNormalize P (rdPortable buf) s) := by
  rw [directPortable, if_neg (Nat.succ_ne_zero k)]
  rfl

theorem rdAsm_eq_rdPortable (P : TwinParams) (ha : P.asmLimitSub = 1) (buf : List Nat) (i : Nat)
    (h : i < buf.length) : rdPortable buf i = rdAsm P buf i := by
  unfold rdAsm rdPortable asmIndex
  rw [ha, Nat.min_eq_left (by omega)]

section
variable (P : TwinParams) (hT : P.topValue = 2 ^ 24) (hS : P.shiftBits = 8) (hs : P.signShift = 31)
  (buf : List Nat) (hB : Bytes buf)
include hT hS hs hB

/-- the restructured portable loop ("fast path / slow path") is the plain
    `for _ in 0..count { normalize(); halve }` loop as long as one byte normalises (`range ≥ 2^16`) -/
theorem directPortable_eq_loop :
    ∀ (k f : Nat) (s : DState), RangeOk s → 2 * k ≤ f →
      directPortable P buf f k s = directLoop P (rdPortable buf) (halvePortable P) k s := by
  intro k
  induction k with
  | zero =>
    intro f s _ _
    cases f <;> simp [directPortable, directLoop]
  | succ k ih =>
    intro f s hs0 hf
    obtain ⟨f, rfl⟩ : ∃ f', f = f' + 2 := ⟨f - 2, by omega⟩
    have hn := dNormalize_rangeOk P hT hS (rdPortable buf) (getD_lt_of_Bytes hB) s hs0
    have hh := halvePortable_rangeOk P hs _ hn.1 hn.2
    rw [directLoop, directPortable_succ]
    split
    · next hr =>
      rw [dNormalize_of_ge P _ hr] at hh ⊢
      exact ih _ _ hh (by omega)
    · -- one byte brings `range` back above the threshold, so the next step halves
      rw [directPortable_succ, if_pos (hT ▸ hn.2)]
      exact ih _ _ hh (by omega)

/-- **T4, C14: x86-64 assembly = portable loop**, for every `u32` decoder state with
    `range ≥ 2^16` (no `code < range` needed) as long as the run does not request bytes beyond the
    end of the buffer. -/
theorem directX86_eq_directPortable (ha : P.asmLimitSub = 1) (k : Nat) (s : DState) (hs0 : RangeOk s)
    (hover : (directPortable P buf (directFuel k) k s).pos ≤ buf.length) :
    directX86 P buf k s = directPortable P buf (directFuel k) k s := by
  have hf : 2 * k ≤ directFuel k := by unfold directFuel; omega
  rw [directPortable_eq_loop P hT hS hs buf hB k _ s hs0 hf] at hover ⊢
  unfold directX86
  symm
  apply directLoop_congr P (fun t => t.range < 2 ^ 32 ∧ t.code < 2 ^ 32) _ _ (halvePortable P) _ buf.length
    (fun i hi => rdAsm_eq_rdPortable P ha buf i hi) (fun _ => rfl) (fun _ => rfl)
    (fun t ht => halvePortable_eq_X86 P hs t ht.1 ht.2) k s _ hover
  apply runAll_of_inv P _ _ RangeOk _ _ _ k s hs0
  · exact fun t ht => (dNormalize_rangeOk P hT hS _ (getD_lt_of_Bytes hB) t ht).1.2
  · intro t ht
    have := dNormalize_rangeOk P hT hS _ (getD_lt_of_Bytes hB) t ht
    exact halvePortable_rangeOk P hs _ this.1 this.2

theorem directPortable_pos (k : Nat) (s : DState) (hs0 : RangeOk s) :
    (directPortable P buf (directFuel k) k s).pos = s.pos + normCount P k s.range := by
  rw [directPortable_eq_loop P hT hS hs buf hB k _ s hs0 (by unfold directFuel; omega)]
  exact directLoop_pos P _ (halvePortable P) (fun _ => rfl) (fun _ => rfl) k s

end

/-- witness: with `range < 2^16` (never the case between decoder operations) the restructured
    portable loop reads two bytes before the first bit, the assembly (and the original loop) one -/
theorem directPortable_small_range_diverges :
    (directPortable srcParams [1, 2, 3] (directFuel 1) 1 ⟨0x8000, 0x12, 0, 0⟩).pos = 2 ∧
    (directX86 srcParams [1, 2, 3] 1 ⟨0x8000, 0x12, 0, 0⟩).pos = 1 := by decide

/-- **T4 (a), C14: aarch64 assembly = x86-64 assembly** on every run in which each iteration sees
    `code < range/2 + 2^31` after normalisation (implied by `code < range` at that point). -/
theorem directA64_eq_directX86 (P : TwinParams) (buf : List Nat) (k : Nat) (s : DState)
    (hrun : RunAll P (rdAsm P buf) halveX86
      (fun t => t.range < 2 ^ 32 ∧ t.code < 2 ^ 32 ∧ t.code < t.range / 2 + 2 ^ 31) k s) :
    directA64 P buf k s = directX86 P buf k s := by
  unfold directA64 directX86
  symm
  exact directLoop_congr P _ _ _ halveX86 _ _ (fun _ _ => rfl) (fun _ => rfl) (fun _ => rfl)
    (fun t ht => halveX86_eq_A64 t ht.1 ht.2.1 ht.2.2) k s hrun (Nat.le_refl _)

/-- non-vacuity: a 20-bit run from the initial state of a stream, all three variants equal -/
example :
    let s : DState := ⟨0xFFFFFFFF, 0x12345678, 0, 0⟩
    RangeOk s ∧
    directX86 srcParams [1, 2, 3] 20 s = directPortable srcParams [1, 2, 3] (directFuel 20) 20 s ∧
    directA64 srcParams [1, 2, 3] 20 s = directX86 srcParams [1, 2, 3] 20 s ∧
    (directX86 srcParams [1, 2, 3] 20 s).pos = 2 := by
  refine ⟨by unfold RangeOk; decide, by decide +kernel, by decide +kernel, by decide +kernel⟩

/-- **T4 (b), C15.**  The clamped load index is inside the buffer for every `pos`. -/
theorem asmIndex_lt (P : TwinParams) (ha : 1 ≤ P.asmLimitSub) (len pos : Nat) (hl : 1 ≤ len) :
    asmIndex P len pos < len := by
  unfold asmIndex; omega

/-- `limit = len - 1` is the only choice that is both safe (never past the end) and faithful
    (in-range positions are not moved) -/
theorem asmLimit_unique (P : TwinParams) (len : Nat) (hl : 1 ≤ len) (hsub : P.asmLimitSub ≤ len) :
    ((∀ pos, asmIndex P len pos < len) ∧ (∀ pos, pos < len → asmIndex P len pos = pos)) ↔
      P.asmLimitSub = 1 := by
  unfold asmIndex
  constructor
  · intro ⟨h1, h2⟩
    have a := h1 len
    have b := h2 (len - 1) (by omega)
    omega
  · intro h
    constructor <;> intros <;> omega

theorem directAsmReads_inBounds (P : TwinParams) (ha : 1 ≤ P.asmLimitSub) (buf : List Nat)
    (hl : 1 ≤ buf.length) (halve : DState → DState) :
    ∀ k s, ∀ i ∈ directAsmReads P buf halve k s, i < buf.length
  | 0, _, _, hi => nomatch hi
  | k + 1, s, i, hi => by
    rw [directAsmReads, List.mem_append] at hi
    rcases hi with hi | hi
    · split at hi
      · cases List.mem_singleton.1 hi
        exact asmIndex_lt P ha _ _ hl
      · cases hi
    · exact directAsmReads_inBounds P ha buf hl halve k _ i hi

/-- the decoder buffer is never empty (`new_buffer(COMPRESSED_SIZE_MAX)`, length `2^16 - 5`), so
    `buf.len() - 1` does not underflow -/
theorem rcBufLen_pos (P : TwinParams) (h : P.Ok) : 1 ≤ rcBufLen P ∧ rcBufLen P = 65531 := by
  unfold rcBufLen; rw [h.rcBufSub, h.rcBufSize]; decide

/-- `cmovg` compares signed; for `pos, limit < 2^63` this is the unsigned comparison -/
theorem sgn64_gt_iff (pos limit : Nat) (hp : pos < 2 ^ 63) (hl : limit < 2 ^ 63) :
    sgn64 pos > sgn64 limit ↔ pos > limit := by
  unfold sgn64; simp only [hp, hl, if_true]; omega

/-- witness (why `len ≥ 1` matters): with an empty buffer `limit = usize::MAX`, which `cmovg` reads
    as −1, so every `pos` would be "greater" and the load would go to `buf_ptr − 1` -/
theorem sgn64_limit_underflow : sgn64 (2 ^ 64 - 1) = -1 ∧ sgn64 0 > sgn64 (2 ^ 64 - 1) := by decide

/-- past the end of the buffer the portable reader supplies 0 and the assembly re-reads the last byte
    (`C14.direct_bits_overrun_witness`): no difference when that byte is 0 -/
theorem rdAsm_eq_rdPortable_of_last_zero (P : TwinParams) (ha : P.asmLimitSub = 1) (buf : List Nat)
    (hl : 1 ≤ buf.length) (hz : buf.getD (buf.length - 1) 0 = 0) (i : Nat) :
    rdPortable buf i = rdAsm P buf i := by
  by_cases h : i < buf.length
  · exact rdAsm_eq_rdPortable P ha buf i h
  · unfold rdAsm rdPortable asmIndex
    rw [ha, Nat.min_eq_right (by omega), hz, getD_of_le (by omega)]

def toDec (buf : List Nat) (s : DState) : Rc.Dec :=
  { range := s.range, code := s.code, inp := buf.drop s.pos, over := s.pos - buf.length }

theorem toDec_readByte (buf : List Nat) (s : DState) :
    (toDec buf s).readByte = (rdPortable buf s.pos, toDec buf { s with pos := s.pos + 1 }) := by
  unfold Rc.Dec.readByte rdPortable
  by_cases hp : s.pos < buf.length
  · simp only [toDec, List.drop_eq_getElem_cons hp, getD_of_lt hp]
    congr 2
    omega
  · have hp := Nat.not_lt.1 hp
    simp only [toDec, List.drop_eq_nil_of_le hp, List.drop_eq_nil_of_le (Nat.le_succ_of_le hp),
      getD_of_le hp]
    congr 2
    omega

theorem toDec_normalize (P : TwinParams) (hT : P.topValue = 2 ^ 24) (hS : P.shiftBits = 8)
    (buf : List Nat) (hB : Bytes buf) (s : DState) (h : RangeOk s) :
    (toDec buf s).normalize = toDec buf (dNormalize P (rdPortable buf) s) := by
  have hb : rdPortable buf s.pos < 256 := getD_lt_of_Bytes hB _
  unfold RangeOk at h
  unfold Rc.Dec.normalize
  by_cases hr : s.range < 2 ^ 24
  · rw [if_pos (show (toDec buf s).range < 2 ^ 24 from hr), toDec_readByte,
      dNormalize_of_lt P hS _ hb (hT ▸ hr)]
    simp only [toDec, Rc.Dec.mk.injEq, and_true]
    omega
  · rw [if_neg (show ¬ (toDec buf s).range < 2 ^ 24 from hr), dNormalize_of_ge P _ (by omega)]

/-- **T4: link to `Rc.Dec`.**  One iteration of the portable / x86-64 loop on the concrete
    state (buffer + unclamped position) is `Rc.Dec.decodeDirect1` on the abstract state
    (remaining input + overrun counter); the decoded bit is the low bit of `result`. -/
theorem decodeDirect1_refines (P : TwinParams) (hT : P.topValue = 2 ^ 24) (hS : P.shiftBits = 8)
    (buf : List Nat) (hB : Bytes buf) (s : DState) (h : RangeOk s) :
    Rc.Dec.decodeDirect1 (toDec buf s) =
      (decide ((halveX86 (dNormalize P (rdPortable buf) s)).result % 2 = 1),
       toDec buf (halveX86 (dNormalize P (rdPortable buf) s))) := by
  have hn := toDec_normalize P hT hS buf hB s h
  generalize dNormalize P (rdPortable buf) s = t at hn
  have hd : wsub32 t.code (t.range / 2) < 2 ^ 32 := Nat.mod_lt _ (by decide)
  simp only [Rc.Dec.decodeDirect1, hn, halveX86]
  -- `diff` of the model is `wsub32`; below `2^32` its bit 31 is the comparison with `2^31`
  change (if wsub32 t.code (t.range / 2) ≥ 2 ^ 31 then _ else _) = _
  by_cases hsf : wsub32 t.code (t.range / 2) / 2 ^ 31 = 1
  · rw [if_pos (by omega)]
    simp [hsf, toDec]
  · rw [if_neg (by omega)]
    simp [hsf, toDec]
    rfl

/-- a 0 bit from `decode_bit` (re-)establishes `code < range` … -/
theorem decodeBitP_false_inv (d d' : Rc.Dec) (p : Nat) (h : d.decodeBitP p = (false, d')) :
    d'.code < d'.range := by
  simp only [Rc.Dec.decodeBitP] at h
  split at h
  · next hlt =>
    rw [← (Prod.mk.inj h).2]; exact hlt
  · cases (Prod.mk.inj h).1

/-- … and `decode_direct_bits` is only ever called from `decode_match`, i.e. after `is_rep`
    decoded as 0 (`decoder.rs`), with only `decode_bit`s in between, which preserve `code < range`: -/
theorem decodeBitP_preserves_inv (d d' : Rc.Dec) (p : Nat) (b : Bool)
    (hinv : d.normalize.code < d.normalize.range) (h : d.decodeBitP p = (b, d')) :
    d'.code < d'.range := by
  simp only [Rc.Dec.decodeBitP] at h
  split at h
  · next hlt =>
    rw [← (Prod.mk.inj h).2]; exact hlt
  · next hge =>
    rw [← (Prod.mk.inj h).2]
    show _ - _ < _ - _
    omega

/-- while `code ≥ range` (only possible on corrupt streams) `decode_bit` can only answer 1 -/
theorem decodeBitP_true_of_code_ge (d d' : Rc.Dec) (p : Nat) (b : Bool) (hp : p < 2048)
    (hge : d.normalize.range ≤ d.normalize.code)
    (h : d.decodeBitP p = (b, d')) : b = true := by
  simp only [Rc.Dec.decodeBitP] at h
  split at h
  · next hlt =>
    -- the bound is at most `range · 2047 / 2048 < range ≤ code`
    have h1 : d.normalize.range / 2 ^ 11 * p ≤ d.normalize.range / 2 ^ 11 * 2047 :=
      Nat.mul_le_mul_left _ (by omega)
    omega
  · exact (Prod.mk.inj h).1.symm

/-- … but the strict invariant is NOT preserved by a direct bit on arbitrary states: odd `range`,
    `code = range - 1` gives `code = range` afterwards (never on streams written by the encoder,
    whose interval for bit 1 is `[low + r, low + 2r)`).  This is the first step of
    `C14.aarch64_sign_test_witness`. -/
theorem halve_breaks_strict_invariant :
    let s : DState := ⟨2 ^ 25 - 1, 2 ^ 25 - 2, 0, 0⟩
    s.code < s.range ∧ (halveX86 s).code = (halveX86 s).range ∧ (halveA64 s).code = (halveA64 s).range := by
  decide

/-- **T5.**  If `min_length * 4 + 63` fits in `usize` nothing wraps: the block is a multiple of 64
    bytes, holds at least `min_length` and fewer than `min_length + 16` elements, and the slice
    handed out (`target_length` elements) covers exactly the allocation. -/
theorem alignedNew_spec (P : TwinParams) (hA : P.alignment = 64) (hE : P.elemSize = 4)
    (bits minLength : Nat) (h : minLength * 4 + 63 < 2 ^ bits) :
    (alignedNew P bits minLength).requiredBytes = (minLength * 4 + 63) / 64 * 64 ∧
    (alignedNew P bits minLength).requiredBytes % 64 = 0 ∧
    minLength ≤ (alignedNew P bits minLength).targetLength ∧
    (alignedNew P bits minLength).targetLength < minLength + 16 ∧
    (alignedNew P bits minLength).targetLength * 4 = (alignedNew P bits minLength).requiredBytes := by
  have hle := Nat.div_mul_le_self (minLength * 4 + 63) 64
  have hlt := Nat.lt_mul_div_succ (minLength * 4 + 63) (by decide : 0 < 64)
  simp only [alignedNew, hA, hE]
  rw [Nat.mod_eq_of_lt (Nat.lt_of_le_of_lt (Nat.le_add_right _ 63) h), Nat.add_sub_assoc (by decide),
    Nat.mod_eq_of_lt (Nat.lt_of_le_of_lt hle h)]
  -- what is left is about `q = (4·min_length + 63) / 64`
  generalize (minLength * 4 + 63) / 64 = q at hle hlt ⊢
  omega

/-- **T5.**  Every length the match finders request is at most `2·(dict_size + 1) ≤ 2^33` (`BT4::tree`): on a 64-bit
    target at most `2^35` bytes, below `isize::MAX`, so `Layout::from_size_align` succeeds and nothing wraps. -/
theorem alignedNew_encoder_bound (P : TwinParams) (hA : P.alignment = 64) (hE : P.elemSize = 4)
    (minLength : Nat) (h : minLength ≤ 2 ^ 33) :
    minLength * 4 + 63 < 2 ^ 64 ∧ (alignedNew P 64 minLength).requiredBytes ≤ 2 ^ 35 ∧
    (alignedNew P 64 minLength).requiredBytes < 2 ^ 63 := by
  have h0 : minLength * 4 + 63 < 2 ^ 64 := by omega
  have := (alignedNew_spec P hA hE 64 minLength h0).1
  omega

example : (2 * (805306368 + 1) : Nat) ≤ 2 ^ 33 := by decide

/-- **T5, 32-bit targets.**  In a release build `min_length * 4` may wrap; the `assert!(table.len() >= requested)`
    that follows every allocation then fails: if it holds, the size is the unwrapped one.  (From 6 bits on: the
    alignment has to divide `2 ^ bits`.) -/
theorem alignedNew_assert_sound_of_six_le (P : TwinParams) (hA : P.alignment = 64) (hE : P.elemSize = 4)
    (bits : Nat) (hb : 6 ≤ bits) (minLength : Nat)
    (hassert : minLength ≤ (alignedNew P bits minLength).targetLength) :
    (alignedNew P bits minLength).requiredBytes = (minLength * 4 + 63) / 64 * 64 := by
  -- `usize` values are taken modulo `N`, a multiple of the alignment
  obtain ⟨q, hq⟩ : ∃ q, 2 ^ bits = 64 * q := Nat.pow_dvd_pow 2 hb
  have hN := Nat.two_pow_pos bits
  simp only [alignedNew, hA, hE] at *
  rw [Nat.add_sub_assoc (show 1 ≤ 64 by decide)] at hassert ⊢
  generalize 2 ^ bits = N at *
  -- the assertion bounds `4 * minLength` by the wrapped size, so the first product did not wrap
  have h4 : minLength * 4 < N :=
    Nat.lt_of_le_of_lt ((Nat.le_div_iff_mul_le (by decide)).1 hassert) (Nat.mod_lt _ hN)
  rw [Nat.mod_eq_of_lt h4] at hassert ⊢
  -- the rounded size is a multiple of 64 below `N + 64`: it is below `N`, or it is `N` and wraps to 0
  have hg := Nat.div_mul_le_self (minLength * 4 + 63) 64
  generalize (minLength * 4 + 63) / 64 = g at *
  by_cases h : g * 64 < N
  · exact Nat.mod_eq_of_lt h
  · rw [show g * 64 = N by omega, Nat.mod_self] at hassert
    omega

theorem alignedNew_assert_sound (P : TwinParams) (hA : P.alignment = 64) (hE : P.elemSize = 4)
    (bits : Nat) (hb : bits = 32 ∨ bits = 64) (minLength : Nat)
    (hassert : minLength ≤ (alignedNew P bits minLength).targetLength) :
    (alignedNew P bits minLength).requiredBytes = (minLength * 4 + 63) / 64 * 64 :=
  alignedNew_assert_sound_of_six_le P hA hE bits (by omega) minLength hassert

/-- witness: BT4 with the largest dictionary the encoder accepts (768 MiB) on a 32-bit target:
    the multiplication wraps, the assertion catches it -/
theorem alignedNew_wraps_32bit :
    (alignedNew srcParams 32 (2 * (805306368 + 1))).targetLength = 536870928 ∧
    ¬ (2 * (805306368 + 1) ≤ (alignedNew srcParams 32 (2 * (805306368 + 1))).targetLength) := by
  decide

example : (1025 * 4 + 63 : Nat) < 2 ^ 64 ∧ alignedNew srcParams 64 1025 = ⟨4160, 1040⟩ := by decide

/-- non-vacuity of the `Bytes` / `RangeOk` hypotheses used above -/
example : Bytes [1, 2, 255] ∧ RangeOk ⟨0xFFFFFFFF, 0x12345678, 0, 0⟩ := by
  unfold Bytes RangeOk; decide

/-- a changed constant is caught -/
example : ¬ ({ srcParams with bufLimitSub := 1 } : TwinParams).Ok := by decide
example : ¬ ({ srcParams with asmLimitSub := 0 } : TwinParams).Ok := by decide
example : ¬ ({ srcParams with tzDiv := 4 } : TwinParams).Ok := by decide


instance RunAll.dec (P : TwinParams) (rd : Nat → Nat) (h : DState → DState) (Q : DState → Prop)
    [DecidablePred Q] : ∀ k s, Decidable (RunAll P rd h Q k s)
  | 0, _ => isTrue trivial
  | k + 1, s =>
    have := RunAll.dec P rd h Q k (h (dNormalize P rd s))
    by unfold RunAll; exact inferInstance

/-- hypotheses of `directX86_eq_directPortable` and `directA64_eq_directX86` on a concrete run -/
example :
    let s : DState := ⟨0xFFFFFFFF, 0x12345678, 0, 0⟩
    (directPortable srcParams [1, 2, 3] (directFuel 20) 20 s).pos ≤ [1, 2, 3].length ∧
    RunAll srcParams (rdAsm srcParams [1, 2, 3]) halveX86
      (fun t => t.range < 2 ^ 32 ∧ t.code < 2 ^ 32 ∧ t.code < t.range / 2 + 2 ^ 31) 20 s := by
  refine ⟨by decide +kernel, by decide +kernel⟩

example : (3 : Nat) ≤ 17 ∧ 3 + (17 - 3) / 4 * 4 ≤ 17 ∧ (64 : Nat) % (4 * 8) = 0 := by decide
example : asmIndex srcParams 65531 70000 = 65530 ∧ asmIndex srcParams 65531 12 = 12 := by decide
example : min 1000 (10 - 2) + 2 ≤ 10 := by decide
example : wsub32 5 7 / 2 ^ 31 = 1 ∧ wsub32 7 5 / 2 ^ 31 = 0 := by decide

end LzmaVerif.Twins


#print axioms LzmaVerif.Twins.srcParams_ok
#print axioms LzmaVerif.Twins.xor_eq_zero_imp
#print axioms LzmaVerif.Twins.tzAux_succ_even
#print axioms LzmaVerif.Twins.tzAux_succ_odd
#print axioms LzmaVerif.Twins.tzAux_two_pow_mul
#print axioms LzmaVerif.Twins.rdBytes_eq_slice
#print axioms LzmaVerif.Twins.tzAux_lt
#print axioms LzmaVerif.Twins.byte_add_mul
#print axioms LzmaVerif.Twins.leVal_cons_xor
#print axioms LzmaVerif.Twins.byteMatchLen_word
#print axioms LzmaVerif.Twins.byteMatchLen_nil_left
#print axioms LzmaVerif.Twins.byteMatchLen_nil_right
#print axioms LzmaVerif.Twins.byteMatchLen_le_left
#print axioms LzmaVerif.Twins.slice_length
#print axioms LzmaVerif.Twins.Bytes.slice
#print axioms LzmaVerif.Twins.drop_eq_slice_append
#print axioms LzmaVerif.Twins.matchLoop_slices
#print axioms LzmaVerif.Twins.extendMatchSafe_eq_byteMatchLen
#print axioms LzmaVerif.Twins.matchLoopT_fst
#print axioms LzmaVerif.Twins.matchLoop_congr
#print axioms LzmaVerif.Twins.getD_slice
#print axioms LzmaVerif.Twins.extendMatchPtr_eq_safe
#print axioms LzmaVerif.Twins.matchLoopT_reads
#print axioms LzmaVerif.Twins.extendMatchOptT_inBounds
#print axioms LzmaVerif.Twins.extendMatchOpt_eq_portable
#print axioms LzmaVerif.Twins.extendMatchPortable_spec
#print axioms LzmaVerif.Twins.clamp_inBounds
#print axioms LzmaVerif.Twins.clamp_inBounds_iff
#print axioms LzmaVerif.Twins.bufLimitU16_largest
#print axioms LzmaVerif.Twins.bufLimit_sub1_overruns
#print axioms LzmaVerif.Twins.fastRejectOpt_inBounds
#print axioms LzmaVerif.Twins.getD_lt_of_Bytes
#print axioms LzmaVerif.Twins.rdU16_eq
#print axioms LzmaVerif.Twins.fastRejectOpt_eq_portable
#print axioms LzmaVerif.Twins.bufLimit_sub3_diverges
#print axioms LzmaVerif.Twins.wrap32_id
#print axioms LzmaVerif.Twins.wrap32_isI32
#print axioms LzmaVerif.Twins.normSimd_eq_normScalar
#print axioms LzmaVerif.Twins.normSimd_eq_checked
#print axioms LzmaVerif.Twins.normScalarChecked_nonneg_off
#print axioms LzmaVerif.Twins.norm_negative_offset_diverges
#print axioms LzmaVerif.Twins.normSubFirst_eq_of_no_wrap
#print axioms LzmaVerif.Twins.normSubFirst_eq
#print axioms LzmaVerif.Twins.normSubFirst_negative_p_diverges
#print axioms LzmaVerif.Twins.normScalar_zero
#print axioms LzmaVerif.Twins.simdChunks_eq_map
#print axioms LzmaVerif.Twins.normalizeSimd_eq_scalar
#print axioms LzmaVerif.Twins.normalizeSimd_chunk_aligned
#print axioms LzmaVerif.Twins.wsub32_of_le
#print axioms LzmaVerif.Twins.wsub32_sign
#print axioms LzmaVerif.Twins.signTest_iff_unsigned
#print axioms LzmaVerif.Twins.compare_agree_of_inv
#print axioms LzmaVerif.Twins.signTest_ne_unsigned
#print axioms LzmaVerif.Twins.shl_or_low
#print axioms LzmaVerif.Twins.shl_or_one
#print axioms LzmaVerif.Twins.halvePortable_eq_X86
#print axioms LzmaVerif.Twins.halveX86_eq_A64
#print axioms LzmaVerif.Twins.halveX86_eq_A64_of_inv
#print axioms LzmaVerif.Twins.halve_diverges_outside_invariant
#print axioms LzmaVerif.Twins.dNormalize_pos
#print axioms LzmaVerif.Twins.dNormalize_congr
#print axioms LzmaVerif.Twins.directLoop_congr
#print axioms LzmaVerif.Twins.runAll_of_inv
#print axioms LzmaVerif.Twins.dNormalize_of_ge
#print axioms LzmaVerif.Twins.dNormalize_of_lt
#print axioms LzmaVerif.Twins.dNormalize_rangeOk
#print axioms LzmaVerif.Twins.halvePortable_rangeOk
#print axioms LzmaVerif.Twins.directPortable_succ
#print axioms LzmaVerif.Twins.directPortable_eq_loop
#print axioms LzmaVerif.Twins.directPortable_small_range_diverges
#print axioms LzmaVerif.Twins.rdAsm_eq_rdPortable
#print axioms LzmaVerif.Twins.directX86_eq_directPortable
#print axioms LzmaVerif.Twins.directA64_eq_directX86
#print axioms LzmaVerif.Twins.directLoop_pos
#print axioms LzmaVerif.Twins.directPortable_pos
#print axioms LzmaVerif.Twins.asmIndex_lt
#print axioms LzmaVerif.Twins.asmLimit_unique
#print axioms LzmaVerif.Twins.directAsmReads_inBounds
#print axioms LzmaVerif.Twins.rcBufLen_pos
#print axioms LzmaVerif.Twins.sgn64_gt_iff
#print axioms LzmaVerif.Twins.sgn64_limit_underflow
#print axioms LzmaVerif.Twins.rdAsm_eq_rdPortable_of_last_zero
#print axioms LzmaVerif.Twins.toDec_readByte
#print axioms LzmaVerif.Twins.toDec_normalize
#print axioms LzmaVerif.Twins.decodeDirect1_refines
#print axioms LzmaVerif.Twins.decodeBitP_false_inv
#print axioms LzmaVerif.Twins.decodeBitP_preserves_inv
#print axioms LzmaVerif.Twins.decodeBitP_true_of_code_ge
#print axioms LzmaVerif.Twins.halve_breaks_strict_invariant
#print axioms LzmaVerif.Twins.alignedNew_spec
#print axioms LzmaVerif.Twins.alignedNew_encoder_bound
#print axioms LzmaVerif.Twins.alignedNew_assert_sound_of_six_le
#print axioms LzmaVerif.Twins.alignedNew_assert_sound
#print axioms LzmaVerif.Twins.alignedNew_wraps_32bit





