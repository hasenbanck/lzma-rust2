/-
  The normalisation of bt4.rs:68-73 (`LZEncoder::normalize`, lz_encoder.rs:195, `normalize_scalar`, :494-501), which
  the step function omits because `lz_pos = 0x7FFFFFFF` needs 2 GiB of input (`bt4_inv_reachable`):
  `entry := max(entry, off) - off`, `lz_pos := lz_pos - off` with `off = lz_pos - cyclic_size`
  keeps every `delta < cyclic_size` and maps every other entry to a rejected `delta ≥ cyclic_size`.
-/
import LzmaVerif.Proofs.MfRenorm
namespace LzmaVerif.Mf.Bt4

/-- `normalize_scalar` on one entry -/
def normEntry (off e : Nat) : Nat := max e off - off

theorem normalize_delta (cs lz e : Nat) (hcs : cs ≤ lz) (he : e ≤ lz) :
    let off := lz - cs
    (lz - e < cs → (lz - off) - normEntry off e = lz - e) ∧
    (¬ lz - e < cs → (lz - off) - normEntry off e ≥ cs) :=
  have h := (ERel.refl (cs := cs) he).norm hcs
  ⟨h.delta_eq, fun hge => Nat.le_of_not_lt fun hlt => hge (h.lt_iff.mp hlt)⟩

theorem normalize_entry_le (cs lz e : Nat) (hcs : cs ≤ lz) (he : e ≤ lz) :
    normEntry (lz - cs) e ≤ lz - (lz - cs) :=
  ((ERel.refl (cs := cs) he).norm hcs).1

end LzmaVerif.Mf.Bt4
