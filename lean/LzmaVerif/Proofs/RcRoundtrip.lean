import LzmaVerif.Proofs.ProgRun
/-!
Range coder round trip for every decision program.  The encoder's run determines a list of coding events (`evs`); along
it the real encoder follows the ideal encoder (`enc_abs`), and the real decoder, through the ideal decoder, follows the
ideal encoder and returns the encoded bits (`ev_sim` for one event, `sim_run` for a program); `finish` writes the
number the ideal encoder ends with (`enc_bytes`).  `rc_roundtrip_full` puts these together.
-/
namespace LzmaVerif.Rc
open Ideal

/-- all probabilities are in the range that adaptation preserves -/
def ProbsOk (ps : Probs) : Prop := ∀ i, 31 ≤ ps.get i ∧ ps.get i ≤ 2017

theorem updProb_ok (p : Nat) (b : Bool) (h : 31 ≤ p ∧ p ≤ 2017) :
    31 ≤ updProb p b ∧ updProb p b ≤ 2017 := by
  unfold updProb
  split
  · omega
  · omega

theorem ProbsOk_set_val (ps : Probs) (i v : Nat) (h : ProbsOk ps) (hv : 31 ≤ v ∧ v ≤ 2017) :
    ProbsOk (ps.set i v) := by
  intro j
  have hj := h j
  simp only [Probs.get, Probs.set, Array.getD_eq_getD_getElem?, Array.getElem?_setIfInBounds] at hj ⊢
  split
  · split
    · exact hv
    · exact ⟨by decide, by decide⟩
  · exact hj

theorem ProbsOk_set (ps : Probs) (i : Nat) (b : Bool) (h : ProbsOk ps) :
    ProbsOk (ps.set i (updProb (ps.get i) b)) :=
  ProbsOk_set_val ps i _ h (updProb_ok _ b (h i))

theorem ProbsOk_upd {ps : Probs} (h : ProbsOk ps) (q : Option Nat) (b : Bool) : ProbsOk (Prog.upd ps q b) := by
  cases q with
  | none => exact h
  | some i => exact ProbsOk_set ps i b h

theorem evOk_evOf {ps : Probs} (h : ProbsOk ps) (q : Option Nat) (b : Bool) : Ideal.EvOk (Prog.evOf ps q b) := by
  cases q with
  | none => trivial
  | some i => exact h i

theorem ProbsOk_replicate (n : Nat) : ProbsOk (Array.replicate n 1024) := by
  intro i
  simp only [Probs.get, Array.getD_eq_getD_getElem?, Array.getElem?_replicate]
  split <;> exact ⟨by decide, by decide⟩

end LzmaVerif.Rc

namespace LzmaVerif
open Rc Rc.Ideal

namespace Prog

def evs {α : Type} : Prog α → List Bool → Probs → List Ev
  | ret _, _, _ => []
  | bit i k, b :: bs, ps =>
    .bit (ps.get i) b :: evs (k b) bs (ps.set i (updProb (ps.get i) b))
  | direct k, b :: bs, ps => .direct b :: evs (k b) bs ps
  | bit _ _, [], _ => []
  | direct _, [], _ => []

theorem evs_ask {α : Type} (q : Option Nat) (k : Bool → Prog α) (b : Bool) (bs : List Bool) (ps : Probs) :
    (ask q k).evs (b :: bs) ps = evOf ps q b :: (k b).evs bs (upd ps q b) := by
  cases q <;> rfl

theorem evs_ok {α : Type} (prog : Prog α) : ∀ (bits : List Bool) (ps : Probs),
    ProbsOk ps → ∀ e ∈ prog.evs bits ps, EvOk e := by
  intro bits ps hps
  fun_induction Prog.evs prog bits ps with
  | case2 i k b bs ps ih => exact List.forall_mem_cons.2 ⟨hps i, ih (ProbsOk_set ps i b hps)⟩
  | case3 k b bs ps ih => exact List.forall_mem_cons.2 ⟨trivial, ih hps⟩
  | case1 | case4 | case5 => exact fun _ h => absurd h List.not_mem_nil

end Prog

namespace Rc

theorem enc_abs {α : Type} {prog : Prog α} {s s' : List Bool × Probs × Enc} {a : α}
    (h : prog.run Prog.encSrc s = some (a, s')) : ∀ c, ProbsOk s.2.1 → Abs s.2.2 c → ROk c →
    Abs s'.2.2 (run c (prog.evs s.1 s.2.1)) ∧ ROk (run c (prog.evs s.1 s.2.1)) := by
  induction prog, s, a, s', h using Prog.run_induction with
  | ret a s => exact fun c _ habs hc => ⟨habs, hc⟩
  | ask q k s b s₁ a s' hq _ ih =>
    intro c hps habs hc
    obtain ⟨h1, h2, h3⟩ := Prog.encSrc_eq hq
    have hev := evOk_evOf hps q b
    rw [h1, Prog.evs_ask, ← h2]
    exact ih _ (h2 ▸ ProbsOk_upd hps q b) (h3 ▸ abs_step _ c _ habs hc hev) (step_ROk c _ hc hev)

theorem code_lt_of_nested (c T : St) (d : Ideal.Dec) (hsim : Sim T.L T.k c d) (hw : Within c T) :
    d.code < d.range := by
  obtain ⟨sr, _, _, sc⟩ := hsim
  obtain ⟨fl, fh⟩ := floor_between T.L _ _ _ (Nat.pow_pos (by decide)) hw.2.1 hw.2.2
  omega

theorem sim_pre (F K : Nat) (c : St) (d : Ideal.Dec) (es : List Ev) (hc : PreOk c)
    (hall : ∀ e ∈ es, EvOk e) (hF : F = (run (norm c) es).L) (hK : K = (run (norm c) es).k)
    (hsim : Sim F K c d) :
    d.code < d.range ∧ (d.range < 2^24 → d.k < K) ∧ (norm c).k ≤ K ∧
    (dnorm F K d).code < (dnorm F K d).range ∧ (dnorm F K d).range < 2^32 := by
  subst hF hK
  have hn := pre_nested c es hc hall
  have hr := run_nested es (norm c) (norm_ROk c hc) hall
  have rk := hr.1
  have hsn := dnorm_sim _ _ c d hsim rk
  refine ⟨code_lt_of_nested c _ d hsim hn, ?_, rk, code_lt_of_nested _ _ _ hsn hr,
    by rw [hsn.1]; exact (norm_ROk c hc).2⟩
  intro hlt
  obtain ⟨sr, sk, _, _⟩ := hsim
  rcases norm_cases c with ⟨_, hn⟩ | ⟨hge, _⟩
  · have hk1 : (norm c).k = c.k + 1 := by rw [hn]
    omega
  · omega

section Bytes
variable (bytes rest : List Nat) (K : Nat) (hlen : bytes.length = K + 5) (hb : ∀ x ∈ bytes, x < 256)
include hlen hb

theorem ev_sim (c : St) (di : Ideal.Dec) (dr : Rc.Dec) (e : Ev) (es : List Ev)
    (hc : PreOk c) (he : EvOk e) (hall : ∀ e' ∈ es, EvOk e')
    (hF : num bytes = (run (norm c) (e :: es)).L) (hK : K = (run (norm c) (e :: es)).k)
    (hsim : Sim (num bytes) K c di) (hdr : DR bytes rest dr di) :
    ∃ d2 di2, decodeEv dr e = (evBit e, d2) ∧ Sim (num bytes) K (core (norm c) e) di2 ∧
      DR bytes rest d2 di2 ∧ PreOk (core (norm c) e) := by
  have hall' : ∀ x ∈ e :: es, EvOk x := List.forall_mem_cons.2 ⟨he, hall⟩
  obtain ⟨hcl, hkl, _, hc1, hr1⟩ := sim_pre _ K c di _ hc hall' hF hK hsim
  obtain ⟨hbit, hsim2⟩ := dstep_sim c di e es hc he hall _ K hF hK hsim
  obtain ⟨hb1, hdr2⟩ := decodeEv_dr bytes rest K hlen hb dr di hdr hcl hkl e hc1 hr1
  exact ⟨_, _, Prod.ext (hb1.trans hbit) rfl, hsim2, hdr2, core_R_pos _ e (norm_ROk c hc) he⟩

/-- By induction over the ENCODER's run, because the hypotheses speak of the events it still has to code; the
    normalisation after the walk reads the last of the `K + 5` bytes and leaves `code = F - L = 0`. -/
theorem sim_run {α : Type} {prog : Prog α} {s s' : List Bool × Probs × Enc} {a : α}
    (h : prog.run Prog.encSrc s = some (a, s')) :
    ∀ (c : St) (di : Ideal.Dec) (dr : Rc.Dec), ProbsOk s.2.1 → PreOk c →
    num bytes = (run (norm c) (prog.evs s.1 s.2.1)).L → K = (run (norm c) (prog.evs s.1 s.2.1)).k →
    Sim (num bytes) K c di → DR bytes rest dr di →
    ∃ d', prog.run Prog.decSrc (s.2.1, dr) = some (a, s'.2.1, d') ∧ d'.over = 0 ∧ d'.normalize.over = 0 ∧
      d'.normalize.inp = rest ∧ d'.normalize.code = 0 := by
  induction prog, s, a, s', h using Prog.run_induction with
  | ret a s =>
    intro c di dr _ hc hF hK hsim hdr
    obtain ⟨hcl, hkl, hnk, _⟩ := sim_pre _ K c di [] hc (fun _ h => absurd h List.not_mem_nil)
      hF hK hsim
    have hdrn := normalize_dr bytes rest K hlen hb dr di hdr hcl hkl
    obtain ⟨_, skn, _, scn⟩ := dnorm_sim _ K c di hsim hnk
    change num bytes = (norm c).L at hF
    change K = (norm c).k at hK
    refine ⟨dr, rfl, hdr.over, hdrn.over, ?_, ?_⟩
    · rw [hdrn.inp, skn, ← hK]
      exact List.drop_left' (by omega)
    · rw [hdrn.code]
      rw [← hK, ← hF, Nat.sub_self, Nat.pow_zero, Nat.div_one] at scn
      omega
  | ask q k s b s₁ a s' hq _ ih =>
    intro c di dr hps hc hF hK hsim hdr
    obtain ⟨h1, h2, h3⟩ := Prog.encSrc_eq hq
    rw [h1, Prog.evs_ask, ← h2] at hF hK
    have hps₁ := h2 ▸ ProbsOk_upd hps q b
    obtain ⟨d2, di2, hdec, hsim2, hdr2, hpre2⟩ := ev_sim bytes rest K hlen hb c di dr _ _ hc
      (evOk_evOf hps q b) (Prog.evs_ok (k b) _ _ hps₁) hF hK hsim hdr
    rw [Prog.evBit_evOf, Prog.decodeEv_evOf] at hdec
    obtain ⟨d', hrun, hfin⟩ := ih _ _ d2 hps₁ hpre2 hF hK hsim2 hdr2
    exact ⟨d', by rw [Prog.run_ask, Prog.decSrc_of (s := (s.2.1, dr)) hdec, ← h2]; exact hrun, hfin⟩

end Bytes

theorem norm_st0 : norm st0 = st0 :=
  if_neg (by decide)

theorem enc_bytes {α : Type} (prog : Prog α) (bits : List Bool) (ps : Probs) (hps : ProbsOk ps)
    (a : α) (bs' : List Bool) (ps' : Probs) (e' : Enc)
    (henc : prog.encRun bits ps Enc.init = some (a, bs', ps', e')) :
    (∀ x ∈ e'.bytes, x < 256) ∧ e'.bytes.length = (run st0 (prog.evs bits ps)).k + 5 ∧
    num e'.bytes = (run st0 (prog.evs bits ps)).L ∧ e'.bytes.length = e'.pendingSize ∧
    num e'.bytes < 256 ^ ((run st0 (prog.evs bits ps)).k + 4) := by
  obtain ⟨habs, hT⟩ : Abs e' (run st0 (prog.evs bits ps)) ∧ ROk (run st0 (prog.evs bits ps)) :=
    enc_abs (Prog.encRun_eq_run prog bits ps Enc.init ▸ henc) st0 hps abs_init st0_ROk
  obtain ⟨fb, fl, fn⟩ := finish_spec e' _ habs hT
  obtain ⟨_, _, nhi⟩ := run_nested (prog.evs bits ps) st0 st0_ROk (Prog.evs_ok prog bits ps hps)
  generalize run st0 (prog.evs bits ps) = T at *
  have hlen : e'.bytes.length = T.k + 5 := by unfold Enc.bytes; rw [List.length_reverse]; exact fl
  refine ⟨fun x hx => fb x (List.mem_reverse.mp hx), hlen, fn, ?_, ?_⟩
  · rw [hlen]; unfold Enc.pendingSize; have := habs.k; omega
  · -- `L < (0 + 0xFFFFFFFF) * 256^k`
    rw [show num e'.bytes = T.L from fn, Nat.pow_add, Nat.mul_comm]
    exact Nat.lt_of_lt_of_le nhi (Nat.mul_le_mul_right _ (by decide))

/-- **Range coder round trip, for every decision program**, in full: unused bits `bs'` may remain,
    and the decoder ends with `code = 0` (`RangeDecoder::is_finished` of the buffer variant checks
    exactly this: after the final normalisation it has read all `k + 5` bytes and `code` is
    `F - L = 0`). -/
theorem rc_roundtrip_full {α : Type} (prog : Prog α) (bits : List Bool) (ps : Probs)
    (hps : ProbsOk ps) (a : α) (bs' : List Bool) (ps' : Probs) (e' : Enc)
    (henc : prog.encRun bits ps Enc.init = some (a, bs', ps', e')) (rest : List Nat) :
    ∃ d0 d', Dec.init (e'.bytes ++ rest) = some d0 ∧ d0.range = 0xFFFFFFFF ∧ d0.code < 0xFFFFFFFF ∧
      prog.decRun ps d0 = (a, ps', d') ∧
      d'.normalize.inp = rest ∧ d'.normalize.over = 0 ∧ d'.over = 0 ∧ d'.normalize.code = 0 ∧
      e'.bytes.head? = some 0 ∧ (∀ b ∈ e'.bytes, b < 256) ∧
      e'.bytes.length = e'.pendingSize ∧ 5 ≤ e'.bytes.length := by
  obtain ⟨hbytes, hlen, hnum, hpend, hF4⟩ := enc_bytes prog bits ps hps a bs' ps' e' henc
  obtain ⟨_, _, nhi⟩ := run_nested (prog.evs bits ps) st0 st0_ROk (Prog.evs_ok prog bits ps hps)
  generalize hTdef : run st0 (prog.evs bits ps) = T at *
  obtain ⟨d0, hinit, d0r, d0c, d0i, d0o, hhead⟩ := init_spec e'.bytes rest T.k hlen hbytes hF4
  -- the decoder starts in step with the encoder's initial state
  have hsim0 : Sim (num e'.bytes) T.k st0 ⟨0xFFFFFFFF, num e'.bytes / 256 ^ T.k, 0⟩ :=
    ⟨rfl, rfl, Nat.zero_le _, rfl⟩
  have hF : num e'.bytes = (run (norm st0) (prog.evs bits ps)).L := by rw [norm_st0, hTdef, hnum]
  have hK : T.k = (run (norm st0) (prog.evs bits ps)).k := by rw [norm_st0, hTdef]
  obtain ⟨d', hdec, ho, hno, hinp, hcode⟩ :=
    sim_run e'.bytes rest T.k hlen hbytes (Prog.encRun_eq_run prog bits ps Enc.init ▸ henc) st0 _ d0 hps
      ⟨by decide, by decide⟩ hF hK hsim0 ⟨d0r, d0c, d0i, d0o⟩
  -- the decoder's first `code` is the leading digits of the final `L`, and `L < (0 + range₀) * 256 ^ k`
  have hc0 : d0.code < 0xFFFFFFFF := by
    rw [d0c, hnum, Nat.div_lt_iff_lt_mul (Nat.pow_pos (by decide))]
    simpa only [st0, Nat.zero_add, Nat.sub_zero] using nhi
  exact ⟨d0, d', hinit, d0r, hc0, Option.some.inj ((Prog.decRun_eq_run prog ps d0).symm.trans hdec), hinp, hno, ho,
    hcode, hhead, hbytes, hpend, by omega⟩

theorem rc_roundtrip {α : Type} (prog : Prog α) (bits : List Bool) (ps : Probs) (hps : ProbsOk ps)
    (a : α) (ps' : Probs) (e' : Enc)
    (henc : prog.encRun bits ps Enc.init = some (a, [], ps', e')) (rest : List Nat) :
    ∃ d0 d', Dec.init (e'.bytes ++ rest) = some d0 ∧
      prog.decRun ps d0 = (a, ps', d') ∧
      d'.normalize.inp = rest ∧ d'.normalize.over = 0 ∧ d'.over = 0 ∧
      e'.bytes.head? = some 0 ∧ (∀ b ∈ e'.bytes, b < 256) ∧
      e'.bytes.length = e'.pendingSize ∧ 5 ≤ e'.bytes.length := by
  obtain ⟨d0, d', h1, _, _, h2, h3, h4, h5, _, h7⟩ :=
    rc_roundtrip_full prog bits ps hps a [] ps' e' henc rest
  exact ⟨d0, d', h1, h2, h3, h4, h5, h7⟩

end Rc
end LzmaVerif

/-! ## Non-vacuity: a concrete program with adaptive and direct bits, two encoder
normalisations and a carry in `finish` (final `low ≥ 2^32`: pending cache byte 205 is written as 206) -/
namespace LzmaVerif.Rc.Example
open LzmaVerif LzmaVerif.Rc

def exProg : Nat → Prog (List Bool)
  | 0 => .ret []
  | n+1 => .bit (n % 2) fun a => .direct fun b => (exProg n).bind fun l => .ret (a :: b :: l)

def exPs : Probs := Array.replicate 2 1024

def exBits : List Bool :=
  [true, true, false, true, true, false, true, true, true, true, true, false, true, true, true,
   true, false, true, true, false]

def exEnc : Enc := { low := 5154008356, range := 299718766, cacheSize := 1, cache := 205, out := [219, 0] }

/-- the hypothesis of `rc_roundtrip` holds for this instance -/
theorem ex_enc : (exProg 10).encRun exBits exPs Enc.init = some (exBits, [], #[931, 937], exEnc) := by
  rfl

theorem ex_bytes : exEnc.bytes = [0, 219, 206, 51, 51, 237, 36] := by rfl

example (rest : List Nat) :
    ∃ d0 d', Dec.init ([0, 219, 206, 51, 51, 237, 36] ++ rest) = some d0 ∧
      (exProg 10).decRun exPs d0 = (exBits, #[931, 937], d') ∧
      d'.normalize.inp = rest ∧ d'.normalize.over = 0 := by
  obtain ⟨d0, d', h1, h2, h3, h4, _⟩ :=
    rc_roundtrip (exProg 10) exBits exPs (ProbsOk_replicate 2) exBits #[931, 937] exEnc ex_enc rest
  rw [ex_bytes] at h1
  exact ⟨d0, d', h1, h2, h3, h4⟩

end LzmaVerif.Rc.Example

#print axioms LzmaVerif.Rc.rc_roundtrip
#print axioms LzmaVerif.Rc.rc_roundtrip_full
