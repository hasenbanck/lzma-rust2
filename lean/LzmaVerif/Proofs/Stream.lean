import LzmaVerif.Model.Stream
/-!
For a `Restartable` block filter the streaming writer and the buffered reader of `Model/Stream.lean` produce the
one-shot filtering of the whole input (`wRun_eq_oneShot`, `rRun_eq_oneShot`).

Both wrappers use the filter only through `oneShot_append` and `code_tail`.  The reader keeps `sem`, the bytes still to
be delivered, unchanged through the phases of a loop iteration (`cpy`, `rot`, `sEnd`, `sFill`) under the invariant
`RInv`; `need` bounds the iterations before a byte comes out, so a call that runs out of fuel has delivered something,
unless nothing was left (`Delivers`).

`Restartable.of_scanner`: a filter that is a window scanner, seen through an abstraction of its persistent state, is
restartable; the eight BCJ filters are such scanners (`Proofs/BcjStream.lean`).
-/
namespace LzmaVerif.Stream

variable {σ : Type}

structure Restartable (F : BlockFilter σ) : Prop where
  len : ∀ st xs, ((F.code st xs).1).length = xs.length
  le : ∀ st xs, (F.code st xs).2.1 ≤ xs.length
  tail : ∀ st xs, ((F.code st xs).1).drop (F.code st xs).2.1 = xs.drop (F.code st xs).2.1
  /-- the unprocessed tail is short (all BCJ filters: < 16 bytes; needed by the 4096-byte reader) -/
  bound : ∀ st xs, xs.length - (F.code st xs).2.1 < 16
  /-- only the OUTPUT is compared: nothing is demanded of the processed count or of the final state (for the x86 filter
      the final states differ in high bits of `prevMask`) -/
  restart : ∀ st xs ys,
    (F.code st (xs ++ ys)).1 =
      ((F.code st xs).1).take (F.code st xs).2.1 ++
        (F.code (F.code st xs).2.2 (xs.drop (F.code st xs).2.1 ++ ys)).1

namespace Restartable

variable {F : BlockFilter σ}

theorem oneShot_nil (hF : Restartable F) (st : σ) : oneShot F st [] = [] := by
  have := hF.len st []
  simpa [oneShot] using this

theorem oneShot_append (hF : Restartable F) (st : σ) (xs ys : List Nat) :
    oneShot F st (xs ++ ys) =
      ((F.code st xs).1).take (F.code st xs).2.1 ++
        oneShot F (F.code st xs).2.2 (((F.code st xs).1).drop (F.code st xs).2.1 ++ ys) := by
  unfold oneShot
  rw [hF.restart st xs ys, hF.tail]

theorem code_tail (hF : Restartable F) (st : σ) (xs : List Nat) :
    oneShot F (F.code st xs).2.2 (((F.code st xs).1).drop (F.code st xs).2.1) =
      ((F.code st xs).1).drop (F.code st xs).2.1 := by
  have h := hF.restart st xs []
  rw [List.append_nil, List.append_nil, ← hF.tail] at h
  exact (List.append_cancel_left ((List.take_append_drop _ _).trans h)).symm

end Restartable


theorem wWrite_eq (F : BlockFilter σ) (w : WState σ) (buf : List Nat) :
    wWrite F w buf = if buf = [] then w else
      { st := (F.code w.st (w.carry ++ buf)).2.2,
        carry := ((F.code w.st (w.carry ++ buf)).1).drop (F.code w.st (w.carry ++ buf)).2.1,
        out := w.out ++ ((F.code w.st (w.carry ++ buf)).1).take (F.code w.st (w.carry ++ buf)).2.1 } := by
  unfold wWrite
  cases buf <;> rfl

theorem wFold_eq {F : BlockFilter σ} (hF : Restartable F) (parts : List (List Nat)) :
    ∀ w : WState σ, oneShot F w.st w.carry = w.carry →
      wFinish (parts.foldl (wWrite F) w) = w.out ++ oneShot F w.st (w.carry ++ parts.flatten) := by
  induction parts with
  | nil =>
    intro w hw
    simp only [List.foldl_nil, List.flatten_nil, List.append_nil, wFinish]
    rw [hw]
  | cons buf rest ih =>
    intro w hw
    rw [List.foldl_cons, wWrite_eq]
    split
    · next h =>
      subst h
      rw [ih w hw, List.flatten_cons, List.nil_append]
    · rw [ih _ (hF.code_tail w.st (w.carry ++ buf))]
      simp only [List.flatten_cons, List.append_assoc]
      rw [← List.append_assoc w.carry buf, hF.oneShot_append w.st (w.carry ++ buf)]

/-- every partition of the input, empty parts included -/
theorem wRun_eq_oneShot (F : BlockFilter σ) (hF : Restartable F) (st : σ) (parts : List (List Nat)) :
    wRun F st parts = oneShot F st parts.flatten := by
  unfold wRun
  rw [wFold_eq hF parts { st, carry := [], out := [] } (hF.oneShot_nil st)]
  simp


def cpy (s : RState σ) (len : Nat) : RState σ :=
  { s with pending := s.pending.drop (min s.filtered len), pos := s.pos + min s.filtered len,
           filtered := s.filtered - min s.filtered len }

def rot (s : RState σ) : RState σ :=
  if s.pos + s.filtered + s.unfiltered = BUF then { s with pos := 0 } else s

def room (s : RState σ) : Nat := BUF - (s.pos + s.filtered + s.unfiltered)

/-- number of bytes the inner read delivers when it is willing to give `g` -/
def nRead (s : RState σ) (g : Nat) : Nat :=
  if min (room s) s.src.length = 0 then 0 else max 1 (min g (min (room s) s.src.length))

def sEnd (s : RState σ) : RState σ :=
  { s with endReached := true, filtered := s.unfiltered, unfiltered := 0 }

def sFill (F : BlockFilter σ) (s : RState σ) (n : Nat) : RState σ :=
  { s with st := (F.code s.st (s.pending ++ s.src.take n)).2.2,
           pending := (F.code s.st (s.pending ++ s.src.take n)).1,
           src := s.src.drop n,
           filtered := (F.code s.st (s.pending ++ s.src.take n)).2.1,
           unfiltered := s.unfiltered + n - (F.code s.st (s.pending ++ s.src.take n)).2.1 }

def grantHd (s : RState σ) : List Nat → Nat
  | [] => room s
  | g :: _ => g

theorem rRead_succ (F : BlockFilter σ) (fuel : Nat) (s : RState σ) (len : Nat) (grants acc : List Nat) :
    rRead F (fuel + 1) s len grants acc =
      let s1 := rot (cpy s len)
      let acc1 := acc ++ s.pending.take (min s.filtered len)
      if len - min s.filtered len = 0 ∨ s1.endReached = true then (acc1, s1, grants)
      else if nRead s1 (grantHd s1 grants) = 0 then
        rRead F fuel (sEnd s1) (len - min s.filtered len) grants.tail acc1
      else
        rRead F fuel (sFill F s1 (nRead s1 (grantHd s1 grants))) (len - min s.filtered len) grants.tail acc1 := by
  cases grants <;> rfl

/-- what the reader still has to deliver -/
def sem (F : BlockFilter σ) (s : RState σ) : List Nat :=
  s.pending.take s.filtered ++ oneShot F s.st (s.pending.drop s.filtered ++ s.src)

structure RInv (F : BlockFilter σ) (s : RState σ) : Prop where
  hlen : s.pending.length = s.filtered + s.unfiltered
  hbuf : s.pos + s.filtered + s.unfiltered ≤ BUF
  hunf : s.unfiltered < 16
  htail : oneShot F s.st (s.pending.drop s.filtered) = s.pending.drop s.filtered
  hend : s.endReached = true → s.src = [] ∧ s.unfiltered = 0

theorem rInit_inv {F : BlockFilter σ} (hF : Restartable F) (st : σ) (src : List Nat) :
    RInv F (rInit st src) :=
  ⟨rfl, by simp [rInit, BUF], by simp [rInit], by simpa [rInit] using hF.oneShot_nil st,
   by simp [rInit]⟩

theorem sem_rInit (F : BlockFilter σ) (st : σ) (src : List Nat) :
    sem F (rInit st src) = oneShot F st src := by
  simp [sem, rInit]

theorem cpy_inv {F : BlockFilter σ} {s : RState σ} (h : RInv F s) (len : Nat) : RInv F (cpy s len) := by
  obtain ⟨h1, h2, h3, h4, h5⟩ := h
  have hc : min s.filtered len ≤ s.filtered := Nat.min_le_left _ _
  refine ⟨?_, ?_, h3, ?_, h5⟩
  · simp only [cpy, List.length_drop]; omega
  · simp only [cpy]; omega
  · simp only [cpy, List.drop_drop]
    rw [show min s.filtered len + (s.filtered - min s.filtered len) = s.filtered by omega]
    exact h4

theorem cpy_sem (F : BlockFilter σ) (s : RState σ) (len : Nat) :
    s.pending.take (min s.filtered len) ++ sem F (cpy s len) = sem F s := by
  have hc : min s.filtered len ≤ s.filtered := Nat.min_le_left _ _
  simp only [sem, cpy, List.drop_drop]
  rw [show min s.filtered len + (s.filtered - min s.filtered len) = s.filtered by omega,
    ← List.append_assoc]
  congr 1
  generalize min s.filtered len = c at hc
  obtain ⟨d, hd⟩ : ∃ d, s.filtered = c + d := ⟨s.filtered - c, by omega⟩
  rw [hd, List.take_add, Nat.add_sub_cancel_left]

theorem rot_inv {F : BlockFilter σ} {s : RState σ} (h : RInv F s) : RInv F (rot s) := by
  obtain ⟨h1, h2, h3, h4, h5⟩ := h
  unfold rot
  split
  · exact ⟨h1, by simp only; omega, h3, h4, h5⟩
  · exact ⟨h1, h2, h3, h4, h5⟩

theorem rot_sem (F : BlockFilter σ) (s : RState σ) : sem F (rot s) = sem F s := by
  unfold rot; split <;> rfl

theorem rot_filtered (s : RState σ) : (rot s).filtered = s.filtered := by
  unfold rot; split <;> rfl

theorem rot_unfiltered (s : RState σ) : (rot s).unfiltered = s.unfiltered := by
  unfold rot; split <;> rfl

theorem rot_endReached (s : RState σ) : (rot s).endReached = s.endReached := by
  unfold rot; split <;> rfl

theorem rot_room {F : BlockFilter σ} {s : RState σ} (h : RInv F s) (hf : s.filtered = 0) :
    0 < room (rot s) := by
  obtain ⟨h1, h2, h3, h4, h5⟩ := h
  unfold rot room
  split
  · simp only [BUF] at *; omega
  · simp only [BUF] at *; omega

theorem nRead_le_room (s : RState σ) (g : Nat) : nRead s g ≤ room s := by
  unfold nRead; split <;> omega

theorem nRead_le_src (s : RState σ) (g : Nat) : nRead s g ≤ s.src.length := by
  unfold nRead; split <;> omega

theorem nRead_pos (s : RState σ) (g : Nat) (h : nRead s g ≠ 0) : 1 ≤ nRead s g := by omega

theorem nRead_zero (s : RState σ) (g : Nat) (h : nRead s g = 0) (hr : 0 < room s) : s.src = [] := by
  unfold nRead at h
  split at h
  · apply List.eq_nil_of_length_eq_zero; omega
  · omega

theorem sEnd_inv {F : BlockFilter σ} (hF : Restartable F) {s : RState σ} (h : RInv F s)
    (hf : s.filtered = 0) (hs : s.src = []) : RInv F (sEnd s) := by
  obtain ⟨h1, h2, h3, h4, h5⟩ := h
  refine ⟨by simp only [sEnd]; omega, by simp only [sEnd]; omega, by simp [sEnd], ?_, ?_⟩
  · simp only [sEnd]
    rw [List.drop_of_length_le (by omega)]
    exact hF.oneShot_nil _
  · intro _; exact ⟨hs, rfl⟩

theorem sEnd_sem {F : BlockFilter σ} (hF : Restartable F) {s : RState σ} (h : RInv F s)
    (hf : s.filtered = 0) (hs : s.src = []) : sem F (sEnd s) = sem F s := by
  obtain ⟨h1, h2, h3, h4, h5⟩ := h
  simp only [sem, sEnd, hs, hf, List.take_zero, List.drop_zero, List.nil_append, List.append_nil] at *
  rw [List.drop_of_length_le (by omega), List.take_of_length_le (by omega), hF.oneShot_nil, h4,
    List.append_nil]

theorem sFill_inv {F : BlockFilter σ} (hF : Restartable F) {s : RState σ} (h : RInv F s)
    (hf : s.filtered = 0) (he : s.endReached = false) (n : Nat) (hn : n ≤ room s)
    (hn2 : n ≤ s.src.length) : RInv F (sFill F s n) := by
  obtain ⟨h1, h2, h3, h4, h5⟩ := h
  have hl := hF.len s.st (s.pending ++ s.src.take n)
  have hle := hF.le s.st (s.pending ++ s.src.take n)
  have hb := hF.bound s.st (s.pending ++ s.src.take n)
  have hraw : (s.pending ++ s.src.take n).length = s.unfiltered + n := by
    rw [List.length_append, List.length_take]; omega
  rw [hraw] at hl hle hb
  unfold room at hn
  refine ⟨?_, ?_, ?_, ?_, ?_⟩
  · simp only [sFill]; omega
  · simp only [sFill]; omega
  · simp only [sFill]; omega
  · simp only [sFill]; exact hF.code_tail _ _
  · intro h; simp [sFill, he] at h

theorem sFill_sem {F : BlockFilter σ} (hF : Restartable F) {s : RState σ}
    (hf : s.filtered = 0) (n : Nat) : sem F (sFill F s n) = sem F s := by
  simp only [sem, sFill, hf, List.take_zero, List.drop_zero, List.nil_append]
  rw [← hF.oneShot_append, List.append_assoc, List.take_append_drop]

/-- iterations before `rRead` delivers a byte or finds the end: a refill that filters nothing adds a byte to the
    unfiltered tail, which stays below 16 (`Restartable.bound`); any constant from 17 up would do for the 19 -/
def need (s : RState σ) : Nat :=
  if s.filtered = 0 ∧ s.endReached = false then 19 - s.unfiltered else 1

/-- a call of `rRead` has delivered a prefix `d` of what was left, kept the invariant, and – with enough fuel and a
    non-empty destination – delivered at least one byte unless nothing was left -/
def Delivers (F : BlockFilter σ) (s : RState σ) (acc : List Nat) (fuel len : Nat)
    (r : List Nat × RState σ × List Nat) : Prop :=
  ∃ d, r.1 = acc ++ d ∧ RInv F r.2.1 ∧ d ++ sem F r.2.1 = sem F s ∧
    (0 < len → need s ≤ fuel → d = [] → sem F s = [])

/-- for any fuel, even when it runs out -/
theorem rRead_spec {F : BlockFilter σ} (hF : Restartable F) (fuel : Nat) :
    ∀ (s : RState σ) (len : Nat) (grants acc : List Nat), RInv F s →
      Delivers F s acc fuel len (rRead F fuel s len grants acc) := by
  induction fuel with
  | zero =>
    intro s len grants acc h
    refine ⟨[], by simp [rRead], h, by simp [rRead], fun _ hn => ?_⟩
    have := h.hunf
    unfold need at hn
    split at hn <;> omega
  | succ fuel ih =>
    intro s len grants acc h
    have hc := cpy_inv h len
    have hr := rot_inv hc
    have hsem : s.pending.take (min s.filtered len) ++ sem F (rot (cpy s len)) = sem F s := by
      rw [rot_sem, cpy_sem]
    -- something is copied out unless nothing filtered is there
    have hcopy : 0 < len → s.pending.take (min s.filtered len) = [] → s.filtered = 0 := fun hl h0 => by
      have := congrArg List.length h0
      rw [List.length_take, h.hlen, List.length_nil] at this
      omega
    -- the loop goes on from a state `s2` (end found, or buffer refilled and filtered) that still has the
    -- same bytes to deliver and, if nothing was there to copy, is closer to delivering one
    have go : ∀ s2, RInv F s2 → sem F s2 = sem F (rot (cpy s len)) → (s.filtered = 0 → need s2 < need s) →
        Delivers F s acc (fuel + 1) len (rRead F fuel s2 (len - min s.filtered len) grants.tail
          (acc ++ s.pending.take (min s.filtered len))) := by
      intro s2 h2 hs2 hneed
      obtain ⟨d, e1, e2, e3, e4⟩ := ih s2 (len - min s.filtered len) grants.tail
        (acc ++ s.pending.take (min s.filtered len)) h2
      refine ⟨s.pending.take (min s.filtered len) ++ d, by rw [e1, List.append_assoc], e2,
        by rw [List.append_assoc, e3, hs2, hsem], fun hl hn hd => ?_⟩
      obtain ⟨ht, hd0⟩ := List.append_eq_nil_iff.mp hd
      have hfil := hcopy hl ht
      have := hneed hfil
      rw [← hsem, ht, List.nil_append, ← hs2]
      exact e4 (by omega) (by omega) hd0
    rw [rRead_succ]
    simp only
    split
    · next hstop =>
      refine ⟨_, rfl, hr, hsem, fun hl _ hd => ?_⟩
      have hfil := hcopy hl hd
      obtain ⟨hs, hu0⟩ := hr.hend (hstop.resolve_left (by omega))
      have hp : (rot (cpy s len)).pending = [] := by
        apply List.eq_nil_of_length_eq_zero
        rw [hr.hlen, rot_filtered, hu0]
        simp only [cpy]; omega
      rw [← hsem, hd, List.nil_append]
      simp only [sem, hp, hs, List.take_nil, List.drop_nil, List.append_nil]
      exact hF.oneShot_nil _
    · next hne =>
      have hend : (rot (cpy s len)).endReached = false :=
        Bool.eq_false_iff.mpr fun hh => hne (Or.inr hh)
      have hf0 : (cpy s len).filtered = 0 := by
        have := fun h0 => hne (Or.inl h0)
        simp only [cpy]; omega
      have hf : (rot (cpy s len)).filtered = 0 := by rw [rot_filtered]; exact hf0
      have hneed : s.filtered = 0 → need s = 19 - s.unfiltered := fun hfil => by
        rw [rot_endReached] at hend
        unfold need; rw [if_pos ⟨hfil, hend⟩]
      have hunf := h.hunf
      split
      · next hz =>
        have hs := nRead_zero _ _ hz (rot_room hc hf0)
        refine go _ (sEnd_inv hF hr hf hs) (sEnd_sem hF hr hf hs) fun hfil => ?_
        rw [hneed hfil]
        unfold need
        rw [if_neg (by simp [sEnd])]
        omega
      · next hz =>
        refine go _ (sFill_inv hF hr hf hend _ (nRead_le_room _ _) (nRead_le_src _ _))
          (sFill_sem hF hf _) fun hfil => ?_
        rw [hneed hfil]
        unfold need
        split
        · next hh =>
          have hp0 := hh.1
          simp only [sFill] at hp0 ⊢
          rw [hp0, rot_unfiltered, show (cpy s len).unfiltered = s.unfiltered from rfl]
          omega
        · omega

theorem rRun_cons (F : BlockFilter σ) (fuel : Nat) (s : RState σ) (len : Nat)
    (rest grants acc : List Nat) :
    rRun F (fuel + 1) s (len :: rest) grants acc =
      let r := rRead F (2 * BUF + 8) s len grants []
      if len = 0 then rRun F fuel s rest grants acc
      else if r.1.isEmpty then acc
      else rRun F fuel r.2.1 (rest ++ [len]) r.2.2 (acc ++ r.1) := by
  rw [rRun]

/-- zero-length reads (any filter): state, pending grants and output so far are untouched -/
theorem rRun_zero_cons (F : BlockFilter σ) (fuel : Nat) (s : RState σ)
    (rest grants acc : List Nat) :
    rRun F (fuel + 1) s (0 :: rest) grants acc = rRun F fuel s rest grants acc := by
  rw [rRun_cons]
  exact if_pos rfl

theorem need_le (s : RState σ) : need s ≤ 2 * BUF + 8 := by
  unfold need BUF; split <;> omega

theorem rRun_sem {F : BlockFilter σ} (hF : Restartable F) (fuel : Nat) :
    ∀ (s : RState σ) (sizes grants acc : List Nat), RInv F s → (∃ x ∈ sizes, x ≠ 0) →
      sizes.count 0 + (sem F s).length < fuel →
      rRun F fuel s sizes grants acc = acc ++ sem F s := by
  induction fuel with
  | zero => intro s sizes grants acc _ _ h; omega
  | succ fuel ih =>
    intro s sizes grants acc h hnz hfuel
    cases sizes with
    | nil => obtain ⟨x, hx, _⟩ := hnz; cases hx
    | cons len rest =>
      rw [rRun_cons]
      simp only
      split
      · next h0 =>
        subst h0
        apply ih s rest grants acc h
        · exact hnz.imp fun x hx => ⟨(List.mem_cons.mp hx.1).resolve_left hx.2, hx.2⟩
        · rw [List.count_cons_self] at hfuel; omega
      · next h0 =>
        obtain ⟨d, e1, e2, e3, e4⟩ := rRead_spec hF (2 * BUF + 8) s len grants [] h
        rw [List.nil_append] at e1
        split
        · next hemp =>
          rw [e4 (by omega) (need_le s) (by simpa [e1] using hemp), List.append_nil]
        · next hemp =>
          rw [ih _ _ _ _ e2 ⟨len, by simp, h0⟩, e1, List.append_assoc, e3]
          have hdl := List.length_pos_iff.mpr (show d ≠ [] by simpa [e1] using hemp)
          have hc : (rest ++ [len]).count 0 = (len :: rest).count 0 := by
            rw [List.count_append, List.count_cons, List.count_cons]; simp
          have hl := congrArg List.length e3
          rw [List.length_append] at hl
          rw [hc]; omega

/-- fuel: one unit per zero size, one per delivered byte, one for the final empty read -/
theorem rRun_eq_oneShot (F : BlockFilter σ) (hF : Restartable F) (st : σ) (src sizes grants : List Nat)
    (fuel : Nat) (hnz : ∃ x ∈ sizes, x ≠ 0) (hfuel : sizes.count 0 + src.length < fuel) :
    rRun F fuel (rInit st src) sizes grants [] = oneShot F st src := by
  rw [rRun_sem hF fuel _ _ _ _ (rInit_inv hF st src) hnz (by rwa [sem_rInit, oneShot, hF.len]),
    sem_rInit, List.nil_append]

/-- the fuel the model's caller (`BcjStream.readAll`) passes is enough -/
theorem rRun_eq_oneShot_default (F : BlockFilter σ) (hF : Restartable F) (st : σ)
    (src sizes grants : List Nat) (hnz : ∃ x ∈ sizes, x ≠ 0) :
    rRun F (src.length + sizes.length + 16) (rInit st src) sizes grants [] = oneShot F st src := by
  apply rRun_eq_oneShot F hF st src sizes grants _ hnz
  have := List.count_le_length (a := 0) (l := sizes)
  omega

theorem rRun_all_zero (F : BlockFilter σ) (fuel : Nat) :
    ∀ (s : RState σ) (sizes grants acc : List Nat), (∀ x ∈ sizes, x = 0) →
      rRun F fuel s sizes grants acc = acc := by
  induction fuel with
  | zero => intro s sizes grants acc _; rw [rRun]
  | succ fuel ih =>
    intro s sizes grants acc h
    cases sizes with
    | nil => rw [rRun]
    | cons len rest =>
      have : len = 0 := h len (by simp)
      subst this
      rw [rRun_zero_cons]
      exact ih s rest grants acc (fun x hx => h x (List.mem_cons_of_mem _ hx))

/-- inserting zero sizes anywhere into the destination sizes does not change what the reader delivers -/
theorem rRun_insert_zeros (F : BlockFilter σ) (hF : Restartable F) (st : σ)
    (src sizes sizes' grants grants' : List Nat) (fuel fuel' : Nat)
    (hsame : sizes'.filter (· ≠ 0) = sizes.filter (· ≠ 0))
    (hnz : ∃ x ∈ sizes, x ≠ 0)
    (hfuel : sizes.count 0 + src.length < fuel) (hfuel' : sizes'.count 0 + src.length < fuel') :
    rRun F fuel' (rInit st src) sizes' grants' [] = rRun F fuel (rInit st src) sizes grants [] := by
  have hnz' : ∃ x ∈ sizes', x ≠ 0 := by
    obtain ⟨x, hx, hx0⟩ := hnz
    have : x ∈ sizes.filter (· ≠ 0) := List.mem_filter.mpr ⟨hx, by simpa using hx0⟩
    rw [← hsame] at this
    exact ⟨x, (List.mem_filter.mp this).1, hx0⟩
  rw [rRun_eq_oneShot F hF st src sizes grants fuel hnz hfuel,
    rRun_eq_oneShot F hF st src sizes' grants' fuel' hnz' hfuel']

/-! A scanner looks at a window of `W` bytes at the current position, rewrites the first `δ` bytes of
it (`1 ≤ δ ≤ W`), advances by `δ`, and carries a loop state `τ`; it stops when fewer than `W`
bytes are left. -/

structure StepFits (W : Nat) (w w' : List Nat) (δ : Nat) : Prop where
  len : w'.length = W
  pos : 0 < δ
  le : δ ≤ W
  tail : w'.drop δ = w.drop δ

variable {τ : Type}

/-- a window scanner: position, loop state, window ↦ new window, advance, next loop state -/
structure Scanner (τ : Type) where
  W : Nat
  step : Nat → τ → List Nat → List Nat × Nat × τ

def scan (S : Scanner τ) : Nat → Nat → τ → List Nat → List Nat × Nat × τ
  | 0, _, t, xs => (xs, 0, t)
  | f+1, pos, t, xs =>
    if xs.length < S.W then (xs, 0, t) else
      let r := S.step pos t (xs.take S.W)
      let q := scan S f (pos + r.2.1) r.2.2 (xs.drop r.2.1)
      (r.1.take r.2.1 ++ q.1, r.2.1 + q.2.1, q.2.2)

structure Scanner.Ok (S : Scanner τ) : Prop where
  wpos : 0 < S.W
  w16 : S.W ≤ 16
  ok : ∀ pos t w, w.length = S.W → StepFits S.W w (S.step pos t w).1 (S.step pos t w).2.1

section scan
variable {S : Scanner τ}

theorem scan_small {f pos : Nat} {t : τ} {xs : List Nat} (h : xs.length < S.W) :
    scan S f pos t xs = (xs, 0, t) := by
  cases f with
  | zero => rfl
  | succ f => rw [scan, if_pos h]

theorem scan_basic (hS : S.Ok) (f : Nat) :
    ∀ (pos : Nat) (t : τ) (xs : List Nat), xs.length < f →
      (scan S f pos t xs).1.length = xs.length ∧ (scan S f pos t xs).2.1 ≤ xs.length ∧
      (scan S f pos t xs).1.drop (scan S f pos t xs).2.1 = xs.drop (scan S f pos t xs).2.1 ∧
      xs.length - (scan S f pos t xs).2.1 < S.W := by
  induction f with
  | zero => intro pos t xs h; omega
  | succ f ih =>
    intro pos t xs h
    by_cases hlt : xs.length < S.W
    · rw [scan_small hlt]
      exact ⟨rfl, Nat.zero_le _, rfl, by simpa using hlt⟩
    · have hw : (xs.take S.W).length = S.W := by rw [List.length_take]; omega
      obtain ⟨h0, h2, h3, _⟩ := hS.ok pos t _ hw
      rw [scan, if_neg hlt]
      generalize S.step pos t (xs.take S.W) = r at *
      simp only
      have h1 : (r.1.take r.2.1).length = r.2.1 := by rw [List.length_take, h0]; exact Nat.min_eq_left h3
      obtain ⟨i1, i2, i3, i4⟩ := ih (pos + r.2.1) r.2.2 (xs.drop r.2.1) (by rw [List.length_drop]; omega)
      rw [List.length_drop] at i1 i2 i4
      generalize scan S f (pos + r.2.1) r.2.2 (xs.drop r.2.1) = q at *
      generalize r.1.take r.2.1 = o at h1 ⊢
      refine ⟨?_, ?_, ?_, ?_⟩
      · rw [List.length_append]; omega
      · omega
      · rw [← h1, List.drop_length_add_append, i3, List.drop_drop, h1]
      · omega

theorem scan_fuel (hS : S.Ok) (f : Nat) :
    ∀ (f' pos : Nat) (t : τ) (xs : List Nat), xs.length < f → xs.length < f' →
      scan S f pos t xs = scan S f' pos t xs := by
  induction f with
  | zero => intro f' pos t xs h; omega
  | succ f ih =>
    intro f' pos t xs h h'
    by_cases hlt : xs.length < S.W
    · rw [scan_small hlt, scan_small hlt]
    · obtain ⟨f', rfl⟩ : ∃ g, f' = g + 1 := ⟨f' - 1, by omega⟩
      have hw : (xs.take S.W).length = S.W := by rw [List.length_take]; omega
      have h2 := (hS.ok pos t _ hw).pos
      have hwp := hS.wpos
      rw [scan, scan, if_neg hlt, if_neg hlt]
      simp only
      rw [ih f' _ _ (xs.drop _) (by rw [List.length_drop]; omega) (by rw [List.length_drop]; omega)]

theorem scan_restart (hS : S.Ok) (f1 : Nat) :
    ∀ (f f2 pos : Nat) (t : τ) (xs ys : List Nat), xs.length < f1 → (xs ++ ys).length < f →
      (xs.drop (scan S f1 pos t xs).2.1 ++ ys).length < f2 →
      (scan S f pos t (xs ++ ys)).1 =
        (scan S f1 pos t xs).1.take (scan S f1 pos t xs).2.1 ++
          (scan S f2 (pos + (scan S f1 pos t xs).2.1) (scan S f1 pos t xs).2.2
            (xs.drop (scan S f1 pos t xs).2.1 ++ ys)).1 := by
  induction f1 with
  | zero => intro f f2 pos t xs ys h; omega
  | succ f1 ih =>
    intro f f2 pos t xs ys h hf hf2
    by_cases hlt : xs.length < S.W
    · rw [scan_small hlt] at hf2 ⊢
      exact congrArg (·.1) (scan_fuel hS f f2 pos t (xs ++ ys) hf hf2)
    · obtain ⟨f, rfl⟩ : ∃ g, f = g + 1 := ⟨f - 1, by simp only [List.length_append] at hf; omega⟩
      have hw : (xs.take S.W).length = S.W := by rw [List.length_take]; omega
      obtain ⟨h0, h2, h3, _⟩ := hS.ok pos t _ hw
      have hlt' : ¬ (xs ++ ys).length < S.W := by simp only [List.length_append]; omega
      have htk : (xs ++ ys).take S.W = xs.take S.W := List.take_append_of_le_length (by omega)
      rw [scan, if_neg hlt', htk]
      rw [scan, if_neg hlt] at hf2 ⊢
      generalize S.step pos t (xs.take S.W) = r at *
      simp only at hf2 ⊢
      have h1 : (r.1.take r.2.1).length = r.2.1 := by rw [List.length_take, h0]; exact Nat.min_eq_left h3
      generalize r.1.take r.2.1 = o at h1 ⊢
      have hdr : (xs ++ ys).drop r.2.1 = xs.drop r.2.1 ++ ys := List.drop_append_of_le_length (by omega)
      rw [hdr]
      rw [← List.drop_drop] at hf2 ⊢
      rw [← Nat.add_assoc]
      have := ih f f2 (pos + r.2.1) r.2.2 (xs.drop r.2.1) ys (by rw [List.length_drop]; omega)
        (by rw [← hdr, List.length_drop]; omega) hf2
      rw [this, ← h1, List.take_length_add_append, List.append_assoc]

end scan

/-- Nothing is asked of the stored state but that it abstracts (`pos`, `abs`) to where the scan has got to: x86 stores a
    `prev_mask` of which only three bits count. -/
theorem Restartable.of_scanner {F : BlockFilter σ} {S : Scanner τ} (hS : S.Ok) (pos : σ → Nat) (abs : σ → τ)
    (h : ∀ st xs,
      (F.code st xs).1 = (scan S (xs.length + 1) (pos st) (abs st) xs).1 ∧
      (F.code st xs).2.1 = (scan S (xs.length + 1) (pos st) (abs st) xs).2.1 ∧
      pos (F.code st xs).2.2 = pos st + (F.code st xs).2.1 ∧
      abs (F.code st xs).2.2 = (scan S (xs.length + 1) (pos st) (abs st) xs).2.2) :
    Restartable F := by
  refine ⟨fun st xs => ?_, fun st xs => ?_, fun st xs => ?_, fun st xs => ?_, fun st xs ys => ?_⟩
  all_goals obtain ⟨e1, e2, e3, e4⟩ := h st xs
  all_goals obtain ⟨b1, b2, b3, b4⟩ := scan_basic hS _ (pos st) (abs st) xs (Nat.lt_succ_self _)
  · rw [e1]; exact b1
  · rw [e2]; exact b2
  · rw [e1, e2]; exact b3
  · rw [e2]; exact Nat.lt_of_lt_of_le b4 hS.w16
  · rw [(h st (xs ++ ys)).1, (h (F.code st xs).2.2 _).1, e3, e4, e1, e2]
    exact scan_restart hS _ _ _ _ _ xs ys (Nat.lt_succ_self _) (Nat.lt_succ_self _) (Nat.lt_succ_self _)
end LzmaVerif.Stream

section axioms
open LzmaVerif.Stream
#print axioms wRun_eq_oneShot
#print axioms rRun_eq_oneShot
#print axioms rRun_eq_oneShot_default
#print axioms rRun_zero_cons
#print axioms rRun_insert_zeros
end axioms
