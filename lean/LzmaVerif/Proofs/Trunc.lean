import LzmaVerif.Proofs.TruncRc
import LzmaVerif.Proofs.TruncLzma
import LzmaVerif.Proofs.EndToEndLzma
import LzmaVerif.Proofs.TruncLzip
import LzmaVerif.Proofs.TruncXz
import LzmaVerif.Proofs.TruncLzma2
import LzmaVerif.Proofs.Xz
/-!
# C05 — truncation (theorems about the models)

The theorems are in `TruncRc` (the range decoder on a prefix), `TruncLzma` (raw LZMA, decoder only), `TruncLzip`, and
`TruncLzma2`, `TruncXz` (decoder only, then WRITTEN streams through the round trips those files import).  Here: raw LZMA
as written (`lzma_trunc_*`, through `C01.lzma_roundtrip_*`), the XZ corollaries, the examples that discharge every hypothesis.
-/
namespace LzmaVerif.Xz
open LzmaVerif Lzma Checks

/-- `Xz.xz_trunc`: every proper prefix of a well-formed single stream (`Strm.Ok`) answers an error or `.capped` -/
theorem xz_trunc_ok (s : Strm) (hs : s.Ok) (cap : Nat) (hcap : s.data.length ≤ cap) (k : Nat)
    (hk : k < s.bytes.length) :
    (∃ e, Xz.decode false (s.bytes.take k) cap = .err e) ∨ Xz.decode false (s.bytes.take k) cap = .capped :=
  xz_trunc s hs cap hcap k hk

/-- the same in the user-level form of `xz_roundtrip_blocks` (identical hypotheses) -/
theorem xz_trunc_blocks_ok (c : Check) (fs : List Filter) (hfs : FiltersOk fs)
    (blocks : List (List Nat × List Nat))
    (hb : ∀ b ∈ blocks, PayloadOk (readerDict fs) b.1 (applyFilters fs b.2) ∧ unfilter fs (applyFilters fs b.2) = b.2)
    (hsz : SizesOk c fs blocks) (cap : Nat) (hcap : ((blocks.map (·.2)).flatten).length ≤ cap)
    (k : Nat) (hk : k < (streamBytes c fs blocks).length) :
    (∃ e, Xz.decode false ((streamBytes c fs blocks).take k) cap = .err e) ∨
    Xz.decode false ((streamBytes c fs blocks).take k) cap = .capped :=
  xz_trunc_ok ⟨c, fs, blocks⟩ (Strm.ok_of c fs blocks hfs hb hsz) cap hcap k hk

/-- … and with the payloads given as writer-model LZMA2 streams of valid event sequences (`ChunksOk`, the hypothesis
    of `lzma2_roundtrip`): nothing about the codec is assumed -/
theorem xz_trunc_chunks (c : Check) (fs : List Filter) (hfs : FiltersOk fs)
    (blocks : List (List Nat × List Nat))
    (hb : ∀ b ∈ blocks, unfilter fs (applyFilters fs b.2) = b.2 ∧
      ∃ pb chunks, pb ≤ 224 ∧ (paramsOfProps pb).lc + (paramsOfProps pb).lp ≤ 4 ∧
        Lzma2.ChunksOk pb chunks (Lzma2.initW (readerDict fs) #[] pb) (applyFilters fs b.2) ∧
        Lzma2.encodeChunks pb chunks (Lzma2.initW (readerDict fs) #[] pb) [] = some b.1)
    (hsz : SizesOk c fs blocks) (cap : Nat) (hcap : ((blocks.map (·.2)).flatten).length ≤ cap)
    (k : Nat) (hk : k < (streamBytes c fs blocks).length) :
    (∃ e, Xz.decode false ((streamBytes c fs blocks).take k) cap = .err e) ∨
    Xz.decode false ((streamBytes c fs blocks).take k) cap = .capped := by
  refine xz_trunc_blocks_ok c fs hfs blocks ?_ hsz cap hcap k hk
  intro b hbm
  obtain ⟨hu, pb, chunks, hpb, hlclp, hok, henc⟩ := hb b hbm
  exact ⟨Lzma2.payloadOk_of_chunksOk _ pb hpb hlclp chunks _ _ hok henc, hu⟩

end LzmaVerif.Xz

namespace LzmaVerif.Props.C05
open LzmaVerif Lzma Prog Rc

/-- **Truncated LZMA stream, declared size.**  For every valid parse (hypotheses of `C01.lzma_roundtrip_size`), the
    model encoder's output `bytes` decodes (alone) to the data with all bytes consumed, and EVERY proper prefix of
    `bytes` is rejected with `UnexpectedEof`. -/
theorem lzma_trunc_size (pr : Params) (dictBuf : Nat) (preset : Array Nat) (parse : List Sym) (n : Nat)
    (c' : Coder) (h' : Hist)
    (hp : parseRun dictBuf parse Coder.init (presetUsedOf preset dictBuf) = some (c', h'))
    (hn : h'.size = (presetUsedOf preset dictBuf).size + n) (cap : Nat) :
    ∃ bytes, encodeParse pr dictBuf (presetUsedOf preset dictBuf) (some n) (n + 1) parse = some bytes ∧
      decodeRaw pr dictBuf preset (some n) bytes cap
        = .ok (h'.extract (presetUsedOf preset dictBuf).size h'.size) bytes.length parse ∧
      ∀ k, k < bytes.length → decodeRaw pr dictBuf preset (some n) (bytes.take k) cap = .err .eof := by
  obtain ⟨bytes, henc, hdec⟩ := C01.lzma_roundtrip_size pr dictBuf preset parse n c' h' hp hn [] cap
  rw [List.append_nil] at hdec
  exact ⟨bytes, henc, hdec, fun k hk => decodeRaw_trunc hdec k hk⟩

/-- **Truncated LZMA stream, end marker.**  Same for streams terminated by the end marker
    (hypotheses of `C01.lzma_roundtrip_marker`). -/
theorem lzma_trunc_marker (pr : Params) (dictBuf : Nat) (hd : dictBuf ≤ END_DIST) (preset : Array Nat)
    (parse : List Sym) (mlen : Nat) (hm : 2 ≤ mlen ∧ mlen ≤ 273) (c' : Coder) (h' : Hist)
    (hp : parseRun dictBuf parse Coder.init (presetUsedOf preset dictBuf) = some (c', h'))
    (cap : Nat) (hcap : parse.length < cap) :
    ∃ bytes, encodeParse pr dictBuf (presetUsedOf preset dictBuf) none (cap + 1) (parse ++ [.mtch END_DIST mlen]) = some bytes ∧
      decodeRaw pr dictBuf preset none bytes cap
        = .ok (h'.extract (presetUsedOf preset dictBuf).size h'.size) bytes.length (parse ++ [.mtch END_DIST mlen]) ∧
      ∀ k, k < bytes.length → decodeRaw pr dictBuf preset none (bytes.take k) cap = .err .eof := by
  obtain ⟨bytes, henc, hdec⟩ := C01.lzma_roundtrip_marker pr dictBuf hd preset parse mlen hm c' h' hp [] cap hcap
  rw [List.append_nil] at hdec
  exact ⟨bytes, henc, hdec, fun k hk => decodeRaw_trunc hdec k hk⟩

/-- the cut may also fall inside a stream that is followed by other bytes (container payloads) -/
theorem lzma_trunc_size_rest (pr : Params) (dictBuf : Nat) (preset : Array Nat) (parse : List Sym) (n : Nat)
    (c' : Coder) (h' : Hist)
    (hp : parseRun dictBuf parse Coder.init (presetUsedOf preset dictBuf) = some (c', h'))
    (hn : h'.size = (presetUsedOf preset dictBuf).size + n) (rest : List Nat) (cap : Nat) :
    ∃ bytes, encodeParse pr dictBuf (presetUsedOf preset dictBuf) (some n) (n + 1) parse = some bytes ∧
      ∀ k, k < bytes.length → decodeRaw pr dictBuf preset (some n) ((bytes ++ rest).take k) cap = .err .eof := by
  obtain ⟨bytes, henc, hdec⟩ := C01.lzma_roundtrip_size pr dictBuf preset parse n c' h' hp hn rest cap
  exact ⟨bytes, henc, fun k hk => decodeRaw_trunc hdec k hk⟩

end LzmaVerif.Props.C05

namespace LzmaVerif.Props.C05.Examples
open LzmaVerif Lzma Rc

/-- related states exist … -/
example : Ext ⟨0xFFFF, 5, [], 0⟩ ⟨0xFFFF, 5, [7, 9], 0⟩ := ⟨rfl, rfl, rfl, rfl, [7, 9], rfl⟩

/-- … one `normalize` makes the short side run out (first alternative of `normalize_ext`) … -/
example : (Dec.normalize ⟨0xFFFF, 5, [], 0⟩).over = 1 := by decide

/-- … or keeps the states related with the same surplus (second alternative) -/
example : ExtBy [9] (Dec.normalize ⟨0xFFFF, 5, [7], 0⟩) (Dec.normalize ⟨0xFFFF, 5, [7, 9], 0⟩) := by
  unfold ExtBy; decide

/-- `rc_trunc` instantiated on the concrete program / stream of `Rc.Example` (7 bytes: adaptive and direct bits, a
    carry): every hypothesis is discharged; cutting the last byte makes the decoder run out -/
example : ∃ d0 a ps e, Dec.init [0, 219, 206, 51, 51, 237] = some d0 ∧
    (Rc.Example.exProg 10).decRun Rc.Example.exPs d0 = (a, ps, e) ∧ e.normalize.over > 0 := by
  have h := rc_trunc (Rc.Example.exProg 10) Rc.Example.exBits Rc.Example.exPs (ProbsOk_replicate 2)
    Rc.Example.exBits #[931, 937] Rc.Example.exEnc Rc.Example.ex_enc 6 (by rw [Rc.Example.ex_bytes]; decide)
  rw [Rc.Example.ex_bytes] at h
  rcases h with h | h
  · exact absurd h (by decide)
  · exact h

/-- the decoder accepts the 12-byte stream of "Hi" (produced by liblzma) under cap 4 (from `LzipFile.exLzma_payloadOk`) … -/
theorem exLzma_decodes : ∃ p, decodeRaw LzipFile.lzipParams 4096 #[] none LzipFile.exLzma 4 = .ok #[72, 105] 12 p := by
  have h := LzipFile.exLzma_payloadOk [] 4 (by decide)
  rwa [List.append_nil] at h

/-- … hence (`decodeRaw_trunc`) every proper prefix is `UnexpectedEof` … -/
theorem exLzma_trunc (k : Nat) (hk : k < 12) :
    decodeRaw LzipFile.lzipParams 4096 #[] none (LzipFile.exLzma.take k) 4 = .err .eof := by
  obtain ⟨p, h⟩ := exLzma_decodes
  exact decodeRaw_trunc h k hk

/-- `lzma_trunc_size` instantiated with every hypothesis discharged: a five-literal parse, declared size 5 -/
example : ∃ bytes, encodeParse LzipFile.lzipParams 4096 (presetUsedOf #[] 4096) (some 5) 6
      [.lit 72, .lit 105, .lit 72, .lit 105, .lit 33] = some bytes ∧
    ∀ k, k < bytes.length →
      decodeRaw LzipFile.lzipParams 4096 #[] (some 5) (bytes.take k) 100 = .err .eof := by
  obtain ⟨bytes, h1, _, h3⟩ := lzma_trunc_size LzipFile.lzipParams 4096 #[]
    [.lit 72, .lit 105, .lit 72, .lit 105, .lit 33] 5 _ #[72, 105, 72, 105, 33] rfl rfl 100
  exact ⟨bytes, h1, h3⟩

section Lzip
open LzipFile

def twoMembers : List (Nat × List Nat × List Nat) := [(12, exLzma, [72, 105]), (12, exLzma, [72, 105])]

theorem twoMembers_ok (h : PayloadOk 4096 exLzma [72, 105]) : ∀ m ∈ twoMembers, MemberOk m := by
  intro m hmem
  simp only [twoMembers, List.mem_cons, List.not_mem_nil, or_false, or_self] at hmem
  subst hmem
  exact exMember_ok_of h

/-- `lzip_trunc` on a concrete two-member file (76 bytes): every hypothesis other than the codec's `PayloadOk` is met -/
example (h : PayloadOk 4096 exLzma [72, 105]) (k : Nat) (hk0 : 0 < k) (hk : k < 76) :
    (∃ e, decode ((fileBytes twoMembers).take k) 4 = .err e) ∨
    (∃ j, 0 < j ∧ j < 2 ∧ (fileBytes (twoMembers.take j)).length = k ∧
      decode ((fileBytes twoMembers).take k) 4
        = .ok (fileData (twoMembers.take j)) k (fileRecs (twoMembers.take j))) :=
  lzip_trunc twoMembers (twoMembers_ok h) 4 (by simp [fileData, twoMembers]) k hk0
    (by simpa [fileBytes, twoMembers, memberBytes_length, exLzma] using hk)

def lzIsErr : Out → Bool
  | .err _ => true
  | _ => false

theorem twoMembers_split :
    fileBytes twoMembers = fileBytes (twoMembers.take 1) ++ fileBytes (twoMembers.drop 1) ∧
      (fileBytes (twoMembers.take 1)).length = 38 := by
  simp [fileBytes, twoMembers, memberBytes_length, exLzma]

/-- both alternatives of `lzip_trunc` are attained (`PayloadOk` being `exLzma_payloadOk`): a cut 1 byte behind the
    first member (one byte of the next member's magic left) is not on a member boundary, hence an ERROR … -/
example : lzIsErr (decode ((fileBytes twoMembers).take 39) 4) = true := by
  obtain ⟨e, he⟩ := lzip_trunc_inside twoMembers (twoMembers_ok exLzma_payloadOk) 4 (by simp [fileData, twoMembers])
    39 (by decide) (by simp [fileBytes, twoMembers, memberBytes_length, exLzma])
    (by
      intro j h0 h1
      obtain rfl : j = 1 := by simp only [twoMembers, List.length_cons, List.length_nil] at h1; omega
      rw [twoMembers_split.2]; decide)
  rw [he]
  rfl

/-- … while a cut exactly on the member boundary is the valid one-member file (`lzip_roundtrip_recs_nil`) -/
example : ∃ recs, decode ((fileBytes twoMembers).take 38) 4 = .ok [72, 105] 38 recs := by
  have h := lzip_roundtrip_recs_nil (twoMembers.take 1) (by simp [twoMembers])
    (fun m hm => twoMembers_ok exLzma_payloadOk m (List.mem_of_mem_take hm)) 4 (by simp [fileData, twoMembers])
  rw [twoMembers_split.2] at h
  rw [twoMembers_split.1, List.take_left' twoMembers_split.2]
  exact ⟨_, h⟩

end Lzip

section Xz
open Xz

/-- `xz_trunc_blocks_ok` with EVERY hypothesis discharged (payload = one stored LZMA2 chunk holding the byte `x`,
    CRC64 check): no proper prefix of the stream is accepted, for every byte value `x` -/
example (x : Nat) (k : Nat) (hk : k < (streamBytes .crc64 [.lzma2 4096] [([1, 0, 0, x, 0], [x])]).length) :
    (∃ e, Xz.decode false ((streamBytes .crc64 [.lzma2 4096] [([1, 0, 0, x, 0], [x])]).take k) 1 = .err e) ∨
    Xz.decode false ((streamBytes .crc64 [.lzma2 4096] [([1, 0, 0, x, 0], [x])]).take k) 1 = .capped := by
  have hsz : SizesOk .crc64 [.lzma2 4096] [([1, 0, 0, x, 0], [x])] :=
    sizesOk_of_blocks _ _ _ (sizesOk63_small _ _ (by decide) _ (by simp) (by simp)) (by simp)
  exact xz_trunc_blocks_ok .crc64 [.lzma2 4096] (by decide) _ (stored1_blocks_ok [x]) hsz 1 (by simp) k hk

/-- the 60-byte LZMA2 stream of `Lzma2.Example.exChunks` (six events: LZMA chunks with every header form, stored
    chunks, independent restarts), computed by the model writer (`Lzma2.Example.exChunks_enc`) -/
def exPayload : List Nat :=
  [224, 0, 5, 0, 7, 93, 0, 32, 144, 158, 4, 0, 0, 0, 128, 0, 1, 0, 5, 0, 194, 23, 252, 0, 0, 2, 0, 2, 1, 2, 3, 160, 0, 3,
   0, 6, 0, 34, 66, 12, 0, 0, 0, 224, 0, 0, 0, 5, 93, 0, 34, 127, 252, 0, 0, 1, 0, 0, 7, 0]

theorem exPayload_enc : Lzma2.encodeChunks 93 Lzma2.Example.exChunks (Lzma2.initW 4096 #[] 93) [] = some exPayload :=
  Lzma2.Example.exChunks_enc

/-- `lzma2_trunc` with every hypothesis discharged: no proper prefix of the 60 bytes is accepted, whatever the cap -/
example (k : Nat) (hk : k < 60) (cap : Nat) (r : Lzma2.DecOk) :
    Lzma2.decode 4096 #[] (exPayload.take k) cap ≠ .ok r :=
  Lzma2.lzma2_trunc 4096 #[] 93 (by decide) (by decide) _ _ Lzma2.Example.exChunks_ok exPayload exPayload_enc k
    (by simpa [exPayload] using hk) cap r

/-- `xz_trunc_chunks` with EVERY hypothesis discharged and NO codec assumption: an XZ stream (SHA-256 check) whose
    block payload is that LZMA2 stream; no proper prefix is accepted -/
example (k : Nat) (hk : k < (streamBytes .sha256 [.lzma2 4096] [(exPayload, Lzma2.Example.exData)]).length) :
    (∃ e, Xz.decode false ((streamBytes .sha256 [.lzma2 4096] [(exPayload, Lzma2.Example.exData)]).take k) 17 = .err e) ∨
    Xz.decode false ((streamBytes .sha256 [.lzma2 4096] [(exPayload, Lzma2.Example.exData)]).take k) 17 = .capped := by
  have hrd : readerDict [.lzma2 4096] = 4096 := by decide
  refine xz_trunc_chunks .sha256 [.lzma2 4096] (by decide) _ ?_ ?_ 17 (by simp [Lzma2.Example.exData]) k hk
  · intro b hb
    rw [List.mem_singleton] at hb
    subst hb
    refine ⟨rfl, 93, Lzma2.Example.exChunks, by decide, by decide, ?_, ?_⟩
    · rw [hrd]; exact Lzma2.Example.exChunks_ok
    · rw [hrd]; exact exPayload_enc
  · exact sizesOk_of_blocks _ _ _ (sizesOk63_small _ _ (by decide) _ (by simp) (by simp [exPayload, Lzma2.Example.exData]))
      (by simp)

/-- the stream of the stored-chunk example above is 60 bytes long for `x < 256`… here: `x = 65` -/
example : (streamBytes .crc64 [.lzma2 4096] [([1, 0, 0, 65, 0], [65])]).length = 60 := by decide +kernel

def xzIsErr : Xz.Out → Bool
  | .err _ => true
  | _ => false

/-- direct evaluation of the model on cuts in the block header, the payload, the check, the index and the footer -/
example : ([3, 12, 20, 26, 30, 40, 50, 59].all fun k =>
    xzIsErr (Xz.decode false ((streamBytes .crc64 [.lzma2 4096] [([1, 0, 0, 65, 0], [65])]).take k) 1)) = true := by
  decide +kernel

end Xz

end LzmaVerif.Props.C05.Examples

#print axioms LzmaVerif.Rc.normalize_ext
#print axioms LzmaVerif.Rc.decodeEv_ext
#print axioms LzmaVerif.Prog.decRun_mono
#print axioms LzmaVerif.Prog.decRun_extBy
#print axioms LzmaVerif.Prog.decRun_ext
#print axioms LzmaVerif.Lzma.decRun_trunc
#print axioms LzmaVerif.Lzma.rc_trunc
#print axioms LzmaVerif.Lzma.decodeRaw_trunc
#print axioms LzmaVerif.Lzma.decodeRaw_trunc_not_ok
#print axioms LzmaVerif.Props.C05.lzma_trunc_size
#print axioms LzmaVerif.Props.C05.lzma_trunc_marker
#print axioms LzmaVerif.Props.C05.lzma_trunc_size_rest
#print axioms LzmaVerif.LzipFile.lzip_trunc
#print axioms LzmaVerif.LzipFile.lzip_trunc_not_full
#print axioms LzmaVerif.LzipFile.lzip_trunc_inside
#print axioms LzmaVerif.LzipFile.lzip_trunc_single
#print axioms LzmaVerif.Xz.xz_trunc
#print axioms LzmaVerif.Xz.xz_trunc_not_ok
#print axioms LzmaVerif.Xz.payloadTrunc_stored
#print axioms LzmaVerif.Lzma2.chunkLoop_ext
#print axioms LzmaVerif.Lzma2.decode_trunc
#print axioms LzmaVerif.Lzma2.lzma2_trunc
#print axioms LzmaVerif.Lzma2.payloadTrunc_of_chunksOk
#print axioms LzmaVerif.Lzma2.payloadTrunc_of_payloadOk
#print axioms LzmaVerif.Xz.xz_trunc_ok
#print axioms LzmaVerif.Xz.xz_trunc_blocks_ok
#print axioms LzmaVerif.Xz.xz_trunc_chunks
#print axioms LzmaVerif.Props.C05.Examples.exLzma_decodes
#print axioms LzmaVerif.Props.C05.Examples.exLzma_trunc
