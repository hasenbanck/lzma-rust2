import LzmaVerif.Proofs.TruncRc
import LzmaVerif.Proofs.RcRoundtrip
/-!
# Where the range decoder is normalised does not matter (read-call boundaries are unobservable)

`LZMADecoder::decode` ends a call whose loop ran to the output limit with `rc.normalize()`; where calls end depends on
the caller's buffers (and on the wrap-around of the dictionary buffer).  These extra normalisations change no decision,
no table and no count of bytes consumed or missed (`segRun_eq`, every segmentation); what depends on the schedule is
only how much decoded data has been handed out when an error is reported.
-/
namespace LzmaVerif.Rc

/-- between two decoder operations one byte suffices to normalise -/
def RangeOk (d : Dec) : Prop := 2 ^ 16 ≤ d.range

theorem normalize_range_ge (d : Dec) (h : RangeOk d) : 2 ^ 24 ≤ d.normalize.range := by
  unfold RangeOk at h
  rcases normalize_cases d with ⟨hlt, hn⟩ | ⟨hlt, b, rest, _, hn⟩ | ⟨hlt, _, hn⟩ <;> rw [hn]
  · omega
  · show 2 ^ 24 ≤ d.range * 256; omega
  · show 2 ^ 24 ≤ d.range * 256; omega

theorem normalize_idem (d : Dec) (h : RangeOk d) : d.normalize.normalize = d.normalize := by
  have h24 := normalize_range_ge d h
  rcases normalize_cases d.normalize with ⟨_, hn⟩ | ⟨hlt, _⟩ | ⟨hlt, _⟩
  · exact hn
  · omega
  · omega

theorem normalize_rangeOk (d : Dec) (h : RangeOk d) : RangeOk d.normalize := by
  have := normalize_range_ge d h
  unfold RangeOk; omega

theorem decodeEv_normalize (d : Dec) (e : Ideal.Ev) (h : RangeOk d) :
    decodeEv d.normalize e = decodeEv d e := by
  cases e
  · simp only [decodeEv, Dec.decodeBitP, normalize_idem d h]
  · simp only [decodeEv, Dec.decodeDirect1, normalize_idem d h]

/-- a decoder operation leaves `2^16 ≤ range` (adaptive bit: probability in `31 ..= 2017`):
    the new range is one of the two parts the event cuts the normalised range in -/
theorem decodeEv_rangeOk (d : Dec) (e : Ideal.Ev) (he : Ideal.EvOk e) (h : RangeOk d) (b : Bool)
    (d1 : Dec) (hres : decodeEv d e = (b, d1)) : RangeOk d1 := by
  obtain ⟨h1, h2, _⟩ := Ideal.split_spec _ e (normalize_range_ge d h) he
  obtain rfl : (decodeEv d e).2 = d1 := by rw [hres]
  cases e with
  | bit p b' =>
    simp only [decodeEv, Dec.decodeBitP]
    split
    · exact h1
    · exact h2
  | direct b' =>
    simp only [decodeEv, Dec.decodeDirect1]
    split <;> exact h1

end LzmaVerif.Rc

namespace LzmaVerif.Prog
open LzmaVerif Rc

theorem decRun_rangeOk {α : Type} (prog : Prog α) (ps : Probs) (d : Dec) (a : α) (ps₁ : Probs) (e₁ : Dec)
    (hps : ProbsOk ps) (hd : RangeOk d) (hr : prog.decRun ps d = (a, ps₁, e₁)) : ProbsOk ps₁ ∧ RangeOk e₁ := by
  refine run_inv (I := fun s => ProbsOk s.1 ∧ RangeOk s.2) (fun q s b s₁ h hs => ?_) (run_of_decRun hr) ⟨hps, hd⟩
  obtain ⟨hd, hp⟩ := decSrc_eq h
  rw [hp]
  exact ⟨ProbsOk_upd hs.1 q b, decodeEv_rangeOk _ _ (evOk_evOf hs.1 q false) hs.2 b _ hd⟩

/-- an extra normalisation before a program is unobservable once the run is closed by a normalisation, as every call
    of `decode` is -/
theorem decRun_normalize {α : Type} (prog : Prog α) (ps : Probs) (d : Dec) (hd : RangeOk d)
    (a a' : α) (ps₁ ps₁' : Probs) (e₁ e₁' : Dec)
    (hr : prog.decRun ps d.normalize = (a, ps₁, e₁)) (hr' : prog.decRun ps d = (a', ps₁', e₁')) :
    a = a' ∧ ps₁ = ps₁' ∧ e₁.normalize = e₁'.normalize := by
  induction prog using ask_induction with
  | ret x =>
    cases hr
    cases hr'
    exact ⟨rfl, rfl, normalize_idem d hd⟩
  | ask q k =>
    -- the first operation normalises anyway
    have h1 : decSrc q (ps, d.normalize) = decSrc q (ps, d) := by
      unfold decSrc
      rw [decodeEv_normalize d _ hd]
    have h2 := run_of_decRun hr
    rw [run_ask, h1, ← run_ask, run_of_decRun hr'] at h2
    cases h2
    exact ⟨rfl, rfl, rfl⟩

/-- run a list of programs one after the other (each one may depend on nothing but its position: the caller's state
    between two calls is threaded by the caller); `norm = true` closes every program with `normalize`, as
    `LZMADecoder::decode` closes every call -/
def segRun {α : Type} (norm : Bool) : List (Prog α) → Probs → Dec → List α × Probs × Dec
  | [], ps, d => ([], ps, d)
  | p :: rest, ps, d =>
    let (a, ps₁, d₁) := p.decRun ps d
    let (rs, ps₂, d₂) := segRun norm rest ps₁ (if norm then d₁.normalize else d₁)
    (a :: rs, ps₂, d₂)

/-- **The calls of `decode` may end anywhere**: the segmentation is arbitrary, so this covers every sequence of
    `read` buffer sizes and the wrap-arounds of the dictionary buffer. -/
theorem segRun_eq {α : Type} (segs : List (Prog α)) : ∀ (ps : Probs) (d d' : Dec), ProbsOk ps → RangeOk d' →
    (d = d' ∨ d = d'.normalize) →
    (segRun true segs ps d).1 = (segRun false segs ps d').1 ∧
    (segRun true segs ps d).2.1 = (segRun false segs ps d').2.1 ∧
    (segRun true segs ps d).2.2.normalize = (segRun false segs ps d').2.2.normalize := by
  induction segs with
  | nil =>
    intro ps d d' _ hd' hdd
    simp only [segRun, true_and]
    rcases hdd with h | h
    · rw [h]
    · rw [h, normalize_idem d' hd']
  | cons p rest ih =>
    intro ps d d' hps hd' hdd
    rcases hrun' : p.decRun ps d' with ⟨a', ps₁', e'⟩
    rcases hrun : p.decRun ps d with ⟨a, ps₁, e⟩
    obtain ⟨hps₁', he'⟩ := decRun_rangeOk p ps d' a' ps₁' e' hps hd' hrun'
    have key : a = a' ∧ ps₁ = ps₁' ∧ e.normalize = e'.normalize := by
      rcases hdd with h | h
      · subst h
        rw [hrun] at hrun'
        cases hrun'
        exact ⟨rfl, rfl, rfl⟩
      · subst h
        exact decRun_normalize p ps d' hd' a a' ps₁ ps₁' e e' hrun hrun'
    obtain ⟨ha, hp, hen⟩ := key
    subst ha hp
    simp only [segRun, hrun, hrun', if_true, Bool.false_eq_true, if_false]
    rw [hen]
    have := ih ps₁ e'.normalize e' hps₁' he' (Or.inr rfl)
    exact ⟨by rw [this.1], this.2.1, this.2.2⟩

/-- non-vacuity: two segments of one adaptive bit each on a concrete input; the state after the first segment needs a
    byte (`range = 2^23`), so the normalisation between the segments really reads one (one byte less is left) -/
def exSeg : Prog Bool := .bit 0 fun a => .ret a
def exDec : Dec := { range := 0x01000000, code := 0x00000123, inp := [7, 9, 11], over := 0 }

example : (segRun true [exSeg, exSeg] #[1024] exDec).1 = (segRun false [exSeg, exSeg] #[1024] exDec).1 ∧
    (segRun true [exSeg, exSeg] #[1024] exDec).2.2.normalize.inp
      = (segRun false [exSeg, exSeg] #[1024] exDec).2.2.normalize.inp ∧
    (segRun true [exSeg] #[1024] exDec).2.2.inp.length + 1 = (segRun false [exSeg] #[1024] exDec).2.2.inp.length ∧
    RangeOk exDec ∧ ProbsOk #[1024] := by
  exact ⟨by decide, by decide, by decide, by unfold RangeOk exDec; decide, ProbsOk_replicate 1⟩

end LzmaVerif.Prog
