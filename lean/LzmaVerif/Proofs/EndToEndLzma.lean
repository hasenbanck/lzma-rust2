import LzmaVerif.Props.C01
import LzmaVerif.Proofs.DecodeRaw
/-!
# Raw LZMA with end marker: ONE byte string for every output cap

The decoder's symbol budget is `cap + 1`; a container hypothesis such as `LzipFile.PayloadOk` needs a single byte string that
decodes under EVERY admissible cap.  `lzma_marker_uniform`: the encoder's bytes do not depend on its budget
(`loop_enc_marker`), so for each cap the encoder's run with budget `cap + 1` and `rc_roundtrip` give the decoder's run.
`marker_of_valid` is the case without a preset dictionary, `Props.C01.lzma_roundtrip_marker` the case of one cap.
-/
namespace LzmaVerif.Lzma
open LzmaVerif Prog Rc

open Props.C01 in
/-- **LZMA round trip with end marker, uniform in the cap.**  The model encoder (symbol budget
`parse.length + 1`, or any larger one) produces ONE byte string; the model decoder, run on it followed by ANY
bytes, returns the denoted data, has consumed exactly the encoder's bytes and recovers the parse – for EVERY
output cap `≥ parse.length` (in particular every cap that admits the data). -/
theorem lzma_marker_uniform (pr : Params) (dictBuf : Nat) (hd : dictBuf ≤ END_DIST) (preset : Array Nat)
    (parse : List Sym) (mlen : Nat) (hm : 2 ≤ mlen ∧ mlen ≤ 273) (c' : Coder) (h' : Hist)
    (hp : parseRun dictBuf parse Coder.init (presetUsedOf preset dictBuf) = some (c', h')) :
    ∃ bytes,
      (∀ fuel, parse.length < fuel →
        encodeParse pr dictBuf (presetUsedOf preset dictBuf) none fuel (parse ++ [.mtch END_DIST mlen]) = some bytes) ∧
      (∀ b ∈ bytes, b < 256) ∧
      ∀ (rest : List Nat) (cap : Nat), parse.length ≤ cap →
        decodeRaw pr dictBuf preset none (bytes ++ rest) cap
          = .ok (h'.extract (presetUsedOf preset dictBuf).size h'.size) bytes.length
              (parse ++ [.mtch END_DIST mlen]) := by
  generalize hpu : presetUsedOf preset dictBuf = pu at *
  -- the encoder's run, for every sufficient budget: its range-encoder state is that of `encFold`
  have henc := fun fuel (hf : parse.length < fuel) => loop_enc_marker pr dictBuf hd parse mlen hm Coder.init pu c' h'
    fuel [] 0 (Array.replicate (numProbs pr.lc pr.lp) PROB_INIT) Enc.init hp hf
  refine ⟨_, fun fuel hf => ?_, (enc_bytes _ _ _ (probsOk_fresh pr) _ _ _ _ (henc _ (Nat.lt_succ_self _))).1, ?_⟩
  · simp only [encodeParse, henc fuel hf]
  · intro rest cap hcap
    obtain ⟨d0, d', hinit, hdec, hinp, hover, hover0, _⟩ :=
      rc_roundtrip _ _ _ (probsOk_fresh pr) _ _ _ (henc (cap + 1) (Nat.lt_succ_of_le hcap)) rest
    have hrun := hdec
    rw [← hpu] at hrun
    rw [decodeRaw_run pr dictBuf preset none cap hinit hrun, rawResult, hpu, rawFinish_marker _ _ _ _ rfl hover0 hover]
    simp only [hinp, List.append_nil, List.reverse_cons, List.reverse_reverse, List.length_append,
      Nat.add_sub_cancel]

theorem presetUsedOf_empty (dictBuf : Nat) : presetUsedOf #[] dictBuf = #[] := by
  unfold presetUsedOf
  simp only [List.size_toArray, List.length_nil, zero_le, inf_of_le_left, tsub_self, Array.extract_zero]

/-- without a preset dictionary the decoder's output is its whole history -/
theorem extract_empty_size (h : Hist) : h.extract (#[] : Array Nat).size h.size = h := Array.extract_size

/-- … without a preset dictionary -/
theorem marker_of_valid (pr : Params) (dictBuf : Nat) (hbuf : dictBuf ≤ END_DIST) (parse : List Sym) (mlen : Nat)
    (hm : 2 ≤ mlen ∧ mlen ≤ 273) (c' : Coder) (data : Hist)
    (hp : parseRun dictBuf parse Coder.init (#[] : Hist) = some (c', data)) :
    ∃ bytes,
      (∀ fuel, parse.length < fuel →
        encodeParse pr dictBuf #[] none fuel (parse ++ [.mtch END_DIST mlen]) = some bytes) ∧
      (∀ b ∈ bytes, b < 256) ∧
      ∀ (rest : List Nat) (cap : Nat), parse.length ≤ cap →
        decodeRaw pr dictBuf #[] none (bytes ++ rest) cap = .ok data bytes.length (parse ++ [.mtch END_DIST mlen]) := by
  have hpu := presetUsedOf_empty dictBuf
  have h := lzma_marker_uniform pr dictBuf hbuf #[] parse mlen hm c' data (hpu ▸ hp)
  rwa [hpu, extract_empty_size] at h

end LzmaVerif.Lzma

namespace LzmaVerif.Props.C01
open LzmaVerif Lzma

/-- **LZMA round trip, end marker** (`mlen` is the length field of the marker; the encoder uses 2). -/
theorem lzma_roundtrip_marker (pr : Params) (dictBuf : Nat) (hd : dictBuf ≤ END_DIST) (preset : Array Nat)
    (parse : List Sym) (mlen : Nat) (hm : 2 ≤ mlen ∧ mlen ≤ 273) (c' : Coder) (h' : Hist)
    (hp : parseRun dictBuf parse Coder.init (presetUsedOf preset dictBuf) = some (c', h'))
    (rest : List Nat) (cap : Nat) (hcap : parse.length < cap) :
    ∃ bytes, encodeParse pr dictBuf (presetUsedOf preset dictBuf) none (cap + 1) (parse ++ [.mtch END_DIST mlen]) = some bytes ∧
      decodeRaw pr dictBuf preset none (bytes ++ rest) cap
        = .ok (h'.extract (presetUsedOf preset dictBuf).size h'.size) bytes.length (parse ++ [.mtch END_DIST mlen]) := by
  obtain ⟨bytes, henc, -, hdec⟩ := lzma_marker_uniform pr dictBuf hd preset parse mlen hm c' h' hp
  exact ⟨bytes, henc (cap + 1) (Nat.lt_succ_of_lt hcap), hdec rest cap (Nat.le_of_lt hcap)⟩

end LzmaVerif.Props.C01

#print axioms LzmaVerif.Lzma.lzma_marker_uniform
