/-
  (B5) (`bt4_tree_matches_valid`, `Props/C01Bt4.lean`) the search-tree invariant of BT4 and its preservation by one
  descent, over the array, the two hole pointers, `len0` / `len1` and the current candidate.

  `TInv T lo hi`: for every live node `q` (`lo < q ≤ hi`), every live node reachable through `T[sl q]` is older
  than `q` and at most the suffix at `q`, every live node reachable through `T[sl q + 1]` is older and at least
  the suffix at `q` - in the lexicographic order truncated to `nw q` bytes, the `nice_len_limit` at `q`.
  This holds for ALL live nodes, also for those that were dropped from their tree: a descent makes the new node
  the root and otherwise only REMOVES paths (`Reach.shrink`); no node ever gains a descendant.  Every write of a
  descent puts into a hole something that reaches no more than what the hole held (`hole_prem`), and arrays that
  arise from such writes have no new paths (`Shrunk`).
-/
import LzmaVerif.Proofs.Bt4Base
import LzmaVerif.Proofs.Bt4Order
namespace LzmaVerif.Mf.Bt4

/-- logical data position of the node with `lz_pos` value `e` -/
def posOf (cs e : Nat) : Nat := e - cs - 1

/-- the `nice_len_limit` at node `e`: `min nice_len avail` -/
def nw (d : Array UInt8) (cs niceLen e : Nat) : Nat := min niceLen (d.size - posOf cs e)

def TInv (d : Array UInt8) (cs niceLen : Nat) (T : Array Nat) (lo hi : Nat) : Prop :=
  ∀ q, lo < q → q ≤ hi →
    (∀ x, RS cs T lo hi (sl cs q) x → x < q ∧ LeN d (nw d cs niceLen q) (posOf cs x) (posOf cs q)) ∧
    (∀ x, RS cs T lo hi (sl cs q + 1) x → x < q ∧ LeN d (nw d cs niceLen q) (posOf cs q) (posOf cs x))

def NotSlot (cs v σ : Nat) : Prop := σ ≠ sl cs v ∧ σ ≠ sl cs v + 1

/-- `σ` is not a child slot of a live node (it is one of the two slots of the node being inserted) -/
def NewSlot (cs lo hi σ : Nat) : Prop := ∀ v, lo < v → v ≤ hi → NotSlot cs v σ

section
variable {d : Array UInt8} {cs niceLen lo hi : Nat}

theorem sl_lt (hcs : 0 < cs) (v : Nat) : sl cs v + 1 < 2 * cs := by
  have := Nat.mod_lt (v - 1) hcs
  unfold sl; omega

theorem notSlot_of_ne {v w : Nat} (hv : 1 ≤ v) (hw : 1 ≤ w) (hne : v ≠ w) (hd : v - w < cs) (hd' : w - v < cs) :
    NotSlot cs v (sl cs w) ∧ NotSlot cs v (sl cs w + 1) := by
  have := sl_disjoint hw hv (Ne.symm hne) hd' hd
  exact ⟨⟨this.1, this.2.1⟩, ⟨this.2.2.1, this.2.2.2⟩⟩

def LiveSlot (cs lo hi σ : Nat) : Prop := ∃ v, lo < v ∧ v ≤ hi ∧ (σ = sl cs v ∨ σ = sl cs v + 1)

/-- at every live slot, what `F` stores reaches (in `T`) only what `T` stores there reaches: the hypothesis of
    `Reach.shrink` -/
def Shrunk (cs : Nat) (T F : Array Nat) (lo hi : Nat) : Prop :=
  ∀ σ, LiveSlot cs lo hi σ → ∀ x, Reach cs T lo hi (F.getD σ 0) x → RS cs T lo hi σ x

theorem Shrunk.refl (T : Array Nat) : Shrunk cs T T lo hi := fun _ _ _ hx => hx

theorem Shrunk.set {T F : Array Nat} {σ0 w : Nat} (h : Shrunk cs T F lo hi)
    (hw : LiveSlot cs lo hi σ0 → ∀ x, Reach cs T lo hi w x → RS cs T lo hi σ0 x) :
    Shrunk cs T (F.setIfInBounds σ0 w) lo hi := by
  intro σ hσ x hx
  rw [getD_set] at hx
  split at hx
  · rename_i hh
    exact hh.1 ▸ hw (hh.1 ▸ hσ) x hx
  · exact h σ hσ x hx

theorem Shrunk.reach {T F : Array Nat} (h : Shrunk cs T F lo hi) {v x : Nat} (hx : Reach cs F lo hi v x) :
    Reach cs T lo hi v x :=
  Reach.shrink (fun v a b => ⟨h _ ⟨v, a, b, Or.inl rfl⟩, h _ ⟨v, a, b, Or.inr rfl⟩⟩) hx

theorem Reach.shrink_set {T : Array Nat} {σ0 w : Nat}
    (hp : LiveSlot cs lo hi σ0 → ∀ x, Reach cs T lo hi w x → RS cs T lo hi σ0 x)
    {v x : Nat} (h : Reach cs (T.setIfInBounds σ0 w) lo hi v x) : Reach cs T lo hi v x :=
  ((Shrunk.refl T).set hp).reach h

theorem RS_set {T : Array Nat} {σ0 w : Nat}
    (hp : LiveSlot cs lo hi σ0 → ∀ x, Reach cs T lo hi w x → RS cs T lo hi σ0 x)
    {σ x : Nat} (hσ : σ ≠ σ0 ∨ LiveSlot cs lo hi σ0)
    (h : RS cs (T.setIfInBounds σ0 w) lo hi σ x) : RS cs T lo hi σ x := by
  unfold RS at h ⊢
  have h' := Reach.shrink_set hp h
  rw [getD_set] at h'
  split at h'
  · rename_i hh
    rcases hσ with hne | hw
    · exact absurd hh.1.symm hne
    · exact hh.1 ▸ hp hw x h'
  · exact h'

theorem Reach.congr {T F : Array Nat} (he : ∀ i, F.getD i 0 = T.getD i 0) {v x : Nat}
    (h : Reach cs F lo hi v x) : Reach cs T lo hi v x := by
  refine Reach.shrink (T := T) ?_ h
  intro v _ _
  exact ⟨fun x hx => by rw [he] at hx; exact hx, fun x hx => by rw [he] at hx; exact hx⟩

theorem TInv.set {T : Array Nat} {σ0 w : Nat} (ht : TInv d cs niceLen T lo hi)
    (hp : LiveSlot cs lo hi σ0 → ∀ x, Reach cs T lo hi w x → RS cs T lo hi σ0 x) :
    TInv d cs niceLen (T.setIfInBounds σ0 w) lo hi := by
  intro q a b
  constructor
  · intro x hx
    refine (ht q a b).1 x (RS_set hp ?_ hx)
    by_cases h : sl cs q = σ0
    · exact Or.inr ⟨q, a, b, Or.inl h.symm⟩
    · exact Or.inl h
  · intro x hx
    refine (ht q a b).2 x (RS_set hp ?_ hx)
    by_cases h : sl cs q + 1 = σ0
    · exact Or.inr ⟨q, a, b, Or.inr h.symm⟩
    · exact Or.inl h

/-- the loop invariant of one descent (bt4.rs:95-140 / :231-283) -/
structure LoopInv (d : Array UInt8) (cs niceLen lo hi p : Nat) (T : Array Nat) (ptr0 ptr1 len0 len1 cur : Nat) :
    Prop where
  tbl : ∀ i, T.getD i 0 ≤ hi
  size : 2 * cs ≤ T.size
  curHi : cur ≤ hi
  b0 : ptr0 < T.size
  b1 : ptr1 < T.size
  ne : ptr0 ≠ ptr1
  ti : TInv d cs niceLen T lo hi
  r0 : NewSlot cs lo hi ptr0 ∨ ∀ x, Reach cs T lo hi cur x → RS cs T lo hi ptr0 x
  r1 : NewSlot cs lo hi ptr1 ∨ ∀ x, Reach cs T lo hi cur x → RS cs T lo hi ptr1 x
  rr : T.getD ptr0 0 = cur ∨ T.getD ptr1 0 = cur ∨ (NewSlot cs lo hi ptr0 ∧ NewSlot cs lo hi ptr1)
  o : ∀ v, lo < v → v ≤ cur → NotSlot cs v ptr0 ∧ NotSlot cs v ptr1
  v : ∀ x, Reach cs T lo hi cur x → LeN d len0 (posOf cs x) p ∧ LeN d len1 p (posOf cs x)

/-- what the finished descent `F` guarantees, relative to the array `T` it was started on -/
structure Post (d : Array UInt8) (cs lo hi Nn p : Nat) (T F : Array Nat) (ptr0 ptr1 cur : Nat) : Prop where
  p1 : ∀ σ x, σ ≠ ptr0 → σ ≠ ptr1 → RS cs F lo hi σ x → RS cs T lo hi σ x
  n0 : ∀ x, RS cs F lo hi ptr0 x → Reach cs T lo hi cur x ∧ LeN d Nn p (posOf cs x)
  n1 : ∀ x, RS cs F lo hi ptr1 x → Reach cs T lo hi cur x ∧ LeN d Nn (posOf cs x) p
  fr : ∀ σ, σ ≠ ptr0 → σ ≠ ptr1 → (∀ v, lo < v → v ≤ cur → NotSlot cs v σ) → F.getD σ 0 = T.getD σ 0

/-- the premise of `Reach.shrink_set` for a hole `ptr` of the descent (`hr` is the field `r0` / `r1`) -/
theorem hole_prem {T : Array Nat} {ptr cur w : Nat}
    (hr : NewSlot cs lo hi ptr ∨ ∀ x, Reach cs T lo hi cur x → RS cs T lo hi ptr x)
    (hw : ∀ x, Reach cs T lo hi w x → Reach cs T lo hi cur x) :
    LiveSlot cs lo hi ptr → ∀ x, Reach cs T lo hi w x → RS cs T lo hi ptr x := by
  rintro ⟨v, a, b, hv⟩ x hx
  rcases hr with hn | hr
  · have := hn v a b
    rcases hv with hv | hv
    · exact absurd hv this.1
    · exact absurd hv this.2
  · exact hr x (hw x hx)

/-- the hole `ptrK` that a step does not write to keeps its property (field `r0` / `r1`) when `cur` goes into the
    other hole `ptrW` and the walk goes on with the child of `cur` in slot `σ`.  By the field `rr`, either `ptrK`
    holds `cur`, whose child the new candidate is, or `ptrW` held `cur` already and the write changes nothing -/
theorem hole_kept {T : Array Nat} {ptrW ptrK cur σ : Nat} (hne : ptrW ≠ ptrK) (hσ : ptrW ≠ σ)
    (hprem : LiveSlot cs lo hi ptrW → ∀ x, Reach cs T lo hi cur x → RS cs T lo hi ptrW x)
    (hr : NewSlot cs lo hi ptrK ∨ ∀ x, Reach cs T lo hi cur x → RS cs T lo hi ptrK x)
    (hrr : T.getD ptrK 0 = cur ∨ T.getD ptrW 0 = cur ∨ NewSlot cs lo hi ptrK)
    (hch : ∀ {A : Array Nat} {x}, Reach cs A lo hi (A.getD σ 0) x → Reach cs A lo hi cur x) :
    NewSlot cs lo hi ptrK ∨ ∀ x, Reach cs (T.setIfInBounds ptrW cur) lo hi (T.getD σ 0) x →
      RS cs (T.setIfInBounds ptrW cur) lo hi ptrK x := by
  rcases hr with hn | hr
  · exact Or.inl hn
  rcases hrr with e0 | e1 | hn
  · right
    intro x hx
    unfold RS
    rw [getD_set_ne _ _ hne, e0]
    refine hch ?_
    rw [getD_set_ne _ _ hσ]
    exact hx
  · right
    intro x hx
    have hsame : ∀ i, T.getD i 0 = (T.setIfInBounds ptrW cur).getD i 0 := by
      intro i
      rw [getD_set]
      split
      · rename_i hh; rw [← hh.1, e1]
      · rfl
    have h1 : RS cs T lo hi ptrK x := hr x (hch (Reach.shrink_set hprem hx))
    unfold RS at h1 ⊢
    rw [getD_set_ne _ _ hne]
    exact Reach.congr hsame h1
  · exact Or.inl hn

theorem Post.of_shrunk {p Nn : Nat} {T F : Array Nat} {ptr0 ptr1 cur : Nat} (hF : Shrunk cs T F lo hi)
    (hfr : ∀ σ, σ ≠ ptr0 → σ ≠ ptr1 → F.getD σ 0 = T.getD σ 0)
    (h0 : ∀ x, Reach cs T lo hi (F.getD ptr0 0) x → Reach cs T lo hi cur x ∧ LeN d Nn p (posOf cs x))
    (h1 : ∀ x, Reach cs T lo hi (F.getD ptr1 0) x → Reach cs T lo hi cur x ∧ LeN d Nn (posOf cs x) p) :
    Post d cs lo hi Nn p T F ptr0 ptr1 cur where
  p1 σ x a b hx := by
    unfold RS at hx ⊢
    rw [← hfr σ a b]
    exact hF.reach hx
  n0 x hx := h0 x (hF.reach hx)
  n1 x hx := h1 x (hF.reach hx)
  fr σ a b _ := hfr σ a b

/-- bt4.rs:99-101 / :238-240: both holes are cleared -/
theorem post_terminate {p Nn : Nat} {T : Array Nat} {ptr0 ptr1 len0 len1 cur : Nat}
    (h : LoopInv d cs niceLen lo hi p T ptr0 ptr1 len0 len1 cur) :
    Post d cs lo hi Nn p T ((T.setIfInBounds ptr0 0).setIfInBounds ptr1 0) ptr0 ptr1 cur := by
  have hz : ∀ x, ¬ Reach cs T lo hi 0 x := fun x => Reach.not_low (Nat.zero_le _)
  refine Post.of_shrunk (((Shrunk.refl T).set fun _ x hx => absurd hx (hz x)).set fun _ x hx => absurd hx (hz x))
    (fun σ h0 h1 => by rw [getD_set_ne _ _ (Ne.symm h1), getD_set_ne _ _ (Ne.symm h0)]) ?_ ?_
  · intro x hx
    rw [getD_set_ne _ _ (Ne.symm h.ne), getD_set_self _ _ h.b0] at hx
    exact absurd hx (hz x)
  · intro x hx
    rw [getD_set_self _ _ (by rw [Array.size_setIfInBounds]; exact h.b1)] at hx
    exact absurd hx (hz x)

/-- bt4.rs:119-121 / :266-268: the candidate agrees with the new string on `nice_len_limit` bytes and is replaced
    by it; its two subtrees are handed to the holes -/
theorem post_relink {p Nn : Nat} {T : Array Nat} {ptr0 ptr1 len0 len1 cur : Nat}
    (h : LoopInv d cs niceLen lo hi p T ptr0 ptr1 len0 len1 cur) (hlo : lo < cur)
    (hN : Nn ≤ nw d cs niceLen cur) (heq : EqN d Nn (posOf cs cur) p) :
    Post d cs lo hi Nn p T
      ((T.setIfInBounds ptr1 (T.getD (sl cs cur) 0)).setIfInBounds ptr0
        ((T.setIfInBounds ptr1 (T.getD (sl cs cur) 0)).getD (sl cs cur + 1) 0)) ptr0 ptr1 cur := by
  rw [getD_set_ne _ _ (h.o cur hlo (Nat.le_refl _)).2.2]
  have hL : ∀ x, Reach cs T lo hi (T.getD (sl cs cur) 0) x → Reach cs T lo hi cur x :=
    fun x hx => Reach.left hlo h.curHi hx
  have hR : ∀ x, Reach cs T lo hi (T.getD (sl cs cur + 1) 0) x → Reach cs T lo hi cur x :=
    fun x hx => Reach.right hlo h.curHi hx
  have hti := h.ti cur hlo h.curHi
  refine Post.of_shrunk (((Shrunk.refl T).set (hole_prem h.r1 hL)).set (hole_prem h.r0 hR))
    (fun σ h0 h1 => by rw [getD_set_ne _ _ (Ne.symm h0), getD_set_ne _ _ (Ne.symm h1)]) ?_ ?_
  · intro x hx
    rw [getD_set_self _ _ (by rw [Array.size_setIfInBounds]; exact h.b0)] at hx
    exact ⟨hR x hx, (LeN.of_eq heq.symm).trans ((hti.2 x hx).2.mono hN)⟩
  · intro x hx
    rw [getD_set_ne _ _ h.ne, getD_set_self _ _ h.b1] at hx
    exact ⟨hL x hx, ((hti.1 x hx).2.mono hN).trans (LeN.of_eq heq)⟩

/-- bt4.rs:129-133 / :272-276: the candidate is smaller than the new string; it is written to the hole `ptr1`, the
    walk continues with its larger child and `ptr1 = ` that child slot, `len1 = len` -/
theorem step_small (hlo1 : 1 ≤ lo) (hw : hi < lo + cs) {p Nn len : Nat} {T : Array Nat}
    {ptr0 ptr1 len0 len1 cur : Nat}
    (h : LoopInv d cs niceLen lo hi p T ptr0 ptr1 len0 len1 cur) (hlo : lo < cur)
    (hN : Nn ≤ nw d cs niceLen cur) (hlen : len ≤ nw d cs niceLen cur)
    (heq : EqN d len (posOf cs cur) p) (hlt : byteAt d (posOf cs cur + len) < byteAt d (p + len)) :
    LoopInv d cs niceLen lo hi p (T.setIfInBounds ptr1 cur) ptr0 (sl cs cur + 1) len0 len
      ((T.setIfInBounds ptr1 cur).getD (sl cs cur + 1) 0) ∧
    ∀ F, Post d cs lo hi Nn p (T.setIfInBounds ptr1 cur) F ptr0 (sl cs cur + 1)
        ((T.setIfInBounds ptr1 cur).getD (sl cs cur + 1) 0) →
      Post d cs lo hi Nn p T F ptr0 ptr1 cur := by
  have hcs : 0 < cs := by have := h.curHi; omega
  have hns := h.o cur hlo (Nat.le_refl _)
  have e1 : (T.setIfInBounds ptr1 cur).getD (sl cs cur + 1) 0 = T.getD (sl cs cur + 1) 0 :=
    getD_set_ne _ _ hns.2.2
  rw [e1]
  have hprem := hole_prem h.r1 fun _ hx => hx
  have hsh : ∀ {v x}, Reach cs (T.setIfInBounds ptr1 cur) lo hi v x → Reach cs T lo hi v x :=
    fun hx => Reach.shrink_set hprem hx
  have hti := h.ti cur hlo h.curHi
  have hR : ∀ x, Reach cs T lo hi (T.getD (sl cs cur + 1) 0) x → Reach cs T lo hi cur x :=
    fun x hx => Reach.right hlo h.curHi hx
  have hchi : T.getD (sl cs cur + 1) 0 ≤ hi := h.tbl _
  -- the child is older than the candidate
  have hcl : ∀ v, lo < v → v ≤ T.getD (sl cs cur + 1) 0 → v < cur := by
    intro v a b
    have := (hti.2 _ (Reach.refl (by omega) hchi)).1
    omega
  have hle : LeN d Nn (posOf cs cur) p := LeN.of_lt Nn heq hlt
  constructor
  · refine ⟨?_, ?_, hchi, ?_, ?_, ?_, h.ti.set hprem, ?_, ?_, ?_, ?_, ?_⟩
    · intro i; rw [getD_set]; split
      · exact h.curHi
      · exact h.tbl i
    · rw [Array.size_setIfInBounds]; exact h.size
    · rw [Array.size_setIfInBounds]; exact h.b0
    · rw [Array.size_setIfInBounds]; have := sl_lt hcs cur; have := h.size; omega
    · exact hns.1.2
    · -- r0
      exact hole_kept h.ne.symm hns.2.2 hprem h.r0 (h.rr.imp_right (Or.imp_right And.left))
        fun hx => Reach.right hlo h.curHi hx
    · -- r1
      right
      intro x hx
      unfold RS; rw [e1]; exact hx
    · -- rr
      right; left; exact e1
    · -- o
      intro v a b
      have hvc := hcl v a b
      have := h.curHi
      exact ⟨(h.o v a (by omega)).1, (notSlot_of_ne (by omega) (by omega) (by omega) (by omega) (by omega)).2⟩
    · -- v
      intro x hx
      have hx' := hsh hx
      refine ⟨(h.v x (hR x hx')).1, ?_⟩
      exact (LeN.of_eq heq.symm).trans (((hti.2 x hx').2).mono hlen)
  · intro F hP
    have hfr : F.getD ptr1 0 = cur := by
      rw [hP.fr ptr1 (Ne.symm h.ne) hns.2.2 (fun v a b => (h.o v a (by have := hcl v a b; omega)).2),
        getD_set_self _ _ h.b1]
    refine ⟨?_, ?_, ?_, ?_⟩
    · intro σ x h0 h1 hx
      by_cases hs : σ = sl cs cur + 1
      · subst hs
        exact hsh (hP.n1 x hx).1
      · exact RS_set hprem (Or.inl h1) (hP.p1 σ x h0 hs hx)
    · intro x hx
      exact ⟨hR x (hsh (hP.n0 x hx).1), (hP.n0 x hx).2⟩
    · intro x hx
      unfold RS at hx
      rw [hfr] at hx
      cases hx with
      | refl a b => exact ⟨Reach.refl a b, hle⟩
      | left a b hx' =>
        have h1 : RS cs (T.setIfInBounds ptr1 cur) lo hi (sl cs cur) x :=
          hP.p1 _ x (Ne.symm hns.1.1) (by omega) hx'
        have h2 : RS cs T lo hi (sl cs cur) x := RS_set hprem (Or.inl (Ne.symm hns.2.1)) h1
        exact ⟨Reach.left a b h2, (((hti.1 x h2).2).mono hN).trans hle⟩
      | right a b hx' =>
        have := hP.n1 x hx'
        exact ⟨hR x (hsh this.1), this.2⟩
    · intro σ h0 h1 hv
      have hσ := hv cur hlo (Nat.le_refl _)
      rw [hP.fr σ h0 hσ.2 (fun v a b => hv v a (by have := hcl v a b; omega)),
        getD_set_ne _ _ (Ne.symm h1)]

/-- bt4.rs:134-138 / :277-281: the candidate is larger than the new string; it is written to the hole `ptr0`, the
    walk continues with its smaller child and `ptr0 = ` that child slot, `len0 = len` -/
theorem step_large (hlo1 : 1 ≤ lo) (hw : hi < lo + cs) {p Nn len : Nat} {T : Array Nat}
    {ptr0 ptr1 len0 len1 cur : Nat}
    (h : LoopInv d cs niceLen lo hi p T ptr0 ptr1 len0 len1 cur) (hlo : lo < cur)
    (hN : Nn ≤ nw d cs niceLen cur) (hlen : len ≤ nw d cs niceLen cur)
    (heq : EqN d len (posOf cs cur) p) (hlt : byteAt d (p + len) < byteAt d (posOf cs cur + len)) :
    LoopInv d cs niceLen lo hi p (T.setIfInBounds ptr0 cur) (sl cs cur) ptr1 len len1
      ((T.setIfInBounds ptr0 cur).getD (sl cs cur) 0) ∧
    ∀ F, Post d cs lo hi Nn p (T.setIfInBounds ptr0 cur) F (sl cs cur) ptr1
        ((T.setIfInBounds ptr0 cur).getD (sl cs cur) 0) →
      Post d cs lo hi Nn p T F ptr0 ptr1 cur := by
  have hcs : 0 < cs := by have := h.curHi; omega
  have hns := h.o cur hlo (Nat.le_refl _)
  have e1 : (T.setIfInBounds ptr0 cur).getD (sl cs cur) 0 = T.getD (sl cs cur) 0 := getD_set_ne _ _ hns.1.1
  rw [e1]
  have hprem := hole_prem h.r0 fun _ hx => hx
  have hsh : ∀ {v x}, Reach cs (T.setIfInBounds ptr0 cur) lo hi v x → Reach cs T lo hi v x :=
    fun hx => Reach.shrink_set hprem hx
  have hti := h.ti cur hlo h.curHi
  have hL : ∀ x, Reach cs T lo hi (T.getD (sl cs cur) 0) x → Reach cs T lo hi cur x :=
    fun x hx => Reach.left hlo h.curHi hx
  have hchi : T.getD (sl cs cur) 0 ≤ hi := h.tbl _
  have hcl : ∀ v, lo < v → v ≤ T.getD (sl cs cur) 0 → v < cur := by
    intro v a b
    have := (hti.1 _ (Reach.refl (by omega) hchi)).1
    omega
  have hle : LeN d Nn p (posOf cs cur) := LeN.of_lt Nn heq.symm hlt
  constructor
  · refine ⟨?_, ?_, hchi, ?_, ?_, ?_, h.ti.set hprem, ?_, ?_, ?_, ?_, ?_⟩
    · intro i; rw [getD_set]; split
      · exact h.curHi
      · exact h.tbl i
    · rw [Array.size_setIfInBounds]; exact h.size
    · rw [Array.size_setIfInBounds]; have := sl_lt hcs cur; have := h.size; omega
    · rw [Array.size_setIfInBounds]; exact h.b1
    · exact Ne.symm hns.2.1
    · -- r0
      right
      intro x hx
      unfold RS; rw [e1]; exact hx
    · -- r1
      exact hole_kept h.ne hns.1.1 hprem h.r1
        (h.rr.elim (fun e => Or.inr (Or.inl e)) (Or.imp_right fun n => Or.inr n.2))
        fun hx => Reach.left hlo h.curHi hx
    · -- rr
      left; exact e1
    · -- o
      intro v a b
      have hvc := hcl v a b
      have := h.curHi
      exact ⟨(notSlot_of_ne (by omega) (by omega) (by omega) (by omega) (by omega)).1, (h.o v a (by omega)).2⟩
    · -- v
      intro x hx
      have hx' := hsh hx
      refine ⟨?_, (h.v x (hL x hx')).2⟩
      exact (((hti.1 x hx').2).mono hlen).trans (LeN.of_eq heq)
  · intro F hP
    have hfr : F.getD ptr0 0 = cur := by
      rw [hP.fr ptr0 hns.1.1 h.ne (fun v a b => (h.o v a (by have := hcl v a b; omega)).1),
        getD_set_self _ _ h.b0]
    refine ⟨?_, ?_, ?_, ?_⟩
    · intro σ x h0 h1 hx
      by_cases hs : σ = sl cs cur
      · subst hs
        exact hsh (hP.n0 x hx).1
      · exact RS_set hprem (Or.inl h0) (hP.p1 σ x hs h1 hx)
    · intro x hx
      unfold RS at hx
      rw [hfr] at hx
      cases hx with
      | refl a b => exact ⟨Reach.refl a b, hle⟩
      | left a b hx' =>
        have := hP.n0 x hx'
        exact ⟨hL x (hsh this.1), this.2⟩
      | right a b hx' =>
        have h1 : RS cs (T.setIfInBounds ptr0 cur) lo hi (sl cs cur + 1) x :=
          hP.p1 _ x (by omega) (Ne.symm hns.2.2) hx'
        have h2 : RS cs T lo hi (sl cs cur + 1) x := RS_set hprem (Or.inl (Ne.symm hns.1.2)) h1
        exact ⟨Reach.right a b h2, hle.trans (((hti.2 x h2).2).mono hN)⟩
    · intro x hx
      exact ⟨hL x (hsh (hP.n1 x hx).1), (hP.n1 x hx).2⟩
    · intro σ h0 h1 hv
      have hσ := hv cur hlo (Nat.le_refl _)
      rw [hP.fr σ hσ.1 h1 (fun v a b => hv v a (by have := hcl v a b; omega)),
        getD_set_ne _ _ (Ne.symm h0)]

end
end LzmaVerif.Mf.Bt4
