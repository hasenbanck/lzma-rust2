import LzmaVerif.Proofs.TotalGuards
import LzmaVerif.Proofs.TotalLzma
import LzmaVerif.Proofs.TotalLzma2
import LzmaVerif.Proofs.TotalLzip
import LzmaVerif.Proofs.TruncLzip
import LzmaVerif.Proofs.TotalXz
/-!
# C06 — decoders stay total on untrusted bytes (proof layer)

For ALL inputs, no bound on sizes:

* the fixed-width arithmetic of `Model/Guards.lean`, through which attacker-controlled values flow, never overflows /
  underflows / truncates, and the backward member scan of the multi-threaded LZIP reader terminates without its fuel
  (`Proofs/TotalGuards.lean`).
* **P1**: `Index::parse` succeeds with `n` records only after reading `≥ 2·n` bytes; any announced count above half
  the remaining input is rejected.
* **P2**: the container and chunk loops of the models never run out of the fuel the top-level functions pass, and
  `.capped` always stems from a real output-cap check; each loop has one lemma for two amounts of fuel at once
  (`Lzma2.chunkLoop_cases`, `LzipFile.members_cases`, `readBlocks_step`, `scanLoop_step`).
* **P3**: in the LZMA symbol loop every decoded symbol emits at least one byte, for every run of the range decoder.
* **P4**: every path through the decision program of one symbol has at most 48 range-coder decisions and ends in an
  admissible symbol (`SymOk`), for every parameter set and context.

The `…Buggy` / `…Old` definitions of `Model/Guards.lean` keep the arithmetic of the code before a repair, with `decide`
witnesses in `Proofs/TotalGuards.lean` (`lzma2_dict0_reset_panicked`, `storedChunkSizeBuggy_overflows`); a third defect
(stack overflow by recursion over empty XZ streams) has no arithmetic content: the model `Xz.readBlocks` is a loop.
-/

namespace LzmaVerif.Total

section ExamplesPart
section Lzma2Top
open LzmaVerif Lzma Prog Rc Lzma2

/-- **P2 (LZMA2, top level).**  `Lzma2.decode` passes fuel `|input| + 1`. -/
theorem lzma2_decode_fuel_indep (dict : Nat) (preset : Array Nat) (input : List Nat) (cap fuel : Nat)
    (hf : input.length < fuel) :
    chunkLoop fuel (initState dict preset) input cap = chunkLoop (input.length + 1) (initState dict preset) input cap :=
  chunkLoop_fuel_indep _ _ _ _ _ hf (Nat.lt_succ_self _)

/-- **P2 (LZMA2, cap).**  `.capped` is never fuel exhaustion: a cap check fired, below `2^21` output bytes per input byte. -/
theorem lzma2_decode_capped (dict : Nat) (preset : Array Nat) (input : List Nat) (cap : Nat)
    (hb : ∀ x ∈ input, x < 256) (h : Lzma2.decode dict preset input cap = .capped) :
    ∃ outSize unc, outSize + unc ≤ 2 ^ 21 * input.length ∧ cap < outSize + unc := by
  unfold Lzma2.decode at h
  split at h
  · cases h
  · cases h
  next hc =>
  obtain ⟨o, u, _, h2, h3⟩ := chunkLoop_capped _ _ _ _ hb (Nat.lt_succ_self _) hc
  have : (initState dict preset).out.size = 0 := rfl
  exact ⟨o, u, by omega, h3⟩

theorem lzma2_decode_definite (dict : Nat) (preset : Array Nat) (input : List Nat) (cap : Nat)
    (hb : ∀ x ∈ input, x < 256) (hcap : 2 ^ 21 * input.length ≤ cap) :
    Lzma2.decode dict preset input cap ≠ .capped := by
  intro h
  obtain ⟨o, u, h1, h2⟩ := lzma2_decode_capped dict preset input cap hb h
  omega

def DecOut.isCapped : Lzma2.DecOut → Bool
  | .capped => true
  | _ => false

theorem DecOut.isCapped_spec {o : Lzma2.DecOut} (h : DecOut.isCapped o = true) : o = .capped := by
  cases o <;> first | rfl | cases h

/-- non-vacuity: the hypotheses of `lzma2_decode_capped` are met by a stored chunk and cap 0 -/
example : Lzma2.decode 4096 #[] [1, 0, 0, 65, 0] 0 = .capped := DecOut.isCapped_spec (by decide +kernel)
example : ∀ x ∈ [1, 0, 0, 65, 0], x < 256 := by decide
example : Lzma2.decode 4096 #[] [1, 0, 0, 65, 0] (2 ^ 21 * 5) ≠ .capped :=
  lzma2_decode_definite _ _ _ _ (by decide) (by decide)

end Lzma2Top

section RawEx
open LzmaVerif Lzma Prog Rc LzipFile

/-- non-vacuity of `decodeRaw_capped`: liblzma's stream for "Hi" with an output cap of one byte -/
theorem exLzma_capped : decodeRaw lzipParams 4096 #[] none exLzma 1 = .capped :=
  exLzma_capped1

example : ∃ d0, Dec.init exLzma = some d0 ∧ 1 < (rawRun lzipParams 4096 #[] 1 d0).emitted := by
  obtain ⟨_, d0, h1, _, h2, _⟩ := decodeRaw_capped _ _ _ _ _ _ exLzma_capped
  exact ⟨d0, h1, h2⟩

def LzipOut.isCapped : LzipFile.Out → Bool
  | .capped => true
  | _ => false

theorem LzipOut.isCapped_spec {o : LzipFile.Out} (h : LzipOut.isCapped o = true) : o = .capped := by
  cases o <;> first | rfl | cases h

/-- non-vacuity of `members_capped` / `lzip_decode_capped`: the first member is accepted, the raw stream of the second
runs into the one byte of cap that is left -/
example : LzipFile.decode exFile 3 = .capped := by
  unfold LzipFile.decode exFile
  rw [List.append_assoc, members_step _ _ _ _ _ _ _ _ _ _ exMember_ok (by decide)]
  exact members_capped_member _ _ _ _ _ _ _ _ _ _ (dict := 4096) (by decide) exLzma_capped1

end RawEx

section IndexEx
open LzmaVerif Xz

/-- non-vacuity of P1 (rejection): the 13-byte index body announcing 2^63 − 1 records -/
theorem exHugeCount : mbReader [255, 255, 255, 255, 255, 255, 255, 255, 127, 0, 0, 0, 0] = .ok (2 ^ 63 - 1, [0, 0, 0, 0]) := by
  decide +kernel

example : ∃ e, parseIndex [255, 255, 255, 255, 255, 255, 255, 255, 127, 0, 0, 0, 0] = .error e :=
  parseIndex_rejects_big_count exHugeCount (by decide)

/-- non-vacuity of P1 (acceptance): the writer's index for two records is accepted, with exactly two records -/
example : ∃ inp1, mbReader ((indexBytes [(20, 7), (300, 100000)]).tail) = .ok (2, inp1) := by
  have h := parseIndex_ok [(20, 7), (300, 100000)] (by decide) (by unfold RecOk; decide) []
  rw [List.append_nil] at h
  exact (parseIndex_count h).1.imp fun _ h => h.1

end IndexEx

section XzEx
open LzmaVerif Xz

/-- a complete one-block XZ file (check = CRC32, LZMA2 with a stored chunk holding the byte 65) -/
def exXz : List Nat := streamBytes .crc32 [.lzma2 4096] [([1, 0, 0, 65, 0], [65])]

def XzOut.isCapped : Xz.Out → Bool
  | .capped => true
  | _ => false

def XzOut.isOkWith : Xz.Out → List Nat → Nat → Bool
  | .ok d _ blks, d', n => d == d' && blks.length == n
  | _, _, _ => false

theorem XzOut.isCapped_spec {o : Xz.Out} (h : XzOut.isCapped o = true) : o = .capped := by
  cases o <;> first | rfl | cases h

/-- non-vacuity of `readBlocks_capped` (through `xz_decode_fuel_indep`): cap 0 on a file holding one byte -/
example : Xz.decode true exXz 0 = .capped := XzOut.isCapped_spec (by decide +kernel)

/-- non-vacuity of `readBlocks_block_count`: the same file decodes to one block with a sufficient cap,
    also when it is followed by stream padding and a second copy (two streams) -/
example : XzOut.isOkWith (Xz.decode false exXz 10) [65] 1 = true := by decide +kernel
example : XzOut.isOkWith (Xz.decode true (exXz ++ [0, 0, 0, 0] ++ exXz) 10) [65, 65] 1 = true := by decide +kernel

/-- non-vacuity of `Xz.nextStream_len` -/
example : (match nextStream 17 ([0, 0, 0, 0] ++ streamHeaderBytes .crc32) 0 with
    | .ok (some (c, r)) => c == Check.crc32 && r == []
    | _ => false) = true := by decide +kernel

end XzEx

section LzipEx
open LzmaVerif LzipFile

/-- non-vacuity of `members_count` / `decode_members_count`: two members in 79 bytes -/
example : ∃ recs, LzipFile.decode exFile 4 = .ok [72, 105, 72, 105] 79 recs ∧ 26 * recs.length ≤ exFile.length := by
  obtain ⟨recs, h⟩ := exFile_decodes
  exact ⟨recs, h, decode_members_count _ _ _ _ _ h⟩

end LzipEx

end ExamplesPart

#print axioms lzma2DictRound_total
#print axioms lzma2DictRound_eq
#print axioms lzma2DictRoundOld_overflows
#print axioms lzma2DictRoundBuggy_zero
#print axioms lzmaDictBuf_bounds
#print axioms lzmaDictBuf_idem
#print axioms lzmaDictBuf_mono
#print axioms lzmaDictRound_ok
#print axioms construct2Dict_ok
#print axioms construct2Dict_total
#print axioms lzmaMemUsageByProps_total
#print axioms indexCapacity_le
#print axioms indexCapacity_le_count
#print axioms indexCapacityOld_overflows
#print axioms lzDecoderNew_total
#print axioms lzma2ReaderBuf_total
#print axioms lzmaReaderBuf_total
#print axioms lzResetIndex_total
#print axioms lzma2_dict0_reset_panicked
#print axioms lzma2_reset_ok
#print axioms lzSetLimit_total
#print axioms lzGetByteIndex_total
#print axioms lzmaChunkSize_total
#print axioms storedChunkSizeBuggy_overflows
#print axioms storedChunkSize_total
#print axioms rcPrepare_total
#print axioms lzmaChunkCompSize_fits
#print axioms blockHeaderSizes_total
#print axioms dictOfPropChecked_total
#print axioms pad4_total
#print axioms lzipMemberSize_total
#print axioms scanLoop_succ
#print axioms scanLoop_step
#print axioms scanLoop_fuel_indep
#print axioms scanLoop_inv
#print axioms Contig.length_le
#print axioms Contig.inside
#print axioms Contig.pairwise
#print axioms Contig.sum_sizes
#print axioms scanMembers_fuel_indep
#print axioms scanMembers_ok
#print axioms scanMembers_count
#print axioms scanLoop_spec4
#print axioms scanMembers_count4
#print axioms scanMembers_tiles4
#print axioms scanMembers_members
#print axioms scanFile_tiles
#print axioms scanLoop_leading
#print axioms lzip_magic_noOverlap_aux
#print axioms magicOf_noOverlap
#print axioms scanFile_total
#print axioms parseRecords_fuel_indep
#print axioms parseIndex_count
#print axioms parseIndex_rejects_big_count
#print axioms parseIndex_rejects_count_gt_length
#print axioms AllD.mono
#print axioms All.iff_allD
#print axioms All.mono
#print axioms AllD.toAll
#print axioms AllD.bind
#print axioms All.bind
#print axioms All.decRun
#print axioms All.runBits
#print axioms b2n_le
#print axioms bit_interval
#print axioms bitTreeAux_allD
#print axioms bitTree_allD
#print axioms directBits_allD
#print axioms revTreeAux_allD
#print axioms revTree_allD
#print axioms lenProg_allD
#print axioms dist_bound
#print axioms distProg_allD
#print axioms litPlain_allD
#print axioms litMatchedAux_allD
#print axioms litMatched_allD
#print axioms symProg_allD
#print axioms symProg_all
#print axioms AllD.runBits
#print axioms symBits_length_le
#print axioms LoopPost.step
#print axioms copyOf_of_not_lit
#print axioms loopProg_all
#print axioms loop_symbols_le_bytes
#print axioms loop_no_fuel_stop
#print axioms loop_fuel_means_cap
#print axioms Lzma2.pushAll_size
#print axioms Lzma2.chunkLoop_cases
#print axioms chunkLoop_capped
#print axioms chunkLoop_fuel_indep
#print axioms decodeRaw_capped
#print axioms decodeRaw_sized_not_capped
#print axioms LzipFile.members_cases
#print axioms members_fuel_indep
#print axioms members_count
#print axioms members_capped
#print axioms lzip_decode_capped
#print axioms decode_members_count
#print axioms nextStream_fuel_indep
#print axioms readBlocks_step
#print axioms readBlocks_fuel_indep
#print axioms readBlocks_capped
#print axioms readBlocks_block_count
#print axioms xz_decode_fuel_indep
#print axioms lzma2_decode_fuel_indep
#print axioms lzma2_decode_capped
#print axioms lzma2_decode_definite
#print axioms DecOut.isCapped_spec
#print axioms exLzma_capped
#print axioms LzipOut.isCapped_spec
#print axioms exScan
#print axioms exHugeCount
#print axioms XzOut.isCapped_spec

end LzmaVerif.Total
