import LzmaVerif.Proofs.ProgRun
/-!
Runs of decision programs on sparse probability tables, for kernel evaluation of concrete streams.

A concrete run starts from a fresh table of about 8000 slots (`lc = 3`) and writes a few dozen of them; on the array the
kernel pays for the whole table at every bit (`Array.setIfInBounds` recomputes the size and copies the list in front of
the slot).  `Sparse` keeps the size and the list of writes; `decRun_sparse` / `encRun_sparse` move a run onto it.

For a user: `rw [.., ← Rc.Sparse.toArr_fresh, Prog.decRun_sparse]` (or `Prog.encRun_sparse`), then `decide +kernel`.  The
goal has to show the fresh table as `Array.replicate n PROB_INIT` first, e.g. after `unfold decodeRaw` or
`rw [Lzma.rawPs0]`.  Use `rw` where the call does not stand under a binder and `simp only` only where it does: the
kernel re-checks a `simp` proof about a term with `let`s by evaluating it.  `decRun_sparse` puts the real
`Dec.decodeBitP`, `Dec.decodeDirect1` for the `B`, `D` of `decRunS`; that is safe for the kernel because the equations
of `decRunS` it rewrites with were proved with `B`, `D` as variables, so no check looks inside the two.
-/
namespace LzmaVerif
open Rc

namespace Rc

/-- a table of `n` slots, all `PROB_INIT` except for the writes listed, latest first -/
structure Sparse where
  n : Nat
  writes : List (Nat × Nat)

namespace Sparse

def get (S : Sparse) (i : Nat) : Nat := if i < S.n then (S.writes.lookup i).getD PROB_INIT else PROB_INIT

def set (S : Sparse) (i v : Nat) : Sparse := { S with writes := (i, v) :: S.writes }

def toArr (S : Sparse) : Probs := S.writes.foldr (fun w a => a.set w.1 w.2) (Array.replicate S.n PROB_INIT)

theorem toArr_fresh (n : Nat) : toArr ⟨n, []⟩ = Array.replicate n PROB_INIT := rfl

theorem toArr_set (S : Sparse) (i v : Nat) : (S.set i v).toArr = S.toArr.set i v := rfl

theorem toArr_size (S : Sparse) : S.toArr.size = S.n := by
  obtain ⟨n, ws⟩ := S
  induction ws with
  | nil => exact Array.size_replicate
  | cons w ws ih => exact Array.size_setIfInBounds.trans ih

/-- a write outside the table is ignored by `Probs.set`, and `get` does not look at it -/
theorem toArr_get (S : Sparse) (i : Nat) : S.toArr.get i = S.get i := by
  obtain ⟨n, ws⟩ := S
  unfold get
  induction ws with
  | nil =>
    simp only [toArr, Probs.get, List.foldr_nil, List.lookup_nil, Option.getD_none, Array.getD_eq_getD_getElem?,
      Array.getElem?_replicate]
    split <;> rfl
  | cons w ws ih =>
    obtain ⟨k, v⟩ := w
    have hsz : (toArr ⟨n, ws⟩).size = n := toArr_size ⟨n, ws⟩
    simp only [toArr, Probs.get, Probs.set, List.foldr_cons, List.lookup_cons, Array.getD_eq_getD_getElem?,
      Array.getElem?_setIfInBounds] at ih hsz ⊢
    by_cases h : k = i
    · subst h
      rw [hsz, if_pos rfl, beq_self_eq_true]
      split <;> rfl
    · rw [if_neg h, ih, beq_eq_false_iff_ne.mpr (Ne.symm h)]

end Sparse
end Rc

namespace Prog

/-- `decRun` on a sparse table.  `B`, `D` stand for `Dec.decodeBitP`, `Dec.decodeDirect1`; they are variables so that
the equations of this function are proved without the kernel looking inside the two (see `Proofs/ProgUnfold.lean`). -/
def decRunS {α : Type} (B : Dec → Nat → Bool × Dec) (D : Dec → Bool × Dec) : Prog α → Sparse → Dec → α × Sparse × Dec
  | ret a, S, d => (a, S, d)
  | bit i k, S, d =>
    decRunS B D (k (B d (S.get i)).1) (S.set i (updProb (S.get i) (B d (S.get i)).1)) (B d (S.get i)).2
  | direct k, S, d => decRunS B D (k (D d).1) S (D d).2

theorem decRun_sparse {α : Type} (p : Prog α) : ∀ (S : Sparse) (d : Dec),
    p.decRun S.toArr d =
      ((p.decRunS Dec.decodeBitP Dec.decodeDirect1 S d).1,
        (p.decRunS Dec.decodeBitP Dec.decodeDirect1 S d).2.1.toArr,
        (p.decRunS Dec.decodeBitP Dec.decodeDirect1 S d).2.2) := by
  induction p with
  | ret a => intro S d; rfl
  | bit i k ih =>
    intro S d
    rw [show (bit i k).decRun S.toArr d = _ from decRun_ask (some i) k S.toArr d (Prod.eta (d.decodeBitP _)).symm,
      upd, Sparse.toArr_get, ← Sparse.toArr_set, ih, decRunS]
  | direct k ih =>
    intro S d
    rw [show (direct k).decRun S.toArr d = _ from decRun_ask none k S.toArr d (Prod.eta d.decodeDirect1).symm,
      upd, ih, decRunS]

def encRunS {α : Type} : Prog α → List Bool → Sparse → Enc → Option (α × List Bool × Sparse × Enc)
  | ret a, bs, S, e => some (a, bs, S, e)
  | bit i k, b :: bs, S, e => encRunS (k b) bs (S.set i (updProb (S.get i) b)) (encodeBitP e (S.get i) b)
  | direct k, b :: bs, S, e => encRunS (k b) bs S (encodeDirect1 e b)
  | bit _ _, [], _, _ => none
  | direct _, [], _, _ => none

theorem encRun_sparse {α : Type} (p : Prog α) (bs : List Bool) (S : Sparse) (e : Enc) :
    p.encRun bs S.toArr e = (p.encRunS bs S e).map fun r => (r.1, r.2.1, r.2.2.1.toArr, r.2.2.2) := by
  fun_induction encRunS p bs S e with
  | case1 => rfl
  | case2 i k b bs S e ih => rw [encRun, Sparse.toArr_get]; exact ih
  | case3 k b bs S e ih => exact ih
  | case4 => rfl
  | case5 => rfl

end Prog
end LzmaVerif

#print axioms LzmaVerif.Prog.decRun_sparse
#print axioms LzmaVerif.Prog.encRun_sparse
