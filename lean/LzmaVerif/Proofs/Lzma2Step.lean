import LzmaVerif.Model.Lzma2Check
import LzmaVerif.Proofs.Lzma2Reader
import LzmaVerif.Proofs.RcFinish
import LzmaVerif.Proofs.LoopRt
/-!
LZMA2: writer/reader simulation, one chunk at a time.

* `ChunksOk pb chunks w data` – the hypothesis of the round trip (its docstring);
* `Inv pb w s` – coupling between the writer state `w` and the reader state `s` between two chunks;
* `ChunkStep` – one chunk: the reader accepts exactly the chunk's bytes (`ChunkAt`) and arrives at a state
  coupled with the writer's state after the chunk; `stored_step`, `lzma_step` establish it.
-/
namespace LzmaVerif.Lzma2
open LzmaVerif Lzma Prog Rc

theorem encodeChunks_nil (pb : Nat) (w : WState) (acc : List Nat) :
    encodeChunks pb [] w acc = some (acc ++ [0]) := rfl

theorem encodeChunks_cons (pb : Nat) (ch : Chunk) (rest : List Chunk) (w : WState) (acc : List Nat) :
    encodeChunks pb (ch :: rest) w acc =
      if ch.control ≥ 0x80 then
        match (lzmaProg (restartW ch w) ch.unc).encRun (lzmaBits (restartW ch w) ch.parse)
            (chunkProbs (restartW ch w)) Enc.init with
        | some (r, [], ps, e) =>
          encodeChunks pb rest (afterLzma (restartW ch w) r ps)
            (acc ++ (lzmaHeader (restartW ch w).flags ch.unc e.bytes.length pb).1 ++ e.bytes)
        | _ => none
      else
        encodeChunks pb rest (afterStored (restartW ch w) ch.raw)
          (acc ++ (storedHeader (restartW ch w).flags ch.unc).1 ++ ch.raw) := rfl

/-- `chunks` is a valid sequence of writer events from state `w`, denoting the bytes `data`.

LZMA chunk (`control ≥ 0x80`): the parse is valid w.r.t. the writer's history and denotes exactly `unc` new
bytes (`1 ≤ unc ≤ 2^21`), the `control`/`props`/`comp` fields are the ones the writer produces, and the
encoded body has at most 65536 bytes.  Stored chunk: `1 ≤ raw.length ≤ 65536`.  A chunk whose control byte
announces a dictionary reset and which is not the first one is an independent restart (`restartW`). -/
def ChunksOk (pb : Nat) : List Chunk → WState → List Nat → Prop
  | [], _, data => data = []
  | ch :: rest, w, data =>
    if ch.control ≥ 0x80 then
      ∃ (c' : Coder) (h' : Hist) (data' : List Nat),
        parseRun (restartW ch w).dictBuf ch.parse (chunkCoder (restartW ch w)) (restartW ch w).hist = some (c', h') ∧
        h'.size = (restartW ch w).hist.size + ch.unc ∧ 1 ≤ ch.unc ∧ ch.unc ≤ 2 ^ 21 ∧
        ch.control = lzmaControl (restartW ch w).flags ch.unc ∧
        ch.props = (if (restartW ch w).flags.propsNeeded then some pb else none) ∧ ch.raw = [] ∧
        data = (h'.extract (restartW ch w).hist.size h'.size).toList ++ data' ∧
        ∀ (r : LoopRes) (ps : Probs) (e : Enc),
          (lzmaProg (restartW ch w) ch.unc).encRun (lzmaBits (restartW ch w) ch.parse)
              (chunkProbs (restartW ch w)) Enc.init = some (r, [], ps, e) →
          e.bytes.length ≤ 65536 ∧ ch.comp = e.bytes.length ∧
          ChunksOk pb rest (afterLzma (restartW ch w) r ps) data'
    else
      ∃ data' : List Nat,
        ch.control = storedControl (restartW ch w).flags ∧ ch.unc = ch.raw.length ∧
        1 ≤ ch.raw.length ∧ ch.raw.length ≤ 65536 ∧ ch.comp = 0 ∧ ch.props = none ∧ ch.parse = [] ∧
        data = ch.raw ++ data' ∧
        ChunksOk pb rest (afterStored (restartW ch w) ch.raw) data'

structure Inv (pb : Nat) (w : WState) (s : RState) : Prop where
  dictBuf : s.dictBuf = w.dictBuf
  hist : s.hist = w.hist
  params : w.params = paramsOfProps pb
  ndr : s.needDictReset = true → w.flags.dictResetNeeded = true
  drp : w.flags.dictResetNeeded = true → w.flags.propsNeeded = true
  drh : w.flags.dictResetNeeded = true → w.hist = #[]
  np : s.needProps = w.flags.propsNeeded
  sparams : w.flags.propsNeeded = false → s.params = w.params
  /-- the hypothesis is the negated test of `chunkProbs` / `chunkCoder` -/
  cont : ¬ (w.flags.stateResetNeeded ∨ w.flags.propsNeeded) →
    s.probs = w.probs ∧ s.coder = w.coder ∧ ProbsOk w.probs

/-- one chunk: the writer goes on from `w'` having written `cb` for the bytes `cd`; the reader accepts `cb` as one chunk
(`ChunkAt`) and arrives at a state coupled with `w'` -/
def ChunkStep (pb : Nat) (w : WState) (s : RState) (ch : Chunk) (rest : List Chunk) (data acc : List Nat) :
    Prop :=
  ∃ (w' : WState) (cb cd data' : List Nat) (s' : RState),
    encodeChunks pb (ch :: rest) w acc = encodeChunks pb rest w' (acc ++ cb) ∧
    data = cd ++ data' ∧ ChunksOk pb rest w' data' ∧ Inv pb w' s' ∧ s'.out = s.out ++ cd.toArray ∧
    s'.chunks = ch :: s.chunks ∧
    ∀ (cap : Nat) (tail : List Nat), s.out.size + cd.length ≤ cap → ChunkAt s cap (cb ++ tail) s' tail

theorem restartW_frame (pb : Nat) (w : WState) (s : RState) (ch : Chunk) (hinv : Inv pb w s) :
    (restartW ch w).dictBuf = w.dictBuf ∧ (restartW ch w).params = w.params ∧
      ((restartW ch w).flags.dictResetNeeded = true →
        (restartW ch w).flags.propsNeeded = true ∧ (restartW ch w).hist = #[]) := by
  unfold restartW
  split
  · exact ⟨rfl, rfl, fun _ => ⟨rfl, rfl⟩⟩
  · exact ⟨rfl, rfl, fun h => ⟨hinv.drp h, hinv.drh h⟩⟩

theorem inv_restart (pb : Nat) (w : WState) (s : RState) (ch : Chunk) (hinv : Inv pb w s)
    (hiff : (ch.control ≥ 0xE0 ∨ ch.control = 1) ↔ (restartW ch w).flags.dictResetNeeded = true) :
    Inv pb (restartW ch w) (resetBy ch.control s) ∧ (resetBy ch.control s).needDictReset = false ∧
      ((ch.control ≥ 0xE0 ∨ ch.control = 1) ∨ s.needDictReset = false) := by
  unfold resetBy
  by_cases hR : ch.control ≥ 0xE0 ∨ ch.control = 1
  · -- a reset: the reader starts from nothing, and so does the writer (`drp`, `drh`), restarted or not
    obtain ⟨hdb, hpar, hdr⟩ := restartW_frame pb w s ch hinv
    obtain ⟨hp, hh⟩ := hdr (hiff.mp hR)
    rw [if_pos hR]
    refine ⟨⟨hinv.dictBuf.trans hdb.symm, hh.symm, hpar.trans hinv.params, nofun, fun h => (hdr h).1,
      fun h => (hdr h).2, hp.symm, ?_, fun h => absurd (.inr hp) h⟩, rfl, .inl hR⟩
    rw [hp]
    nofun
  · have hw : restartW ch w = w := if_neg fun h => hR h.1
    rw [if_neg hR]
    rw [hw] at hiff ⊢
    have hn : s.needDictReset = false := Bool.eq_false_iff.mpr fun hn => hR (hiff.mpr (hinv.ndr hn))
    exact ⟨hinv, hn, .inr hn⟩

theorem lzmaControl_ge (f : WFlags) (unc : Nat) : 0x80 ≤ lzmaControl f unc := by
  unfold lzmaControl
  split
  · split <;> omega
  · split <;> omega

/-- the low five bits of the control byte are bits 16-20 of `unc - 1`: the flag part is a multiple of 32 -/
theorem lzmaControl_mod32 (f : WFlags) (unc : Nat) (h2 : unc ≤ 2 ^ 21) :
    lzmaControl f unc % 32 = (unc - 1) / 65536 := by
  have hq : (unc - 1) / 65536 < 32 := by omega
  unfold lzmaControl
  split
  · split <;> omega
  · split <;> omega

theorem be16_size (n : Nat) (h1 : 1 ≤ n) (h2 : n ≤ 65536) :
    be16 (((n - 1) / 256) % 256) ((n - 1) % 256) + 1 = n := by
  unfold be16; omega

theorem lzmaControl_unc (f : WFlags) (unc : Nat) (h1 : 1 ≤ unc) (h2 : unc ≤ 2 ^ 21) :
    (lzmaControl f unc % 32) * 65536 + be16 (((unc - 1) / 256) % 256) ((unc - 1) % 256) + 1 = unc := by
  rw [lzmaControl_mod32 f unc h2]
  unfold be16
  omega

theorem lzmaControl_reset (f : WFlags) (unc : Nat) (h2 : unc ≤ 2 ^ 21) :
    (lzmaControl f unc ≥ 0xE0 ∨ lzmaControl f unc = 1) ↔ (f.propsNeeded = true ∧ f.dictResetNeeded = true) := by
  unfold lzmaControl
  cases f.propsNeeded
  · cases f.stateResetNeeded <;> simp <;> omega
  · cases f.dictResetNeeded <;> simp <;> omega

theorem lzmaControl_c0 (f : WFlags) (unc : Nat) (h2 : unc ≤ 2 ^ 21) :
    lzmaControl f unc ≥ 0xC0 ↔ f.propsNeeded = true := by
  unfold lzmaControl
  cases f.propsNeeded
  · cases f.stateResetNeeded <;> simp <;> omega
  · cases f.dictResetNeeded <;> simp <;> omega

theorem lzmaControl_a0 (f : WFlags) (unc : Nat) (h2 : unc ≤ 2 ^ 21) (hp : f.propsNeeded = false) :
    lzmaControl f unc ≥ 0xA0 ↔ f.stateResetNeeded = true := by
  unfold lzmaControl
  rw [hp]
  cases f.stateResetNeeded
  · simp; omega
  · simp

theorem lzmaHeader_fst (f : WFlags) (unc comp pb : Nat) :
    (lzmaHeader f unc comp pb).1 =
      lzmaControl f unc :: ((unc - 1) / 256) % 256 :: (unc - 1) % 256 ::
        ((comp - 1) / 256) % 256 :: (comp - 1) % 256 :: (if f.propsNeeded then [pb] else []) := by
  unfold lzmaHeader lzmaControl
  cases f.propsNeeded <;> rfl

theorem lzmaHeader_snd (f : WFlags) (unc comp pb : Nat) :
    (lzmaHeader f unc comp pb).2 = { dictResetNeeded := false, stateResetNeeded := false, propsNeeded := false } := rfl

def afterProps (s0 : RState) (w1 : WState) : RState :=
  { s0 with needProps := false, params := w1.params, probs := chunkProbs w1, coder := chunkCoder w1 }

theorem chunkProps_writer (pb : Nat) (hpb : pb ≤ 224)
    (hlclp : (paramsOfProps pb).lc + (paramsOfProps pb).lp ≤ 4)
    (w1 : WState) (s0 : RState) (unc : Nat) (h2 : unc ≤ 2 ^ 21) (hinv : Inv pb w1 s0) (rest : List Nat) :
    chunkProps s0 (lzmaControl w1.flags unc) ((if w1.flags.propsNeeded then [pb] else []) ++ rest)
      = .ok (afterProps s0 w1, rest, if w1.flags.propsNeeded then some pb else none) := by
  obtain ⟨dictBuf, hist, ndr, np, params, probs, coder, out, chunks⟩ := s0
  have hnp := hinv.np
  have hsp := hinv.sparams
  have hcont := hinv.cont
  simp only at hnp hsp hcont
  unfold chunkProps afterProps chunkProbs chunkCoder
  cases hp : w1.flags.propsNeeded with
  | true =>
    simp only [lzmaControl_c0 _ _ h2, hp, if_true, List.cons_append, List.nil_append,
      if_neg (Nat.not_lt.mpr hpb), if_neg (Nat.not_lt.mpr hlclp), or_true, hinv.params]
  | false =>
    rw [hp] at hnp
    subst hnp
    have hsp' := hsp hp
    subst hsp'
    cases hs : w1.flags.stateResetNeeded with
    | true =>
      simp only [lzmaControl_c0 _ _ h2, lzmaControl_a0 _ _ h2 hp, hp, hs, Bool.false_eq_true, if_false,
        List.nil_append, or_false, if_true]
    | false =>
      obtain ⟨hpr, hco, _⟩ := hcont (by simp [hp, hs])
      subst hpr
      subst hco
      simp only [lzmaControl_c0 _ _ h2, lzmaControl_a0 _ _ h2 hp, hp, hs, Bool.false_eq_true, if_false,
        List.nil_append, or_self]


theorem storedHeader_fst (f : WFlags) (unc : Nat) :
    (storedHeader f unc).1 = [storedControl f, ((unc - 1) / 256) % 256, (unc - 1) % 256] := rfl

theorem stored_step (pb : Nat) (w : WState) (s : RState) (ch : Chunk) (rest : List Chunk)
    (data acc : List Nat) (hinv : Inv pb w s) (hc : ¬ ch.control ≥ 0x80)
    (hok : ChunksOk pb (ch :: rest) w data) : ChunkStep pb w s ch rest data acc := by
  rw [ChunksOk, if_neg hc] at hok
  obtain ⟨data', hctl, hunc, h1, h2, hcomp, hprops, hparse, hdata, hok'⟩ := hok
  have h12 : ch.control = 1 ∨ ch.control = 2 := by
    rw [hctl]
    unfold storedControl
    split <;> simp
  have hiff : (ch.control ≥ 0xE0 ∨ ch.control = 1) ↔ (restartW ch w).flags.dictResetNeeded = true := by
    rw [hctl]
    unfold storedControl
    cases (restartW ch w).flags.dictResetNeeded <;> simp
  obtain ⟨hinv1, hndr, _⟩ := inv_restart pb w s ch hinv hiff
  refine ⟨_, (storedHeader (restartW ch w).flags ch.unc).1 ++ ch.raw, ch.raw, data',
    { resetBy ch.control s with
      hist := pushAll (resetBy ch.control s).hist ch.raw,
      out := pushAll s.out ch.raw,
      chunks := { control := ch.control, unc := ch.raw.length, comp := 0, props := none, parse := [],
                  raw := ch.raw } :: s.chunks }, ?_, hdata, hok', ?_, pushAll_eq _ _, ?_, ?_⟩
  · rw [encodeChunks_cons, if_neg hc, List.append_assoc]
  · exact ⟨hinv1.dictBuf, congrArg (pushAll · ch.raw) hinv1.hist, hinv1.params,
      (fun h => nomatch hndr.symm.trans h), nofun, nofun, hinv1.np, hinv1.sparams, fun h => absurd (.inl rfl) h⟩
  · show _ :: s.chunks = ch :: s.chunks
    rw [← hunc, ← hcomp, ← hprops, ← hparse]
  · intro cap tail hcap
    rw [storedHeader_fst, ← hctl, hunc]
    exact .stored h12 hndr (be16_size _ h1 h2) hcap

/-- The writer's encoder run on the chunk's parse succeeds, stopping at the size limit (`loop_enc_size`); the
range decoder reads the symbols back from its body (`rc_roundtrip_fin`). -/
theorem lzma_step (pb : Nat) (hpb : pb ≤ 224)
    (hlclp : (paramsOfProps pb).lc + (paramsOfProps pb).lp ≤ 4)
    (w : WState) (s : RState) (ch : Chunk) (rest : List Chunk) (data acc : List Nat) (hinv : Inv pb w s)
    (hc : ch.control ≥ 0x80) (hok : ChunksOk pb (ch :: rest) w data) : ChunkStep pb w s ch rest data acc := by
  rw [ChunksOk, if_pos hc] at hok
  obtain ⟨c', h', data', hparse, hsize, hu1, hu2, hctl, hprops, hraw, hdata, hall⟩ := hok
  have hdr := (restartW_frame pb w s ch hinv).2.2
  have hiff : (ch.control ≥ 0xE0 ∨ ch.control = 1) ↔ (restartW ch w).flags.dictResetNeeded = true := by
    rw [hctl, lzmaControl_reset _ _ hu2]
    exact ⟨fun h => h.2, fun h => ⟨(hdr h).1, h⟩⟩
  obtain ⟨hinv1, hndr, hreset⟩ := inv_restart pb w s ch hinv hiff
  rw [ChunkStep, encodeChunks_cons, if_pos hc]
  clear hiff hdr hc
  generalize restartW ch w = w1 at *
  obtain ⟨ctl, unc, comp, props, parse, raw⟩ := ch
  simp only at hparse hsize hu1 hu2 hctl hprops hraw hdata hall hinv1 hndr hreset ⊢
  subst hctl hprops hraw
  have henc := loop_enc_size w1.params w1.dictBuf parse (chunkCoder w1) w1.hist c' h' (unc + 1) unc [] 0
    (chunkProbs w1) Enc.init hparse hsize (parse_fits hparse hsize)
  simp only [List.append_nil, Nat.zero_add] at henc
  generalize Lzma2W.encFold w1.params parse (chunkCoder w1) w1.hist (chunkProbs w1) Enc.init = pe at henc
  obtain ⟨ps, e⟩ := pe
  simp only at henc
  obtain ⟨hlen, hcomp, hok'⟩ := hall _ ps e henc
  subst hcomp
  have hpok : ProbsOk (chunkProbs w1) := by
    unfold chunkProbs
    split
    · exact ProbsOk_replicate _
    · next h => exact (hinv1.cont h).2.2
  obtain ⟨d0, d', hinit, hdec, hinp, hover, hcode, _, _, _, h5⟩ :=
    rc_roundtrip_fin _ _ _ hpok _ _ _ _ henc []
  rw [List.append_nil] at hinit
  have hfin : d'.normalize.isFinished = true := by
    unfold Dec.isFinished
    rw [hinp, hover, hcode]
    rfl
  have hpsok : ProbsOk ps := Prog.encRun_probsOk _ _ _ _ _ _ _ _ henc hpok
  set s0 := resetBy (lzmaControl w1.flags unc) s
  have hout0 : s0.out = s.out := resetBy_out _ _
  have hch0 : s0.chunks = s.chunks := resetBy_chunks _ _
  refine ⟨_, (lzmaHeader w1.flags unc e.bytes.length pb).1 ++ e.bytes, _, data',
    { afterProps s0 w1 with
      hist := h', probs := ps, coder := c',
      out := s0.out ++ h'.extract s0.hist.size h'.size,
      chunks := { control := lzmaControl w1.flags unc, unc := unc, comp := e.bytes.length,
                  props := if w1.flags.propsNeeded then some pb else none,
                  parse := parse.reverse.reverse, raw := [] } :: s0.chunks }, ?_, hdata, hok', ?_, ?_, ?_, ?_⟩
  · rw [show (lzmaProg w1 unc).encRun (lzmaBits w1 parse) (chunkProbs w1) Enc.init = _ from henc]
    simp only [List.append_assoc]
  · exact ⟨hinv1.dictBuf, rfl, hinv1.params, (fun h => nomatch hndr.symm.trans h), nofun, nofun, rfl,
      fun _ => rfl, fun _ => ⟨rfl, rfl, hpsok⟩⟩
  · show s0.out ++ h'.extract s0.hist.size h'.size = _
    rw [hout0, hinv1.hist, Array.toArray_toList]
  · show _ :: s0.chunks = _
    rw [hch0, List.reverse_reverse]
  · intro cap tail hcap
    have hcp := chunkProps_writer pb hpb hlclp w1 s0 unc hu2 hinv1 (e.bytes ++ tail)
    have hcap0 : s0.out.size + unc ≤ cap := by
      rw [Array.length_toList, Array.size_extract] at hcap
      rw [hout0]
      omega
    rw [← hinv1.dictBuf, ← hinv1.hist] at hdec
    rw [lzmaHeader_fst]
    simp only [List.cons_append, List.append_assoc]
    exact .lzma (lzmaControl_unc _ _ hu1 hu2) (be16_size _ (by omega) hlen) (lzmaControl_ge _ _)
      hreset hcp rfl hinit hcap0 hdec rfl hfin

end LzmaVerif.Lzma2

#print axioms LzmaVerif.Lzma2.stored_step
#print axioms LzmaVerif.Lzma2.lzma_step
