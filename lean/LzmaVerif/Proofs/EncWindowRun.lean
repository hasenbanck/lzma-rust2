import LzmaVerif.Proofs.EncWindowSim
/-!
# Symbols and the encode loop against the reference run

`RSteps`: the symbol steps of the reference run.  A symbol of the windowed run is a symbol of the reference run
(`symbolStep_sim`): `has_enough_data` puts the symbol's look-ahead into the window (`symbol_lookahead`), so both runs
take the same decision and clamp it alike.  `Run` is `Sim` between two symbols together with the fact that the
reference run reaches `s.ref`; the encode loop keeps it.
-/
namespace LzmaVerif.EncWindow

inductive RSteps (P : Params) (O : Oracle) (inp : List Nat) : RSt → RSt → Prop
  | refl (c : RSt) : RSteps P O inp c c
  | step {c c' : RSt} : c.encPos < inp.length → RSteps P O inp (refSymbol P O inp c).1 c' → RSteps P O inp c c'

theorem RSteps.trans {P : Params} {O : Oracle} {inp : List Nat} {a b c : RSt}
    (h1 : RSteps P O inp a b) (h2 : RSteps P O inp b c) : RSteps P O inp a c := by
  induction h1 with
  | refl _ => exact h2
  | step hlt _ ih => exact RSteps.step hlt (ih h2)

theorem RSteps.single {P : Params} {O : Oracle} {inp : List Nat} {c : RSt} (h : c.encPos < inp.length) :
    RSteps P O inp c (refSymbol P O inp c).1 := RSteps.step h (RSteps.refl _)

theorem RSteps.deterministic {P : Params} {O : Oracle} {inp : List Nat} {a b c : RSt}
    (h1 : RSteps P O inp a b) (hb : ¬ b.encPos < inp.length)
    (h2 : RSteps P O inp a c) (hc : ¬ c.encPos < inp.length) : b = c := by
  induction h1 with
  | refl x =>
    cases h2 with
    | refl _ => rfl
    | step hlt _ => exact absurd hlt hb
  | step hlt _ ih =>
    cases h2 with
    | refl _ => exact absurd hlt hc
    | step _ h2' => exact ih hb h2'

/-- When `encode_symbol` passes its `has_enough_data(read_ahead + 1)` check at buffer position
    `e = read_pos - read_ahead`, then `e` is inside the written data, and while NOT finishing/flushing at least
    `keep_size_after = EXTRA_SIZE_AFTER + MATCH_LEN_MAX` bytes from `e` on are in the buffer. -/
theorem symbol_lookahead (P : Params) (hP : P.WF) (s : St (List Nat)) (fed : List Nat) (h : SInv P s fed)
    (he : hasEnoughData s.win (s.readAhead + 1) = true) :
    0 ≤ s.encPos ∧ s.encPos + 1 ≤ s.win.writePos ∧
    (s.win.finishing = false → s.encPos + P.keepAfter ≤ s.win.writePos) := by
  unfold St.encPos
  have he' := (hasEnough_iff s.win _).mp he
  have h1 := h.ra_le; have h2 := h.ra_ge; have h3 := h.win.rp_lt
  have hka : P.keepAfter = P.extraAfter + P.matchLenMax := rfl
  have hm := hP.mlm_pos
  refine ⟨by omega, ?_, ?_⟩
  · by_cases hf : s.win.finishing = false
    · rcases h.win.lim_run hf with hl | hl
      · omega
      · omega
    · have := h.win.lim_fin ((Bool.not_eq_false _).mp hf)
      omega
  · intro hf
    rcases h.win.lim_run hf with hl | hl
    · omega
    · omega

theorem clampAdv_bounds (ra : Int) (adv0 maxAhead : Nat) (x : Int) (h1 : -1 ≤ ra) (h2 : ra ≤ maxAhead) (hx : 0 ≤ x)
    (hx1 : ra = -1 → 1 ≤ x) :
    let adv := clampAdv (if ra = -1 then 1 else 0) adv0 ((maxAhead : Int) - ra).toNat x.toNat
    (adv : Int) ≤ maxAhead - ra ∧ (adv : Int) ≤ x ∧ 0 ≤ ra + adv := by
  obtain ⟨h, hh⟩ := Int.eq_ofNat_of_zero_le (show 0 ≤ (maxAhead : Int) - ra by omega)
  obtain ⟨y, hy⟩ := Int.eq_ofNat_of_zero_le hx
  rw [hh, hy, Int.toNat_natCast, Int.toNat_natCast]
  unfold clampAdv
  split <;> omega

theorem min_toNat_eq (h : Nat) (x y : Int) (hxy : y = x ∨ ((h : Int) ≤ x ∧ x ≤ y)) : min h y.toNat = min h x.toNat := by
  omega

theorem clampLen_bounds (len : Nat) (ra' : Int) (h : 0 ≤ ra') :
    1 ≤ clampLen len ra' ∧ (clampLen len ra' : Int) ≤ ra' + 1 := by
  unfold clampLen
  omega

structure Run (P : Params) (O : Oracle) (inp : List Nat) (s : St (List Nat)) : Prop extends Sim P inp s where
  reach : RSteps P O inp {} s.ref

theorem symbolStep_sim (P : Params) (hP : P.WF) (O : Oracle) (s : St (List Nat)) (inp : List Nat)
    (h : Run P O inp s) (he : hasEnoughData s.win (s.readAhead + 1) = true) :
    let r := symbolStep listBuf P O s
    Run P O inp r.1 ∧ SameWin s.win r.1.win ∧ r.1.unenc < s.unenc := by
  dsimp only
  have hs := h.inv
  obtain ⟨f1, f2, f3⟩ := symbol_lookahead P hP s _ hs he
  unfold St.encPos at f1 f2 f3
  have hil := h.fed_le
  have g1 := hs.ra_ge; have g2 := hs.ra_le; have g3 := hs.ra_lt; have g6 := hs.win.rp_lt
  have hlt : s.ref.encPos < inp.length := by
    show (s.win.base : Int) + s.win.readPos - s.readAhead < inp.length
    omega
  -- the reference takes the same decision …
  have hd : (if s.ref.readPos = -1 then ((1 : Nat), (1 : Nat), false) else O s.trace) =
      (if s.win.readPos = -1 then ((1 : Nat), (1 : Nat), false) else O s.trace) := by
    have := hs.win.lookback
    have := hP.kb_pos
    have : s.ref.readPos = (s.win.base : Int) + s.win.readPos := rfl
    by_cases h1 : s.win.readPos = -1
    · rw [if_pos h1, if_pos (by omega)]
    · rw [if_neg h1, if_neg (by omega)]
  -- … and clamps it in the same way: the window holds all the input (finishing), or `keep_size_after > maxAhead` bytes
  -- from the symbol start on
  have hclamp : ∀ lo a, clampAdv lo a (((P.maxAhead : Int) - s.readAhead).toNat) (((inp.length : Int) - 1 - s.ref.readPos).toNat) =
      clampAdv lo a (((P.maxAhead : Int) - s.readAhead).toNat) (((s.win.writePos : Int) - 1 - s.win.readPos).toNat) := by
    have := hP.ahead_le; have := hP.mlm_pos
    have hka : P.keepAfter = P.extraAfter + P.matchLenMax := rfl
    have : s.ref.readPos = (s.win.base : Int) + s.win.readPos := rfl
    refine fun lo a => congrArg (fun m => max lo (min a m)) (min_toNat_eq _ _ _ ?_)
    by_cases hf : s.win.finishing = false
    · have := f3 hf
      exact Or.inr (by omega)
    · have := h.all ((Bool.not_eq_false _).mp hf)
      exact Or.inl (by omega)
  have hE : s.ref.encPos.toNat = s.win.base + s.encPos.toNat := by
    have : s.ref.encPos = (s.win.base : Int) + s.encPos := by
      show (s.win.base : Int) + s.win.readPos - s.readAhead = s.win.base + (s.win.readPos - s.readAhead)
      omega
    rw [this, Int.toNat_add (Int.natCast_nonneg _) (show 0 ≤ s.encPos from f1), Int.toNat_natCast]
  have hra : s.ref.readAhead = s.readAhead := rfl
  have htr : s.ref.trace = s.trace := rfl
  have hreach := h.reach.trans (RSteps.single hlt)
  revert hreach
  unfold symbolStep refSymbol
  simp only [htr, hd, hE, hra, hclamp]
  clear hclamp hd hE
  generalize (if s.win.readPos = -1 then ((1 : Nat), (1 : Nat), false) else O s.trace) = D at *
  obtain ⟨hadv1, hadv2, hadv3⟩ := clampAdv_bounds s.readAhead D.1 P.maxAhead
    ((s.win.writePos : Int) - 1 - s.win.readPos) g1 (by omega) (by omega) (by omega)
  generalize clampAdv _ _ _ _ = adv at *
  obtain ⟨b, bref⟩ := advance_sim P hP inp (s.win.base + s.encPos.toNat) adv s h.toSim
    (by unfold St.encPos; omega) (by omega) (by unfold St.encPos; omega)
    (fun hf => by have := f3 hf; unfold St.encPos; omega)
  obtain ⟨b3, b4, b5, b6⟩ := advance_frame listBuf P (s.win.base + s.encPos.toNat) adv s
  rw [← bref]
  generalize advance listBuf P _ adv s = S at *
  obtain ⟨hlen1, hlen2⟩ := clampLen_bounds D.2.1 (s.readAhead + adv) hadv3
  generalize clampLen _ _ = len at *
  refine fun hreach => ⟨⟨⟨⟨b.inv.win, ?_, ?_, ?_, b.inv.not_stuck⟩, b.all, b.good⟩, hreach⟩, b3, ?_⟩
  · show -1 ≤ s.readAhead + adv - len
    omega
  · show s.readAhead + adv - len ≤ S.win.readPos
    omega
  · show s.readAhead + adv - len + 1 ≤ P.maxAhead
    omega
  · show ((S.win.writePos : Int) - (S.win.readPos - (s.readAhead + adv - len))).toNat <
      ((s.win.writePos : Int) - (s.win.readPos - s.readAhead)).toNat
    rw [b3.wp, b4]
    omega

theorem encodeLoop_sim (P : Params) (hP : P.WF) (O : Oracle) (inp : List Nat) (honor : Bool) (fuel : Nat)
    (s : St (List Nat)) (h : Run P O inp s) :
    let r := encodeLoop listBuf P O honor fuel s
    Run P O inp r.1 ∧ SameWin s.win r.1.win ∧ r.1.unenc ≤ s.unenc ∧
      (s.unenc < fuel → r.2 = true ∨ hasEnoughData r.1.win (r.1.readAhead + 1) = false) ∧
      (hasEnoughData s.win (s.readAhead + 1) = true → 0 < fuel → r.1.unenc < s.unenc) ∧
      (honor = false → r.2 = false) := by
  fun_induction encodeLoop listBuf P O honor fuel s with
  | case1 s =>
    exact ⟨h, SameWin.refl _, Nat.le_refl _, fun h => absurd h (Nat.not_lt_zero _),
      fun _ h => absurd h (Nat.lt_irrefl _), fun _ => rfl⟩
  | case2 f s he r hstop =>
    obtain ⟨a1, a4, a6⟩ := symbolStep_sim P hP O s inp h he
    exact ⟨a1, a4, Nat.le_of_lt a6, fun _ => Or.inl rfl, fun _ _ => a6, fun hh => absurd hstop (by simp [hh])⟩
  | case3 f s he r hstop ih =>
    obtain ⟨a1, a4, a6⟩ : Run P O inp r.1 ∧ SameWin s.win r.1.win ∧ r.1.unenc < s.unenc :=
      symbolStep_sim P hP O s inp h he
    obtain ⟨r2, r4, r5, r6, r7, r8⟩ := ih a1
    exact ⟨r2, a4.trans r4, by omega, fun h => r6 (by omega), fun _ _ => by omega, r8⟩
  | case4 f s he =>
    exact ⟨h, SameWin.refl _, Nat.le_refl _, fun _ => Or.inr ((Bool.not_eq_true _).mp he),
      fun h => absurd h he, fun _ => rfl⟩

end LzmaVerif.EncWindow
