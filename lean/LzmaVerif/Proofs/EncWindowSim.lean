import LzmaVerif.Proofs.EncWindowInv
/-!
# The windowed encoder run simulates the window-free reference run (`refSymbol`), step by step

A state of a windowed run without `flush` over the input `inp` stands for a state of the reference run (`St.ref`:
absolute read position, read-ahead, views shown; a window move adds to `base` what it takes from `read_pos` and is
invisible there) and has been fed `inp.take (base + write_pos)`.  `Sim` is the invariant of such states.  One
`move_pos` keeps it and commutes with `ref` (`mfStep_sim`) by two arguments, each made once: the buffer is a cache of
the input (`mkView_eq_refView`), and `keep_size_after` bytes of look-ahead make `move_pos` answer as if all the input
were there (`ret_eq_ref`).
-/
namespace LzmaVerif.EncWindow

structure Params.WF (P : Params) : Prop where
  mlm_pos : 1 ≤ P.matchLenMax
  /-- `required_for_flushing ≤ match_len_max` (4, or `nice_len ≤ 273`) -/
  flush_le : P.reqFlush ≤ P.matchLenMax
  /-- `debug_assert!(required_for_flushing >= required_for_finishing)` -/
  fin_le : P.reqFinish ≤ P.reqFlush
  /-- THE condition on `EXTRA_SIZE_AFTER`: it covers the read-ahead of the search -/
  ahead_le : P.maxAhead ≤ P.extraAfter
  /-- the symbol being coded is not moved out of the buffer -/
  ahead_before : P.maxAhead ≤ P.keepBefore
  kb_pos : 1 ≤ P.keepBefore
  cap : P.capViews = true

def GoodView (P : Params) (inp : List Nat) (v : View) : Prop :=
  v = refView P inp v.symStart v.pos ∧ v.symStart ≤ v.pos ∧ v.pos - v.symStart ≤ P.maxAhead ∧ v.pos < inp.length

structure SInv (P : Params) (s : St (List Nat)) (fed : List Nat) : Prop where
  win : WInv P s.win fed
  ra_ge : -1 ≤ s.readAhead
  /-- the symbol being coded is in the buffer -/
  ra_le : s.readAhead ≤ s.win.readPos
  ra_lt : s.readAhead + 1 ≤ P.maxAhead
  not_stuck : s.stuck = false

def St.ref {β : Type} (s : St β) : RSt :=
  { readPos := (s.win.base : Int) + s.win.readPos, readAhead := s.readAhead, trace := s.trace }

structure Sim (P : Params) (inp : List Nat) (s : St (List Nat)) : Prop where
  inv : SInv P s (inp.take (s.win.base + s.win.writePos))
  /-- `finish` is called after the last `write` -/
  all : s.win.finishing = true → s.win.base + s.win.writePos = inp.length
  good : ∀ v ∈ s.trace, GoodView P inp v

theorem Sim.fed_le {P : Params} {inp : List Nat} {s : St (List Nat)} (h : Sim P inp s) :
    s.win.base + s.win.writePos ≤ inp.length := by
  have := h.inv.win.fed_len
  rw [List.length_take] at this
  omega

theorem WPos.slice {P : Params} {w : Win (List Nat)} {fed inp : List Nat} (h : WPos P w fed) (hinp : fed <+: inp)
    (i n : Nat) (hin : i + n ≤ w.writePos) : listBuf.slice w.buf i n = (inp.drop (w.base + i)).take n :=
  (slice_of_take h.content i n hin).trans (slice_of_prefix hinp (w.base + i) n (by have := h.fed_len; omega))

/-- a view taken at buffer position `r` is the reference view at `base + r` when its three numbers agree -/
theorem mkView_eq_refView (P : Params) (hcap : P.capViews = true) (w : Win (List Nat)) (fed inp : List Nat)
    (e ret r wp b : Nat) (h : WPos P w fed) (hinp : fed <+: inp) (hr : w.readPos = r) (hwp : w.writePos = wp)
    (hb : w.base = b) (hlb : b = 0 ∨ P.keepBefore ≤ r)
    (havail : min (wp - r) (P.keepAfter - (b + r - e)) = min (inp.length - (b + r)) (P.keepAfter - (b + r - e)))
    (hok : (ret != 0) = decide (P.reqFinish ≤ inp.length - (b + r)))
    (hlim : min ret P.matchLenMax = if P.reqFinish ≤ inp.length - (b + r) then min (inp.length - (b + r)) P.matchLenMax else 0) :
    mkView listBuf P w e ret = refView P inp e (b + r) := by
  subst hwp hb
  have hrn : w.readPos.toNat = r := by omega
  have hlt := h.rp_lt
  have hahead : r + min (inp.length - (w.base + r)) (P.keepAfter - (w.base + r - e)) ≤ w.writePos := by
    rw [← havail]
    have := Nat.min_le_left (w.writePos - r) (P.keepAfter - (w.base + r - e))
    generalize min (w.writePos - r) (P.keepAfter - (w.base + r - e)) = n at this ⊢
    clear havail hok hlim hlb
    omega
  -- the look-back `min(pos, dict_size)` fits before `r`: nothing was dropped yet, or `keep_size_before ≥ dict_size` bytes are there
  have hbr : min (w.base + r) P.dictSize ≤ r := by
    rcases hlb with h0 | hk
    · rw [h0, Nat.zero_add]
      exact Nat.min_le_left _ _
    · exact Nat.le_trans (Nat.min_le_right _ _)
        (Nat.le_trans (show P.dictSize ≤ P.extraBefore + P.dictSize from Nat.le_add_left _ _) hk)
  have hback : r - min (w.base + r) P.dictSize + min (w.base + r) P.dictSize ≤ w.writePos ∧
      w.base + (r - min (w.base + r) P.dictSize) = w.base + r - min (w.base + r) P.dictSize := by
    generalize min (w.base + r) P.dictSize = b at hbr ⊢
    clear hok hlim havail hahead hlb
    omega
  unfold mkView refView
  simp only [hrn, hcap, if_true, havail, hok, hlim]
  congr 1
  · exact h.slice hinp r _ hahead
  · rw [h.slice hinp _ _ hback.1, hback.2]

/-- What `move_pos` returns, against the reference.  `avail` bytes lie from the new `read_pos` on in the window, `a` in
    the whole input, the symbol being coded starts `d` bytes before.  While finishing the window holds all the input;
    otherwise `keep_size_after` bytes from the symbol start on are in the window, which is at least `match_len_max ≥
    required_for_flushing` from `read_pos` on, so nothing is left pending. -/
theorem ret_eq_ref (P : Params) (hP : P.WF) (fin : Bool) (avail a d : Nat) (h1 : 1 ≤ avail) (hd : d ≤ P.maxAhead)
    (hfin : fin = true → a = avail) (hrun : fin = false → P.keepAfter ≤ avail + d ∧ avail ≤ a) :
    let pend := avail < P.reqFlush ∧ (avail < P.reqFinish ∨ fin = false)
    (fin = false → ¬ pend) ∧ min avail (P.keepAfter - d) = min a (P.keepAfter - d) ∧
    ((if pend then 0 else avail) != 0) = decide (P.reqFinish ≤ a) ∧
    min (if pend then 0 else avail) P.matchLenMax = if P.reqFinish ≤ a then min a P.matchLenMax else 0 := by
  have w2 := hP.flush_le; have w3 := hP.fin_le; have w4 := hP.ahead_le
  have hka : P.keepAfter = P.extraAfter + P.matchLenMax := rfl
  cases fin with
  | true =>
    obtain rfl := hfin rfl
    by_cases hlt : a < P.reqFinish
    · have hlt2 : a < P.reqFlush := by omega
      simp [hlt, hlt2, Nat.not_le.mpr hlt]
    · have h0 : a ≠ 0 := by omega
      simp [hlt, Nat.le_of_not_lt hlt, h0]
  | false =>
    obtain ⟨hk, hle⟩ := hrun rfl
    have hnp : ¬ avail < P.reqFlush := by omega
    have h0 : avail ≠ 0 := by omega
    have hfa : P.reqFinish ≤ a := by omega
    simp only [hnp, false_and, if_false, hfa, if_true, not_false_eq_true, implies_true, true_and, bne_iff_ne, ne_eq, h0,
      decide_true]
    omega

theorem mfStep_sim (P : Params) (hP : P.WF) (s : St (List Nat)) (inp : List Nat) (e : Nat)
    (h : Sim P inp s) (he : (e : Int) ≤ s.win.base + s.win.readPos + 1)
    (hroom : s.win.readPos + 2 ≤ s.win.writePos)
    (hahead : (s.win.base : Int) + s.win.readPos + 1 - e ≤ P.maxAhead)
    (hcond : s.win.finishing = false → (e : Int) + P.keepAfter ≤ s.win.base + s.win.writePos) :
    Sim P inp (mfStep listBuf P e s) ∧ (mfStep listBuf P e s).ref = refMf P inp e s.ref := by
  have hw := h.inv.win
  obtain ⟨m1, m2⟩ := movePos_spec P s.win
  obtain ⟨f, p, _, _⟩ := mfStep_frame listBuf P e s
  have g1 := hw.rp_ge; have g3 := h.fed_le
  obtain ⟨r, hr⟩ : ∃ r : Nat, s.win.readPos + 1 = r := ⟨(s.win.readPos + 1).toNat, by omega⟩
  have hav : ((s.win.writePos : Int) - (s.win.readPos + 1)).toNat = s.win.writePos - r := by omega
  obtain ⟨n0, n1, n2, n3⟩ := ret_eq_ref P hP s.win.finishing (s.win.writePos - r) (inp.length - (s.win.base + r))
    (s.win.base + r - e) (by omega) (by omega)
    (fun hf => by have := h.all hf; omega) (fun hf => by have := hcond hf; omega)
  rw [hav] at m1 m2
  have hwin : WInv P (movePos P s.win).1 (inp.take (s.win.base + s.win.writePos)) := by
    have := hw.lookback
    rw [m1]
    refine ⟨⟨hw.buf_len, hw.wp_le, by dsimp only; omega, by dsimp only; omega, hw.content, hw.fed_len,
      by dsimp only; omega, hw.base_al⟩, hw.lim_fin, hw.lim_run, ?_⟩
    · show s.win.pendingSize + _ = 0 ∨ s.win.finishing = true
      by_cases hf : s.win.finishing = false
      · rw [if_neg (n0 hf)]
        exact Or.inl (hw.pend_zero hf)
      · exact Or.inr ((Bool.not_eq_false _).mp hf)
  have hview : mkView listBuf P (movePos P s.win).1 e (movePos P s.win).2 = refView P inp e (s.win.base + r) := by
    rw [m2]
    exact mkView_eq_refView P hP.cap _ _ inp e _ r _ _ hwin.toWPos (List.take_prefix _ _) (p.trans hr) f.wp f.base
      (by have := hw.lookback; omega) n1 n2 n3
  refine ⟨⟨?_, fun hf => ?_, ?_⟩, ?_⟩
  · rw [f.base, f.wp]
    refine ⟨hwin, h.inv.ra_ge, ?_, h.inv.ra_lt, h.inv.not_stuck⟩
    have := h.inv.ra_le
    show s.readAhead ≤ (mfStep listBuf P e s).win.readPos
    omega
  · rw [f.base, f.wp]
    exact h.all (f.fin ▸ hf)
  · intro v hv
    rcases List.mem_cons.mp hv with hv | hv
    · rw [hv, hview]
      have : e ≤ s.win.base + r ∧ s.win.base + r - e ≤ P.maxAhead ∧ s.win.base + r < inp.length := by omega
      exact ⟨rfl, this⟩
    · exact h.good v hv
  · have hp : (s.ref.readPos + 1).toNat = s.win.base + r := by
      show ((s.win.base : Int) + s.win.readPos + 1).toNat = _
      omega
    show RSt.mk ((movePos P s.win).1.base + (movePos P s.win).1.readPos) s.readAhead (_ :: s.trace) =
      RSt.mk ((s.win.base : Int) + s.win.readPos + 1) s.readAhead (refView P inp e _ :: s.trace)
    rw [hview, hp, m1]
    exact congrArg (RSt.mk · _ _) (Int.add_assoc _ _ _).symm

theorem advance_sim (P : Params) (hP : P.WF) (inp : List Nat) (e : Nat) :
    ∀ (k : Nat) (s : St (List Nat)), Sim P inp s →
    (e : Int) ≤ s.win.base + s.win.readPos + 1 →
    s.win.readPos + 1 + k ≤ s.win.writePos →
    (s.win.base : Int) + s.win.readPos + k - e ≤ P.maxAhead →
    (s.win.finishing = false → (e : Int) + P.keepAfter ≤ s.win.base + s.win.writePos) →
    Sim P inp (advance listBuf P e k s) ∧ (advance listBuf P e k s).ref = refAdvance P inp e k s.ref
  | 0, _, h, _, _, _, _ => ⟨h, rfl⟩
  | k + 1, s, h, he, hroom, hahead, hcond => by
    obtain ⟨f, hp, _, _⟩ := mfStep_frame listBuf P e s
    obtain ⟨a1, a2⟩ := mfStep_sim P hP s inp e h he (by omega) (by omega) hcond
    have := advance_sim P hP inp e k (mfStep listBuf P e s) a1
      (by rw [f.base, hp]; omega) (by rw [f.wp, hp]; omega) (by rw [f.base, hp]; omega)
      (by rw [f.fin, f.base, f.wp]; exact hcond)
    rw [a2] at this
    exact this

end LzmaVerif.EncWindow
