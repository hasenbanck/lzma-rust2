/-
  The candidates of a `find_matches` call, for both finders: `CandOk` (a `delta` read from a table is a sound candidate),
  `AccOk` (the matches so far), and the stage hc4.rs and bt4.rs have in the same words between the table reads and the
  chain / tree walk: `hashHits`, sound for sound candidates (`hashHits_ok`).
  Conventions: a candidate is `δ = lz_pos - entry`, its match has `dist = δ - 1`; the distance test is
  `δ < cyclic_size = dict_size + 1`, so `cs` of `Hit` / `hashHits` is `dict + 1`; `AccOk` is newest first (as the chain
  walk accumulates), `hashHits` in the order of `Matches`: hence the `.reverse` between them.
-/
import LzmaVerif.Proofs.MfBase

namespace LzmaVerif.Mf

theorem byteAt_lt (d : Array UInt8) (i : Nat) : byteAt d i < 256 := UInt8.toNat_lt_size _

/-- `n` bytes at `p` repeat those `delta` back -/
def Hc4.Eqs (d : Array UInt8) (p delta n : Nat) : Prop :=
  ∀ i, i < n → byteAt d (p + i) = byteAt d (p + i - delta)

open Hc4 (Eqs)

theorem extendMatch_spec (d : Array UInt8) (p delta limit cur : Nat) (hle : cur ≤ limit)
    (he : Eqs d p delta cur) :
    cur ≤ extendMatch d p delta limit cur ∧ extendMatch d p delta limit cur ≤ limit ∧
      Eqs d p delta (extendMatch d p delta limit cur) :=
  ⟨extendMatch_ge d p delta limit cur, extendMatch_le d p delta limit cur hle, fun i hi =>
    if h : i < cur then he i h else extendMatch_eq d p delta limit cur i (Nat.le_of_not_lt h) hi⟩

theorem lensIncreasing_of_pairwise : ∀ l : List Match, l.Pairwise (fun a b => a.1 < b.1) →
    lensIncreasing l = true
  | [], _ => rfl
  | [_], _ => rfl
  | a :: b :: r, h => by
    rw [List.pairwise_cons] at h
    have h1 : a.1 < b.1 := h.1 b (List.mem_cons_self ..)
    have h2 := lensIncreasing_of_pairwise (b :: r) h.2
    simp only [lensIncreasing, h2, Bool.and_true, decide_eq_true_eq]
    exact h1

/-- `δ = lz_pos - entry` is a candidate distance at position `p`: if it passes the distance test it points into
    the data, and once its first byte repeats its first `n` bytes do (`n = 2, 3`: what the hashes guarantee;
    `n = 1`: an entry of the chain) -/
def CandOk (d : Array UInt8) (dict p n δ : Nat) : Prop :=
  δ < dict + 1 → 1 ≤ δ ∧ δ ≤ p ∧ (byteAt d (p - δ) = byteAt d p → Eqs d p δ n)

theorem CandOk.valid {d : Array UInt8} {dict p n δ mll len : Nat} (h : CandOk d dict p n δ) (hlt : δ < dict + 1)
    (hb : byteAt d (p - δ) = byteAt d p) (hn : n ≤ mll) (hsz : p + mll ≤ d.size) (h2 : 2 ≤ len)
    (hle : len ≤ extendMatch d p δ mll n) : ValidMatch d dict p mll (len, δ - 1) := by
  obtain ⟨h1, hp, he⟩ := h hlt
  obtain ⟨_, s2, s3⟩ := extendMatch_spec d p δ mll n hn (he hb)
  refine ⟨h2, Nat.le_trans hle s2, ?_, ?_, ?_, ?_⟩
  · show p + len ≤ d.size; omega
  · show δ - 1 + 1 ≤ p; omega
  · show δ - 1 + 1 ≤ dict; omega
  · show Eqs d p (δ - 1 + 1) len
    rw [Nat.sub_add_cancel h1]
    exact fun i hi => s3 i (Nat.lt_of_lt_of_le hi hle)

/-- `lb` = `len_best` -/
structure AccOk (d : Array UInt8) (dict p mll lb : Nat) (acc : List Match) : Prop where
  valid : ∀ m ∈ acc, ValidMatch d dict p mll m ∧ m.1 ≤ lb
  decr : acc.Pairwise (fun a b => b.1 < a.1)

theorem AccOk.nil {d : Array UInt8} {dict p mll lb : Nat} : AccOk d dict p mll lb [] :=
  ⟨fun _ h => (nomatch h), List.Pairwise.nil⟩

theorem AccOk.mono {d : Array UInt8} {dict p mll lb lb' : Nat} {acc : List Match}
    (h : AccOk d dict p mll lb acc) (hle : lb ≤ lb') : AccOk d dict p mll lb' acc :=
  ⟨fun m hm => ⟨(h.1 m hm).1, Nat.le_trans (h.1 m hm).2 hle⟩, h.2⟩

theorem AccOk.push {d : Array UInt8} {dict p mll lb : Nat} {acc : List Match} (h : AccOk d dict p mll lb acc)
    {m : Match} (hv : ValidMatch d dict p mll m) (hlt : lb < m.1) : AccOk d dict p mll m.1 (m :: acc) := by
  refine ⟨fun m' hm' => ?_, List.pairwise_cons.mpr ⟨fun m' hm' => Nat.lt_of_le_of_lt (h.1 m' hm').2 hlt, h.2⟩⟩
  rcases List.mem_cons.mp hm' with rfl | hm'
  · exact ⟨hv, Nat.le_refl _⟩
  · exact ⟨(h.1 m' hm').1, Nat.le_trans (h.1 m' hm').2 (Nat.le_of_lt hlt)⟩

/-- decreasing lengths, all at least 2: there are fewer than `lb` matches -/
theorem AccOk.length_le {d : Array UInt8} {dict p mll : Nat} :
    ∀ {acc : List Match} {lb : Nat}, AccOk d dict p mll lb acc → acc.length ≤ lb - 1
  | [], _, _ => Nat.zero_le _
  | m :: r, lb, h => by
    have hm := h.valid m (List.mem_cons_self ..)
    have hr := List.pairwise_cons.mp h.decr
    have := AccOk.length_le (lb := m.1 - 1) ⟨fun m' hm' =>
      ⟨(h.valid m' (List.mem_cons_of_mem _ hm')).1, Nat.le_sub_one_of_lt (hr.1 m' hm')⟩, hr.2⟩
    have h2 : 2 ≤ m.1 := hm.1.1
    rw [List.length_cons]
    omega

theorem AccOk.reverse {d : Array UInt8} {dict p mll lb : Nat} {acc : List Match} (h : AccOk d dict p mll lb acc) :
    (∀ m ∈ acc.reverse, ValidMatch d dict p mll m) ∧ lensIncreasing acc.reverse = true :=
  ⟨fun m hm => (h.1 m (List.mem_reverse.mp hm)).1, lensIncreasing_of_pairwise _ (List.pairwise_reverse.mpr h.2)⟩

/-- the candidate `δ` passes the two tests of hc4.rs / bt4.rs: `delta < cyclic_size` (`cs`) and
    `get_byte(0, delta) == get_current_byte()` -/
def Hit (d : Array UInt8) (cs p δ : Nat) : Prop := δ < cs ∧ byteAt d (p - δ) = byteAt d p

instance (d : Array UInt8) (cs p δ : Nat) : Decidable (Hit d cs p δ) :=
  inferInstanceAs (Decidable (δ < cs ∧ byteAt d (p - δ) = byteAt d p))

theorem Hit.far {d : Array UInt8} {cs p δ : Nat} (h : cs ≤ δ) : ¬ Hit d cs p δ :=
  fun hh => Nat.not_le_of_lt hh.1 h

/-- what the stage leaves behind: the matches, in the order of `Matches`, and `len_best`
    (hc4.rs `find_matches` from `if delta2 < self.cyclic_size` to the `extend_match` of the last hit;
    bt4.rs:168-210) -/
def hashHits (d : Array UInt8) (cs p mll δ2 δ3 : Nat) : List Match × Nat :=
  if δ2 ≠ δ3 ∧ Hit d cs p δ3 then
    ((if Hit d cs p δ2 then [(2, δ2 - 1)] else []) ++ [(extendMatch d p δ3 mll 3, δ3 - 1)],
      extendMatch d p δ3 mll 3)
  else if Hit d cs p δ2 then ([(extendMatch d p δ2 mll 2, δ2 - 1)], extendMatch d p δ2 mll 2)
  else ([], 0)

theorem hashHits_ok {d : Array UInt8} {dict p mll δ2 δ3 : Nat} (h2 : CandOk d dict p 2 δ2)
    (h3 : CandOk d dict p 3 δ3) (hm : 3 ≤ mll) (hsz : p + mll ≤ d.size) :
    AccOk d dict p mll (hashHits d (dict + 1) p mll δ2 δ3).2 (hashHits d (dict + 1) p mll δ2 δ3).1.reverse ∧
    (hashHits d (dict + 1) p mll δ2 δ3).1.length ≤ 2 ∧
    ((hashHits d (dict + 1) p mll δ2 δ3).1 = [] → (hashHits d (dict + 1) p mll δ2 δ3).2 = 0) := by
  have e2 := extendMatch_ge d p δ2 mll 2
  have e3 := extendMatch_ge d p δ3 mll 3
  have nil : AccOk d dict p mll 0 [] := AccOk.nil
  have v3 : Hit d (dict + 1) p δ3 → ValidMatch d dict p mll (extendMatch d p δ3 mll 3, δ3 - 1) :=
    fun h => h3.valid h.1 h.2 hm hsz (by omega) (Nat.le_refl _)
  unfold hashHits
  split
  · rename_i h
    split
    · rename_i g
      -- the hash2 hit keeps length 2, the hash3 hit is extended
      refine ⟨?_, Nat.le_refl 2, fun h => nomatch h⟩
      exact (nil.push (h2.valid g.1 g.2 (by omega) hsz (Nat.le_refl 2) e2) (by omega)).push (v3 h.2)
        (by show 2 < _; omega)
    · exact ⟨nil.push (v3 h.2) (by omega), Nat.le_succ 1, fun h => nomatch h⟩
  · split
    · rename_i g
      exact ⟨nil.push (h2.valid g.1 g.2 (by omega) hsz e2 (Nat.le_refl _)) (by omega), Nat.le_succ 1,
        fun h => nomatch h⟩
    · exact ⟨nil, Nat.zero_le _, fun _ => rfl⟩

end LzmaVerif.Mf
