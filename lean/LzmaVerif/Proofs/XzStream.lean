import LzmaVerif.Proofs.XzParse
/-! The step of the crate's reader over one written block and over Index and footer; `Walks` turns such steps into
statements about whole written streams for any decoder that has them. -/
namespace LzmaVerif.Xz
open LzmaVerif Lzma Checks

/-- what the payload codec has to provide for one block -/
def PayloadOk (dict : Nat) (payload filtered : List Nat) : Prop :=
  ∀ (rest : List Nat) (cap : Nat), filtered.length ≤ cap →
    ∃ chunks, Lzma2.decode dict #[] (payload ++ rest) cap
      = .ok { out := filtered.toArray, consumed := payload.length, chunks := chunks }

/-- truncation property of the LZMA2 payload codec: no proper prefix of the block's LZMA2 stream is accepted, whatever
    the cap (`Proofs/TruncLzma2.lean` derives it from `PayloadOk`) -/
def PayloadTrunc (dict : Nat) (payload : List Nat) : Prop :=
  ∀ (i cap : Nat), i < payload.length → ∀ r, Lzma2.decode dict #[] (payload.take i) cap ≠ .ok r

theorem unfilter_map_readerFilter : ∀ (fs : List Filter) (d : List Nat),
    unfilter (fs.map readerFilter) d = unfilter fs d := by
  intro fs
  induction fs with
  | nil => intro d; rfl
  | cons f fs ih =>
    intro d
    cases f <;> simp [unfilter, readerFilter, ih]

theorem lzma2Dict_map_readerFilter (fs : List Filter) (hfs : FiltersOk fs) :
    lzma2Dict (fs.map readerFilter) = readerDict fs := by
  obtain ⟨pre, d, rfl, _, _, _⟩ := filtersOk_spec fs hfs
  unfold lzma2Dict
  rw [getLast?_map_readerFilter, readerDict_append]

theorem mem_dropLast_pre (fs : List Filter) (hfs : FiltersOk fs) (f : Filter)
    (hf : f ∈ (fs.map readerFilter).dropLast) : PreOk f := by
  obtain ⟨pre, d, rfl, _, hp, _⟩ := filtersOk_spec fs hfs
  rw [List.map_append, List.map_cons, List.map_nil, List.dropLast_concat, map_readerFilter_pre pre hp] at hf
  exact hp f hf

def hdrOf (fs : List Filter) : BlockHeader :=
  { filters := fs.map readerFilter, size := (blockHeaderBytes fs).length }

def blkOf (fs : List Filter) (b : List Nat × List Nat) : Block :=
  { header := hdrOf fs, data := b.2, payload := b.1 }

theorem decodeBlockBody_ok (c : Check) (fs : List Filter) (hfs : FiltersOk fs) (payload data rest : List Nat)
    (cb cap : Nat) (hcb : cb % 4 = 0)
    (hp : PayloadOk (readerDict fs) payload (applyFilters fs data))
    (hu : unfilter fs (applyFilters fs data) = data)
    (hl : (applyFilters fs data).length ≤ cap) :
    decodeBlockBody c (hdrOf fs) cb
        (payload ++ (List.replicate ((4 - payload.length % 4) % 4) 0 ++ (c.compute data ++ rest))) cap
      = .ok (blkOf fs (payload, data)) rest := by
  obtain ⟨chunks, hdec⟩ := hp (List.replicate ((4 - payload.length % 4) % 4) 0 ++ (c.compute data ++ rest)) cap hl
  unfold decodeBlockBody
  split
  · rename_i hany
    exfalso
    rw [List.any_eq_true] at hany
    obtain ⟨f, hf, hm⟩ := hany
    have := mem_dropLast_pre fs hfs f hf
    cases f <;> simp_all [PreOk]
  · simp only [hdrOf, lzma2Dict_map_readerFilter fs hfs, hdec,
      List.drop_left, List.take_left, unfilter_map_readerFilter, hu]
    have hm : (4 - (cb + payload.length) % 4) % 4 = (4 - payload.length % 4) % 4 := by omega
    rw [hm, takeN_append _ _ _ (List.length_replicate ..)]
    simp only [replicate0_any, Bool.false_eq_true, if_false]
    rw [takeN_append _ _ _ (compute_length c data)]
    simp only [ne_eq, not_true_eq_false, if_false, declaredMismatch, Bool.false_eq_true, blkOf, hdrOf]

theorem decodeBlockBody_cb (chk : Check) (h : BlockHeader) (cb cb' : Nat) (inp : List Nat) (cap : Nat)
    (hm : cb % 4 = cb' % 4) : decodeBlockBody chk h cb inp cap = decodeBlockBody chk h cb' inp cap := by
  have e : ∀ x, (4 - (cb + x) % 4) % 4 = (4 - (cb' + x) % 4) % 4 := by intro x; omega
  unfold decodeBlockBody
  simp only [e]

def BlockOk (fs : List Filter) (b : List Nat × List Nat) : Prop :=
  PayloadOk (readerDict fs) b.1 (applyFilters fs b.2) ∧ unfilter fs (applyFilters fs b.2) = b.2 ∧
  (applyFilters fs b.2).length ≤ b.2.length

theorem blockBytes_fst (c : Check) (fs : List Filter) (p d : List Nat) :
    (blockBytes c fs p d).1 = blockHeaderBytes fs ++ (p ++ (List.replicate ((4 - p.length % 4) % 4) 0 ++ c.compute d)) := by
  simp [blockBytes]

theorem blockBytes_snd (c : Check) (fs : List Filter) (p d : List Nat) :
    (blockBytes c fs p d).2 = ((blockHeaderBytes fs).length + p.length + c.size, d.length) := rfl

theorem blockBytes_mod4 (c : Check) (fs : List Filter) (p d : List Nat) :
    (blockBytes c fs p d).1.length % 4 = 0 := by
  rw [blockBytes_fst]
  simp only [List.length_append, List.length_replicate, compute_length]
  have := blockHeaderBytes_mod4 fs
  have := size_mod4 c
  omega

theorem blockBytes_pos (c : Check) (fs : List Filter) (p d : List Nat) :
    1 ≤ (blockBytes c fs p d).1.length := by
  rw [blockBytes_fst]
  simp only [List.length_append]
  have := blockHeaderBytes_pos fs
  omega

/-- `inp` is what is left of a file of `total` bytes, at a position that is a multiple of four (the crate's reader pads
a block relative to the start of the file) -/
def Aligned (total : Nat) (inp : List Nat) : Prop := inp.length ≤ total ∧ (total - inp.length) % 4 = 0

theorem Aligned.tail {total : Nat} {x r : List Nat} (h : Aligned total (x ++ r)) (hx : x.length % 4 = 0) :
    Aligned total r := by
  obtain ⟨h1, h2⟩ := h
  rw [List.length_append] at h1 h2
  exact ⟨by omega, by omega⟩

theorem Aligned.add_left {n : Nat} (hn : n % 4 = 0) (inp : List Nat) : Aligned (n + inp.length) inp :=
  ⟨Nat.le_add_left _ _, by omega⟩

theorem readBlocks_block (multi : Bool) (c : Check) (fs : List Filter) (hfs : FiltersOk fs)
    (b : List Nat × List Nat) (hb : BlockOk fs b) (tail acc : List Nat) (blks : List Block) (total fuel cap : Nat)
    (hal : Aligned total ((blockBytes c fs b.1 b.2).1 ++ tail)) (hcap : acc.length + b.2.length ≤ cap) :
    readBlocks multi total (fuel + 1) c ((blockBytes c fs b.1 b.2).1 ++ tail) acc blks cap
      = readBlocks multi total fuel c tail (acc ++ b.2) (blkOf fs b :: blks) cap := by
  obtain ⟨h1, h2, h3⟩ := hb
  rw [blockBytes_fst] at hal ⊢
  rw [List.append_assoc] at hal ⊢
  have hcb := (hal.tail (blockHeaderBytes_mod4 fs)).2
  rw [List.append_assoc, List.append_assoc] at hcb ⊢
  rw [readBlocks, show parseBlockHeader _ = .ok (some (hdrOf fs), _) from parseBlockHeader_ok fs hfs _]
  simp only []
  rw [decodeBlockBody_ok c fs hfs b.1 b.2 tail _ cap hcb h1 h2 (by omega)]
  simp only []
  rw [if_neg (by simp only [blkOf]; omega)]
  rfl

def blocksBytes (c : Check) (fs : List Filter) (blocks : List (List Nat × List Nat)) : List Nat :=
  ((blocks.map fun b => blockBytes c fs b.1 b.2).map (·.1)).flatten

def blocksData (blocks : List (List Nat × List Nat)) : List Nat := (blocks.map (·.2)).flatten

theorem blocksBytes_cons (c : Check) (fs : List Filter) (b : List Nat × List Nat) (blocks : List (List Nat × List Nat)) :
    blocksBytes c fs (b :: blocks) = (blockBytes c fs b.1 b.2).1 ++ blocksBytes c fs blocks := by
  simp [blocksBytes]

theorem blocksBytes_mod4 (c : Check) (fs : List Filter) (blocks : List (List Nat × List Nat)) :
    (blocksBytes c fs blocks).length % 4 = 0 ∧ blocks.length ≤ (blocksBytes c fs blocks).length := by
  induction blocks with
  | nil => simp [blocksBytes]
  | cons b blocks ih =>
    rw [blocksBytes_cons, List.length_append, List.length_cons]
    have := blockBytes_mod4 c fs b.1 b.2
    have := blockBytes_pos c fs b.1 b.2
    omega

theorem indexBytes_cons (recs : List (Nat × Nat)) : indexBytes recs = 0 :: (indexBytes recs).tail := by
  rw [indexBytes_eq]; rfl

theorem parseBlockHeader_zero (x : List Nat) : parseBlockHeader (0 :: x) = .ok (none, x) := by
  simp [parseBlockHeader, pure, Except.pure]

def afterStream (multi : Bool) (total fuel : Nat) (rest acc : List Nat) (blks : List Block) (cap : Nat) : Out :=
  if ¬ multi then .ok acc (total - rest.length) blks else
  match nextStream (rest.length + 1) rest 0 with
  | .error e => .err e
  | .ok none => .ok acc total blks
  | .ok (some (chk', rest')) => readBlocks multi total fuel chk' rest' acc [] cap

def recsOf (c : Check) (fs : List Filter) (blocks : List (List Nat × List Nat)) : List (Nat × Nat) :=
  (blocks.map fun b => blockBytes c fs b.1 b.2).map (·.2)

theorem recsOf_cons (c : Check) (fs : List Filter) (b : List Nat × List Nat) (blocks : List (List Nat × List Nat)) :
    recsOf c fs (b :: blocks) = (blockBytes c fs b.1 b.2).2 :: recsOf c fs blocks := rfl

theorem blockRecords_blkOf (c : Check) (fs : List Filter) (blocks : List (List Nat × List Nat)) :
    (((blocks.map (blkOf fs)).reverse).map (blockRecord c)).reverse = recsOf c fs blocks := by
  rw [List.map_reverse, List.reverse_reverse]
  simp only [recsOf, List.map_map]
  apply List.map_congr_left
  intro b _
  rfl

def streamBody (c : Check) (fs : List Filter) (blocks : List (List Nat × List Nat)) : List Nat :=
  blocksBytes c fs blocks ++ (indexBytes (recsOf c fs blocks) ++ footerBytes c (indexBytes (recsOf c fs blocks)).length)

theorem streamBytes_eq (c : Check) (fs : List Filter) (blocks : List (List Nat × List Nat)) :
    streamBytes c fs blocks = streamHeaderBytes c ++ streamBody c fs blocks := by
  simp [streamBytes, streamBody, blocksBytes, recsOf]

/-- a written stream whose Index holds the records `rs` (serialised by `indexBytes`, CRC recomputed) and whose
footer announces an Index of `n` bytes (CRC recomputed) -/
def forgedStream (c : Check) (fs : List Filter) (blocks : List (List Nat × List Nat)) (rs : List (Nat × Nat))
    (n : Nat) : List Nat :=
  streamHeaderBytes c ++ (blocksBytes c fs blocks ++ (indexBytes rs ++ (footerBytes c n ++ [])))

theorem forgedStream_self (c : Check) (fs : List Filter) (blocks : List (List Nat × List Nat)) :
    forgedStream c fs blocks (recsOf c fs blocks) (indexBytes (recsOf c fs blocks)).length = streamBytes c fs blocks := by
  simp [forgedStream, streamBytes_eq, streamBody]

/-- the sizes fit the 63-bit integers of the XZ index (the writer model emits nothing for larger values) -/
def SizesOk63 (c : Check) (fs : List Filter) (blocks : List (List Nat × List Nat)) : Prop :=
  blocks.length < 2 ^ 63 ∧
  ∀ b ∈ blocks, (blockHeaderBytes fs).length + b.1.length + c.size < 2 ^ 63 ∧ b.2.length < 2 ^ 63

/-- the Index is at most 2^34 bytes long, so that `size / 4 - 1` fits the 32-bit Backward Size field of the footer
(`write_stream_footer` truncates with `as u32`; the reader compares the field with the size of the index) -/
def IndexFits (c : Check) (fs : List Filter) (blocks : List (List Nat × List Nat)) : Prop :=
  (indexBytes (recsOf c fs blocks)).length ≤ 2 ^ 34

def SizesOk (c : Check) (fs : List Filter) (blocks : List (List Nat × List Nat)) : Prop :=
  SizesOk63 c fs blocks ∧ IndexFits c fs blocks

theorem sizesOk63_small (c : Check) (fs : List Filter) (hfs : FiltersOk fs) (blocks : List (List Nat × List Nat))
    (hn : blocks.length < 2 ^ 63) (h : ∀ b ∈ blocks, b.1.length < 2 ^ 62 ∧ b.2.length < 2 ^ 63) :
    SizesOk63 c fs blocks := by
  have hc : c.size ≤ 32 := by cases c <;> decide
  have := blockHeaderBytes_le fs hfs
  refine ⟨hn, fun b hb => ?_⟩
  have := h b hb
  omega

theorem recsOf_ok (c : Check) (fs : List Filter) (blocks : List (List Nat × List Nat)) (h : SizesOk63 c fs blocks) :
    (recsOf c fs blocks).length = blocks.length ∧ ∀ x ∈ recsOf c fs blocks, RecOk x := by
  refine ⟨by simp [recsOf], ?_⟩
  intro x hx
  simp only [recsOf, List.map_map, List.mem_map, Function.comp] at hx
  obtain ⟨b, hb, rfl⟩ := hx
  obtain ⟨h1, h2⟩ := h.2 b hb
  have := blockHeaderBytes_pos fs
  rw [blockBytes_snd]
  exact ⟨by simp only; omega, h1, h2⟩

theorem streamBody_length (c : Check) (fs : List Filter) (blocks : List (List Nat × List Nat)) :
    (streamBody c fs blocks).length % 4 = 0 ∧ blocks.length + 1 ≤ (streamBody c fs blocks).length := by
  simp only [streamBody, List.length_append, footerBytes_length]
  have := blocksBytes_mod4 c fs blocks
  have := indexBytes_mod4 (recsOf c fs blocks)
  omega

theorem indexBytes_len_ge (rs : List (Nat × Nat)) : 4 ≤ (indexBytes rs).length := by
  rw [indexBytes_eq]
  simp only [List.length_cons, List.length_append, le_length]
  omega

/-- the written footer announces the right Index size exactly when the Index is at most 2^34 bytes -/
theorem backward_size_iff (n : Nat) (h4 : n % 4 = 0) (hge : 4 ≤ n) :
    (ofLe (le 4 (n / 4 - 1)) + 1) * 4 = n ↔ n ≤ 2 ^ 34 := by
  constructor
  · intro h
    have := ofLe_lt (le 4 (n / 4 - 1)) (le_bytes _ _)
    rw [le_length] at this
    omega
  · intro hle
    have : n / 4 - 1 < 256 ^ 4 := by omega
    rw [ofLe_le 4 _ this]
    omega

/-! The crate's reader and the strict decoder of `Model/XzStrict.lean` are loops of the same shape.  `Walks` records three
facts about such a decoder: how it enters its loop after the stream header (`decode`), how the loop steps over one
written block (`block`) and over an Index with its footer (`index`); what it does with whole streams, and with files of
several streams (`Proofs/XzMulti.lean`), follows from these three alone. -/

/-- a block loop: length of the file, fuel, check, input, output so far, blocks of the stream so far, cap -/
abbrev Loop := Nat → Nat → Check → List Nat → List Nat → List Block → Nat → Out

/-- `D` is a decoder with block loop `R`; after a footer it goes on with `A` (length of the file, fuel, input, output so
far, blocks of the stream, cap); it accepts an Index with records `rs` that occupies `k` bytes only if `lim rs k`. -/
structure Walks (lim : List (Nat × Nat) → Nat → Bool) (R : Loop)
    (A : Nat → Nat → List Nat → List Nat → List Block → Nat → Out) (D : List Nat → Nat → Out) : Prop where
  decode : ∀ (inp : List Nat) (cap : Nat), D inp cap =
    match parseStreamHeader inp with
    | .error e => .err e
    | .ok (chk, rest) => R inp.length (inp.length + 2) chk rest [] [] cap
  block : ∀ (c : Check) (fs : List Filter), FiltersOk fs → ∀ (b : List Nat × List Nat), BlockOk fs b →
    ∀ (tail acc : List Nat) (blks : List Block) (total fuel cap : Nat),
    Aligned total ((blockBytes c fs b.1 b.2).1 ++ tail) → acc.length + b.2.length ≤ cap →
    R total (fuel + 1) c ((blockBytes c fs b.1 b.2).1 ++ tail) acc blks cap
      = R total fuel c tail (acc ++ b.2) (blkOf fs b :: blks) cap
  index : ∀ (c : Check) (rs : List (Nat × Nat)), rs.length < 2 ^ 63 → (∀ x ∈ rs, RecOk x) →
    ∀ (n : Nat) (rest acc : List Nat) (blks : List Block) (total fuel cap : Nat),
    R total (fuel + 1) c (indexBytes rs ++ (footerBytes c n ++ rest)) acc blks cap
      = if rs ≠ (blks.map (blockRecord c)).reverse then .err .invalidData
        else if ¬ lim rs (indexBytes rs).length = true then .err .invalidData
        else if (ofLe (le 4 (n / 4 - 1)) + 1) * 4 ≠ (indexBytes rs).length then .err .invalidData
        else A total fuel rest acc blks cap

section
variable {lim : List (Nat × Nat) → Nat → Bool} {R : Loop}
  {A : Nat → Nat → List Nat → List Nat → List Block → Nat → Out} {D : List Nat → Nat → Out} (w : Walks lim R A D)
include w

theorem Walks.blocks (c : Check) (fs : List Filter) (hfs : FiltersOk fs) (total cap : Nat) :
    ∀ (blocks : List (List Nat × List Nat)), (∀ b ∈ blocks, BlockOk fs b) →
    ∀ (tail acc : List Nat) (blks : List Block) (fuel : Nat),
    Aligned total (blocksBytes c fs blocks ++ tail) → acc.length + (blocksData blocks).length ≤ cap →
    R total (fuel + blocks.length) c (blocksBytes c fs blocks ++ tail) acc blks cap
      = R total fuel c tail (acc ++ blocksData blocks) ((blocks.map (blkOf fs)).reverse ++ blks) cap := by
  intro blocks
  induction blocks with
  | nil => intro _ tail acc blks fuel _ _; simp [blocksBytes, blocksData]
  | cons b blocks ih =>
    intro hb tail acc blks fuel hal hcap
    rw [blocksBytes_cons, List.append_assoc] at hal ⊢
    simp only [blocksData, List.map_cons, List.flatten_cons, List.length_append] at hcap
    rw [List.length_cons, ← Nat.add_assoc,
      w.block c fs hfs b (hb b List.mem_cons_self) _ acc blks total _ cap hal (by omega),
      ih (fun x hx => hb x (List.mem_cons_of_mem _ hx)) tail (acc ++ b.2) _ fuel (hal.tail (blockBytes_mod4 c fs b.1 b.2))
        (by simp only [blocksData, List.length_append]; omega)]
    simp [blocksData]

theorem Walks.forged (c : Check) (fs : List Filter) (hfs : FiltersOk fs) (blocks : List (List Nat × List Nat))
    (hb : ∀ b ∈ blocks, BlockOk fs b) (rs : List (Nat × Nat)) (hn : rs.length < 2 ^ 63) (hrs : ∀ x ∈ rs, RecOk x)
    (n : Nat) (rest acc : List Nat) (total fuel cap : Nat)
    (hal : Aligned total (blocksBytes c fs blocks ++ (indexBytes rs ++ (footerBytes c n ++ rest))))
    (hfuel : blocks.length + 1 ≤ fuel) (hcap : acc.length + (blocksData blocks).length ≤ cap) :
    R total fuel c (blocksBytes c fs blocks ++ (indexBytes rs ++ (footerBytes c n ++ rest))) acc [] cap
      = if rs ≠ recsOf c fs blocks then .err .invalidData
        else if ¬ lim rs (indexBytes rs).length = true then .err .invalidData
        else if (ofLe (le 4 (n / 4 - 1)) + 1) * 4 ≠ (indexBytes rs).length then .err .invalidData
        else A total (fuel - blocks.length - 1) rest (acc ++ blocksData blocks) (blocks.map (blkOf fs)).reverse cap := by
  obtain ⟨f, rfl⟩ : ∃ f, fuel = f + 1 + blocks.length := ⟨fuel - 1 - blocks.length, by omega⟩
  rw [w.blocks c fs hfs total cap blocks hb _ acc [] (f + 1) hal hcap, List.append_nil,
    w.index c rs hn hrs n rest _ _ total f cap, blockRecords_blkOf,
    show f + 1 + blocks.length - blocks.length - 1 = f by omega]

theorem Walks.stream (c : Check) (fs : List Filter) (hfs : FiltersOk fs) (blocks : List (List Nat × List Nat))
    (hb : ∀ b ∈ blocks, BlockOk fs b) (hsz : SizesOk63 c fs blocks) (rest acc : List Nat) (total fuel cap : Nat)
    (hal : Aligned total (streamBody c fs blocks ++ rest)) (hfuel : blocks.length + 1 ≤ fuel) (hcap : acc.length + (blocksData blocks).length ≤ cap) :
    R total fuel c (streamBody c fs blocks ++ rest) acc [] cap
      = if lim (recsOf c fs blocks) (indexBytes (recsOf c fs blocks)).length = true ∧
            (indexBytes (recsOf c fs blocks)).length ≤ 2 ^ 34 then
          A total (fuel - blocks.length - 1) rest (acc ++ blocksData blocks) (blocks.map (blkOf fs)).reverse cap
        else .err .invalidData := by
  obtain ⟨r1, r2⟩ := recsOf_ok c fs blocks hsz
  unfold streamBody at hal ⊢
  rw [List.append_assoc, List.append_assoc] at hal ⊢
  rw [w.forged c fs hfs blocks hb _ (by rw [r1]; exact hsz.1) r2 _ rest acc total fuel cap hal hfuel hcap,
    if_neg (not_not_intro rfl)]
  simp only [ne_eq, backward_size_iff _ (indexBytes_mod4 (recsOf c fs blocks)) (indexBytes_len_ge _), ite_not, ite_and]

theorem Walks.decode_header (c : Check) (body : List Nat) (cap : Nat) :
    D (streamHeaderBytes c ++ body) cap = R (12 + body.length) (12 + body.length + 2) c body [] [] cap := by
  rw [w.decode, parseStreamHeader_ok, List.length_append, streamHeaderBytes_length]

theorem Walks.decode_forged (c : Check) (fs : List Filter) (hfs : FiltersOk fs) (blocks : List (List Nat × List Nat))
    (hb : ∀ b ∈ blocks, BlockOk fs b) (rs : List (Nat × Nat)) (hn : rs.length < 2 ^ 63) (hrs : ∀ x ∈ rs, RecOk x)
    (n : Nat) (rest : List Nat) (cap : Nat) (hcap : (blocksData blocks).length ≤ cap) :
    D (forgedStream c fs blocks rs n ++ rest) cap
      = if rs ≠ recsOf c fs blocks then .err .invalidData
        else if ¬ lim rs (indexBytes rs).length = true then .err .invalidData
        else if (ofLe (le 4 (n / 4 - 1)) + 1) * 4 ≠ (indexBytes rs).length then .err .invalidData
        else A (forgedStream c fs blocks rs n ++ rest).length
          ((forgedStream c fs blocks rs n ++ rest).length + 2 - blocks.length - 1) rest (blocksData blocks)
          (blocks.map (blkOf fs)).reverse cap := by
  have hbb := blocksBytes_mod4 c fs blocks
  simp only [forgedStream, List.append_assoc, List.nil_append]
  rw [w.decode_header, List.length_append (as := streamHeaderBytes c), streamHeaderBytes_length,
    w.forged c fs hfs blocks hb rs hn hrs n rest [] _ _ cap (Aligned.add_left (by decide) _)
      (by rw [List.length_append]; omega) (by simpa using hcap), List.nil_append]

theorem Walks.decode_stream (c : Check) (fs : List Filter) (hfs : FiltersOk fs) (blocks : List (List Nat × List Nat))
    (hb : ∀ b ∈ blocks, BlockOk fs b) (hsz : SizesOk63 c fs blocks) (rest : List Nat) (cap : Nat)
    (hcap : (blocksData blocks).length ≤ cap) :
    D (streamBytes c fs blocks ++ rest) cap
      = if lim (recsOf c fs blocks) (indexBytes (recsOf c fs blocks)).length = true ∧
            (indexBytes (recsOf c fs blocks)).length ≤ 2 ^ 34 then
          A (streamBytes c fs blocks ++ rest).length ((streamBytes c fs blocks ++ rest).length + 2 - blocks.length - 1)
            rest (blocksData blocks) (blocks.map (blkOf fs)).reverse cap
        else .err .invalidData := by
  have hl := streamBody_length c fs blocks
  rw [streamBytes_eq, List.append_assoc, w.decode_header, List.length_append (as := streamHeaderBytes c),
    streamHeaderBytes_length,
    w.stream c fs hfs blocks hb hsz rest [] _ _ cap (Aligned.add_left (by decide) _) (by rw [List.length_append]; omega)
      (by simpa using hcap), List.nil_append]

end

theorem readBlocks_walks (multi : Bool) :
    Walks (fun _ _ => true) (readBlocks multi) (afterStream multi) (Xz.decode multi) where
  decode := fun _ _ => rfl
  block := readBlocks_block multi
  index := by
    -- the reader compares the records with the blocks it decoded and the backward size with the size of the index
    intro c rs hn hrs n rest acc blks total fuel cap
    conv => lhs; unfold readBlocks
    rw [indexBytes_cons, List.cons_append, parseBlockHeader_zero]
    simp only []
    rw [parseIndex_ok rs hn hrs]
    simp only [not_true_eq_false, if_false]
    by_cases hr : rs = (blks.map (blockRecord c)).reverse
    · have hlen : rs.length = blks.length := by rw [hr]; simp
      simp only [hlen, ne_eq, not_true_eq_false, if_false]
      rw [if_neg (not_not_intro hr), if_neg (not_not_intro hr)]
      rw [parseFooter_ok]
      simp only []
      rw [← indexBytes_cons]
      split
      · rfl
      · simp only [not_true_eq_false, if_false]
        rfl
    · rw [if_pos hr]
      split
      · rfl
      · rfl

/-- at most 2^29 blocks: the Index fits (a record takes at most 18 bytes) -/
theorem indexFits_of_blocks (c : Check) (fs : List Filter) (blocks : List (List Nat × List Nat))
    (hsz : SizesOk63 c fs blocks) (hn : blocks.length ≤ 2 ^ 29) : IndexFits c fs blocks := by
  obtain ⟨r1, r2⟩ := recsOf_ok c fs blocks hsz
  obtain ⟨_, n2, _, _⟩ := mb_spec (recsOf c fs blocks).length (by rw [r1]; exact hsz.1)
  have := (recBytes_spec _ r2).2.1
  unfold IndexFits
  rw [indexBytes_eq]
  simp only [List.length_cons, List.length_append, List.length_replicate, le_length]
  omega

theorem sizesOk_of_blocks (c : Check) (fs : List Filter) (blocks : List (List Nat × List Nat))
    (hsz : SizesOk63 c fs blocks) (hn : blocks.length ≤ 2 ^ 29) : SizesOk c fs blocks :=
  ⟨hsz, indexFits_of_blocks c fs blocks hsz hn⟩

theorem sizesOk_nil (c : Check) (fs : List Filter) : SizesOk c fs [] :=
  sizesOk_of_blocks c fs [] ⟨by decide, by intro b hb; cases hb⟩ (by decide)

end LzmaVerif.Xz
