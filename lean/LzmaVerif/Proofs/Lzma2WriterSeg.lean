/-
  LZMA2 writer model (`Model/Lzma2Writer.lean`), one encoder instance ("segment"): its events are valid (`EvsOk`) and
  denote exactly the bytes of the segment.  A compressed chunk keeps coder state, tables and read-ahead; a stored chunk
  resets the state and stores the read-ahead byte too.  Histories are `histOf d p` (`Proofs/EncFastBase.lean`).
-/
import LzmaVerif.Proofs.Lzma2WriterRc
import LzmaVerif.Proofs.EncFastLoop

namespace LzmaVerif.Lzma2W
open LzmaVerif Mf Lzma Prog Rc EncFast
open LzmaVerif.Mf.Hc4 (Eqs)

theorem ctxAt_eq (d : Array UInt8) (p : Nat) (c : Coder) : ctxAt d p c = ctxOf c (histOf d p) := by
  unfold ctxAt ctxOf
  rw [histOf_back, histOf_back, histOf_size]
  rfl

theorem sliceNat_length (d : Array UInt8) (a n : Nat) : (sliceNat d a n).length = n := by
  unfold sliceNat
  rw [List.length_map, List.length_range]

theorem sliceNat_append (d : Array UInt8) (a k m : Nat) :
    sliceNat d a (k + m) = sliceNat d a k ++ sliceNat d (a + k) m := by
  unfold sliceNat
  rw [List.range_add, List.map_append, List.map_map]
  congr 1
  apply List.map_congr_left
  intro i _
  show byteAt d (a + (k + i)) = byteAt d (a + k + i)
  rw [Nat.add_assoc]

theorem sliceNat_split (d : Array UInt8) (a k n : Nat) (h : a + k ≤ n) :
    sliceNat d a (n - a) = sliceNat d a k ++ sliceNat d (a + k) (n - (a + k)) := by
  rw [← sliceNat_append, Nat.sub_add_eq, Nat.add_sub_of_le (Nat.le_sub_of_add_le' h)]

theorem sliceNat_zero (d : Array UInt8) (a : Nat) : sliceNat d a 0 = [] := rfl

theorem sliceNat_succ (d : Array UInt8) (a n : Nat) :
    sliceNat d a (n + 1) = byteAt d a :: sliceNat d (a + 1) n := by
  rw [Nat.add_comm n 1, sliceNat_append]
  rfl

theorem pushAll_slice (d : Array UInt8) :
    ∀ (n a : Nat), Lzma2.pushAll (histOf d a) (sliceNat d a n) = histOf d (a + n)
  | 0, _ => rfl
  | n + 1, a => by
    rw [sliceNat_succ, Lzma2.pushAll, ← histOf_succ, Nat.add_comm n 1, ← Nat.add_assoc]
    exact pushAll_slice d n (a + 1)

theorem extract_slice (d : Array UInt8) (a n : Nat) :
    ((histOf d (a + n)).extract a (a + n)).toList = sliceNat d a n := by
  apply List.ext_getElem
  · rw [Array.length_toList, Array.size_extract, sliceNat_length, histOf_size, Nat.min_self, Nat.add_sub_cancel_left]
  · intro i _ h2
    rw [sliceNat_length] at h2
    have := histOf_getD d (Nat.add_lt_add_left h2 a)
    rw [Array.getD_eq_getD_getElem?, Array.getElem?_eq_getElem (by rw [histOf_size]; omega)] at this
    simp only [Array.getElem_toList, Array.getElem_extract, sliceNat, List.getElem_map, List.getElem_range]
    exact this

/-- Validity of an event list as seen from the writer's side: `fresh` = the next LZMA chunk starts from the
    initial coder state and fresh tables (a state reset or new properties are announced), `c` / `ps` = the state
    the previous LZMA chunk left, `h` = the history, `data` = what the events denote. -/
def EvsOk (pr : Params) (dictBuf : Nat) : List Ev → Bool → Coder → Probs → Hist → List Nat → Prop
  | [], _, _, _, _, data => data = []
  | .lzma unc parse body :: rest, fresh, c, ps, h, data =>
    ∃ (c' : Coder) (h' : Hist) (data' : List Nat),
      parseRun dictBuf parse (if fresh then Coder.init else c) h = some (c', h') ∧
      h'.size = h.size + unc ∧ 1 ≤ unc ∧ unc ≤ 2 ^ 21 ∧
      body = (encFold pr parse (if fresh then Coder.init else c) h
                (if fresh then Lzma2.freshProbs pr else ps) Enc.init).2.bytes ∧
      body.length ≤ 65536 ∧
      data = (h'.extract h.size h'.size).toList ++ data' ∧
      EvsOk pr dictBuf rest false c'
        (encFold pr parse (if fresh then Coder.init else c) h
          (if fresh then Lzma2.freshProbs pr else ps) Enc.init).1 h' data'
  | .stored raw :: rest, _, c, ps, h, data =>
    ∃ data' : List Nat, 1 ≤ raw.length ∧ data = raw ++ data' ∧
      EvsOk pr dictBuf rest true c ps (Lzma2.pushAll h raw) data'
  | .restart :: _, _, _, _, _, _ => False

section Seg
variable {σ : Type} {F : Finder σ} {d : Array UInt8} {dict : Nat}

/-- the search side agrees with the data at position `p`: the finder stands `ra` bytes ahead, the matches read ahead are
    valid at `p` -/
structure Search (FS : FinderSound F d dict 273) (p : Nat) (c : Coder) (mf : σ) (ms : List Match) (ra : Nat) :
    Prop where
  ple : p + ra ≤ d.size
  ra0 : p = 0 → ra = 0
  repsP : RepsLt c (max p 1)
  repsD : RepsLt c dict
  mfR : FS.R mf
  mfPos : FS.pos mf = p + ra
  raOk : ra = 0 ∨ (ra = 1 ∧ ∀ m ∈ ms, ValidMatch d dict p (min 273 (d.size - p)) m)

/-- a fresh coder (`LZMAEncoder::new` / `reset`) with nothing read ahead -/
theorem Search.init {FS : FinderSound F d dict 273} {p : Nat} {mf : σ} (hd1 : 1 ≤ dict)
    (hp : p ≤ d.size) (hR : FS.R mf) (hpos : FS.pos mf = p) (ms : List Match) :
    Search FS p Coder.init mf ms 0 :=
  have hr (m : Nat) (hm : 1 ≤ m) : RepsLt Coder.init m := ⟨hm, hm, hm, hm⟩
  ⟨hp, fun _ => rfl, hr _ (Nat.le_max_right p 1), hr _ hd1, hR, hpos, Or.inl rfl⟩

def StepFacts (FS : FinderSound F d dict 273) (dictBuf p : Nat) (c : Coder) (st : Step σ) : Prop :=
  1 ≤ st.len ∧ st.len ≤ 273 ∧
    (∀ rest, parseRun dictBuf (st.sym :: rest) c (histOf d p) =
      parseRun dictBuf rest (c.apply st.sym) (histOf d (p + st.len))) ∧
    Search FS (p + st.len) (c.apply st.sym) st.mf st.ms st.ra

theorem stepFacts_of_stepOk (FS : FinderSound F d dict 273) (dictBuf p : Nat) (c : Coder) (st : Step σ)
    (hdb : min dict d.size ≤ dictBuf) (h32 : dict ≤ 2 ^ 32)
    (hs : StepOk FS p c st) (hrp : RepsLt c p) (hrd : RepsLt c dict) :
    StepFacts FS dictBuf p c st := by
  obtain ⟨hl1, hlle, hsym, hmR, hmPos, hmRa⟩ := hs
  have hple : p + st.len + st.ra ≤ d.size := by
    rcases hmRa with h0 | ⟨h1, hlen, h3, _⟩
    · rw [h0]
      exact hlle
    · rw [h1, hlen]
      exact Nat.le_of_succ_le h3
  have h273 : st.len ≤ 273 := by
    rcases hsym with ⟨_, hlen⟩ | ⟨i, _, hok⟩ | ⟨dist, _, hv⟩
    · rw [hlen]
      decide
    · exact Nat.le_trans hok.2.2.1 (Nat.min_le_right _ _)
    · exact Nat.le_trans hv.2.1 (Nat.min_le_left _ _)
  obtain ⟨hrun, hrp', hrd'⟩ :=
    sym_run dictBuf hdb h32 st.sym st.len p c (Nat.le_trans (Nat.le_add_right _ _) hlle) (hsym.imp_right Or.inr)
      hrp hrd
  exact ⟨hl1, h273, hrun, hple, fun h0 => by omega, hrp'.mono (Nat.le_max_left _ 1), hrd', hmR, hmPos,
    hmRa.imp_right fun h => ⟨h.1, h.2.2.2⟩⟩

/-- Invariant of the encoder inside a chunk that started at position `p0` with coder state `c0` and tables `ps0`.  The
    parse so far is kept in the form that takes a further symbol at the end; `2^21` is
    `LZMA2_UNCOMPRESSED_LIMIT + MATCH_LEN_MAX`. -/
def SInv (FS : FinderSound F d dict 273) (pr : Params) (dictBuf : Nat) (c0 : Coder) (p0 : Nat) (ps0 : Probs)
    (s : EncSt σ) : Prop :=
  (∀ rest, parseRun dictBuf (s.syms.reverse ++ rest) c0 (histOf d p0) = parseRun dictBuf rest s.c (histOf d s.p)) ∧
    Search FS s.p s.c s.mf s.ms s.ra ∧
    p0 + s.unc = s.p ∧ (s.probs, s.rc) = encFold pr s.syms.reverse c0 (histOf d p0) ps0 Enc.init ∧
    s.outLen = s.rc.out.length ∧ s.unc ≤ 2 ^ 21

structure Start (FS : FinderSound F d dict 273) (s : EncSt σ) : Prop where
  search : Search FS s.p s.c s.mf s.ms s.ra
  unc : s.unc = 0
  syms : s.syms = []
  rc : s.rc = Enc.init
  outLen : s.outLen = 0

theorem Start.inv {FS : FinderSound F d dict 273} {s : EncSt σ} (hst : Start FS s) (pr : Params)
    (dictBuf : Nat) : SInv FS pr dictBuf s.c s.p s.probs s := by
  obtain ⟨hS, hu, hsy, hrc, hol⟩ := hst
  unfold SInv
  rw [hu, hsy, hrc, hol]
  exact ⟨fun _ => rfl, hS, rfl, rfl, rfl, Nat.zero_le _⟩

/-- `write_chunk` leaves a chunk boundary (`Start`), and its event in front of valid events for the rest is valid from
    the chunk's start. -/
theorem writeChunk_ok (FS : FinderSound F d dict 273) (pr : Params) (dictBuf : Nat) (hd1 : 1 ≤ dict)
    {c0 : Coder} {p0 : Nat} {ps0 : Probs} {s s' : EncSt σ} {ev : Ev}
    (hinv : SInv FS pr dictBuf c0 p0 ps0 s) (hu1 : 1 ≤ s.unc)
    (hw : writeChunk pr d s = some (s', ev)) (fresh : Bool) (c : Coder) (ps : Probs)
    (hc : c0 = if fresh then Coder.init else c) (hps : ps0 = if fresh then Lzma2.freshProbs pr else ps) :
    ∃ (fresh' : Bool) (c' : Coder) (ps' : Probs), Start FS s' ∧
      s'.c = (if fresh' then Coder.init else c') ∧ s'.probs = (if fresh' then Lzma2.freshProbs pr else ps') ∧
      ∀ rest, EvsOk pr dictBuf rest fresh' c' ps' (histOf d s'.p) (sliceNat d s'.p (d.size - s'.p)) →
        EvsOk pr dictBuf (ev :: rest) fresh c ps (histOf d p0) (sliceNat d p0 (d.size - p0)) := by
  obtain ⟨hpr, hS, hsz, hpe, _, hu⟩ := hinv
  have hple := hS.ple
  unfold writeChunk at hw
  simp only at hw
  split at hw
  · cases hw
  · next hbl =>
    split at hw
    · -- compressed chunk: state, tables and read-ahead go on
      cases hw
      subst hc hps
      refine ⟨false, s.c, s.probs, ⟨hS, rfl, rfl, rfl, rfl⟩, rfl, rfl, fun rest hok => ?_⟩
      refine ⟨s.c, histOf d s.p, sliceNat d s.p (d.size - s.p), parseRun_of_cont hpr, ?_, hu1, hu, by rw [← hpe],
        Nat.not_lt.1 hbl, ?_, by rw [← hpe]; exact hok⟩
      · rw [histOf_size, histOf_size, hsz]
      · rw [histOf_size, histOf_size, ← hsz, extract_slice]
        exact sliceNat_split d p0 s.unc d.size (hsz ▸ Nat.le_trans (Nat.le_add_right _ _) hple)
    · -- stored chunk: `p0 + (unc + ra) = p + ra` bytes are in the history afterwards
      cases hw
      have hpe : p0 + (s.unc + s.ra) = s.p + s.ra := by rw [← Nat.add_assoc, hsz]
      rw [← hpe] at hple
      rw [← hpe, Nat.add_sub_cancel]
      refine ⟨true, c, ps, ⟨Search.init hd1 hple hS.mfR (hS.mfPos.trans hpe.symm) s.ms, rfl, rfl, rfl, rfl⟩, rfl, rfl,
        fun rest hok => ?_⟩
      refine ⟨sliceNat d (p0 + (s.unc + s.ra)) (d.size - (p0 + (s.unc + s.ra))), ?_,
        sliceNat_split d p0 _ d.size hple, ?_⟩
      · rw [sliceNat_length]
        exact Nat.le_trans hu1 (Nat.le_add_right _ _)
      · rw [pushAll_slice]
        exact hok

def stepSt (F : Finder σ) (P : FastParams) (nice : Nat) (d : Array UInt8) (s : EncSt σ) : Step σ :=
  if s.p = 0 then ⟨.lit (byteAt d 0), 1, F.skip d 1 s.mf, [], 0⟩
  else nextSymbol F P nice d s.p s.c s.mf s.ms s.ra

theorem step_eq (P : FastParams) (nice : Nat) (pr : Params) (s : EncSt σ) (st : Step σ)
    (hst : stepSt F P nice d s = st) (r : Probs × Enc × Nat)
    (hr : encSymL pr (ctxAt d s.p s.c) st.sym s.probs s.rc = r) :
    step F P nice pr d s =
      { p := s.p + st.len, c := s.c.apply st.sym, mf := st.mf, ms := st.ms, ra := st.ra, probs := r.1,
        rc := r.2.1, outLen := s.outLen + r.2.2, unc := s.unc + st.len, syms := st.sym :: s.syms } := by
  subst hst hr
  cases s
  rfl

theorem encodeFor_succ (P : FastParams) (nice : Nat) (pr : Params) (lim fuel : Nat) (s : EncSt σ) :
    encodeFor F P nice pr d lim (fuel + 1) s =
      if s.unc ≤ Consts.LZMA2_UNCOMPRESSED_LIMIT ∧ s.pending ≤ Consts.LZMA2_COMPRESSED_LIMIT then
        if s.p < lim then encodeFor F P nice pr d lim fuel (step F P nice pr d s) else (s, false)
      else (s, true) := rfl

section Run
variable (FS : FinderSound F d dict 273) (P : FastParams) (hP : P.ok) (nice : Nat) (pr : Params) (dictBuf : Nat)
  (hdb : min dict d.size ≤ dictBuf) (h32 : dict ≤ 2 ^ 32)
include FS hP hdb h32

theorem stepSt_facts (s : EncSt σ) (hp : s.p < d.size) (hS : Search FS s.p s.c s.mf s.ms s.ra) :
    StepFacts FS dictBuf s.p s.c (stepSt F P nice d s) := by
  obtain ⟨_, hp0, hrp, hrd, hR, hpos, hra⟩ := hS
  unfold stepSt
  by_cases h0 : s.p = 0
  · -- `encode_init`: the first byte as a literal
    rw [if_pos h0]
    rw [h0, hp0 h0] at hpos
    rw [h0] at hrp hp ⊢
    refine ⟨Nat.le_refl 1, (by decide : 1 ≤ 273), fun rest => parseRun_lit dictBuf _ rest _ _ (byteAt_lt d 0), hp,
      fun _ => rfl, hrp.lit _, hrd.lit _, FS.skip_R _ _ hR, ?_, Or.inl rfl⟩
    show FS.pos (F.skip d 1 s.mf) = 0 + 1 + 0
    rw [FS.skip_pos _ _ hR, hpos]
  · rw [if_neg h0]
    have hs := nextSymbol_ok FS P hP nice s.p s.c s.mf s.ms s.ra hp hR hpos hra
    exact stepFacts_of_stepOk FS dictBuf s.p s.c _ hdb h32 hs (hrp.mono (by omega)) hrd

theorem step_inv (c0 : Coder) (p0 : Nat) (ps0 : Probs) (s : EncSt σ)
    (hinv : SInv FS pr dictBuf c0 p0 ps0 s) (hp : s.p < d.size) (hlim : s.unc ≤ Consts.LZMA2_UNCOMPRESSED_LIMIT) :
    SInv FS pr dictBuf c0 p0 ps0 (step F P nice pr d s) ∧ s.unc + 1 ≤ (step F P nice pr d s).unc := by
  obtain ⟨hpr, hS, hsz, hpe, hol, _⟩ := hinv
  obtain ⟨hl1, hl273, hp', hS'⟩ := stepSt_facts FS P hP nice dictBuf hdb h32 s hp hS
  generalize hst : stepSt F P nice d s = st at hl1 hl273 hp' hS'
  obtain ⟨hL1, hL2, hL3⟩ := encSymL_eq pr (ctxAt d s.p s.c) st.sym s.probs s.rc
  generalize hr : encSymL pr (ctxAt d s.p s.c) st.sym s.probs s.rc = r at hL1 hL2 hL3
  rw [step_eq P nice pr s st hst r hr]
  have hfold : encFold pr (st.sym :: s.syms).reverse c0 (histOf d p0) ps0 Enc.init =
      encSym pr (ctxAt d s.p s.c) st.sym s.probs s.rc := by
    rw [List.reverse_cons, encFold_append pr dictBuf _ _ _ _ _ _ _ _ (parseRun_of_cont hpr), ← hpe, ctxAt_eq]
    rfl
  have h21 : Consts.LZMA2_UNCOMPRESSED_LIMIT + 273 = 2 ^ 21 := rfl
  refine ⟨⟨?_, hS', ?_, (Prod.ext hL1 hL2).trans hfold.symm, ?_, h21 ▸ Nat.add_le_add hlim hl273⟩,
    Nat.add_le_add_left hl1 _⟩
  · intro rest
    show parseRun dictBuf ((st.sym :: s.syms).reverse ++ rest) c0 (histOf d p0) = _
    rw [List.reverse_cons, List.append_assoc, hpr]
    exact hp' rest
  · show p0 + (s.unc + st.len) = s.p + st.len
    omega
  · show s.outLen + r.2.2 = r.2.1.out.length
    rw [hL2, hL3, hol]

theorem encodeFor_inv (c0 : Coder) (p0 : Nat) (ps0 : Probs) (lim : Nat) (hlim : lim ≤ d.size) :
    ∀ (fuel : Nat) (s : EncSt σ), SInv FS pr dictBuf c0 p0 ps0 s →
      SInv FS pr dictBuf c0 p0 ps0 (encodeFor F P nice pr d lim fuel s).1 ∧
      s.unc ≤ (encodeFor F P nice pr d lim fuel s).1.unc
  | 0, s, hi => ⟨hi, Nat.le_refl _⟩
  | fuel + 1, s, hi => by
    rw [encodeFor_succ]
    split
    · next hc =>
      split
      · next hpl =>
        obtain ⟨hi', hlo⟩ :=
          step_inv FS P hP nice pr dictBuf hdb h32 c0 p0 ps0 s hi (Nat.lt_of_lt_of_le hpl hlim) hc.1
        obtain ⟨ih1, ih2⟩ := encodeFor_inv c0 p0 ps0 lim hlim fuel _ hi'
        exact ⟨ih1, Nat.le_trans (Nat.le_of_succ_le hlo) ih2⟩
      · exact ⟨hi, Nat.le_refl _⟩
    · exact ⟨hi, Nat.le_refl _⟩

theorem encodeFor_start {s : EncSt σ} (hst : Start FS s) (hp : s.p < d.size) :
    SInv FS pr dictBuf s.c s.p s.probs (encodeFor F P nice pr d d.size (d.size + 1) s).1 ∧
      1 ≤ (encodeFor F P nice pr d d.size (d.size + 1) s).1.unc := by
  have hcond : s.unc ≤ Consts.LZMA2_UNCOMPRESSED_LIMIT ∧ s.pending ≤ Consts.LZMA2_COMPRESSED_LIMIT := by
    unfold EncSt.pending
    rw [hst.unc, hst.outLen, hst.rc]
    decide
  obtain ⟨hi', hlo⟩ :=
    step_inv FS P hP nice pr dictBuf hdb h32 s.c s.p s.probs s (hst.inv pr dictBuf) hp hcond.1
  rw [hst.unc] at hlo
  obtain ⟨hm1, hm2⟩ := encodeFor_inv FS P hP nice pr dictBuf hdb h32 s.c s.p s.probs d.size (Nat.le_refl _)
    d.size _ hi'
  rw [encodeFor_succ, if_pos hcond, if_pos hp]
  exact ⟨hm1, Nat.le_trans hlo hm2⟩

theorem finishLoop_ok (hd1 : 1 ≤ dict) :
    ∀ (fuel : Nat) (s : EncSt σ) (acc evs : List Ev) (fresh : Bool) (c : Coder) (ps : Probs),
      finishLoop F P nice pr d fuel s acc = some evs → Start FS s →
      s.c = (if fresh then Coder.init else c) → s.probs = (if fresh then Lzma2.freshProbs pr else ps) →
      ∃ evs', evs = acc.reverse ++ evs' ∧
        EvsOk pr dictBuf evs' fresh c ps (histOf d s.p) (sliceNat d s.p (d.size - s.p))
  | 0, s, acc, evs, fresh, c, ps, hf, _, _, _ => by
    cases hf
  | fuel + 1, s, acc, evs, fresh, c, ps, hf, hst, hc, hps => by
    unfold finishLoop at hf
    split at hf
    · next hlt =>
      rw [hst.unc, Nat.sub_zero] at hlt
      obtain ⟨hinv1, hu1⟩ := encodeFor_start FS P hP nice pr dictBuf hdb h32 hst hlt
      split at hf
      · cases hf
      · next s' ev hw =>
        obtain ⟨fresh', c', ps', hst', hc', hps', hev⟩ :=
          writeChunk_ok FS pr dictBuf hd1 hinv1 hu1 hw fresh c ps hc hps
        obtain ⟨evs', rfl, hok⟩ := finishLoop_ok hd1 fuel s' _ evs fresh' c' ps' hf hst' hc' hps'
        refine ⟨ev :: evs', ?_, hev _ hok⟩
        rw [List.reverse_cons, List.append_assoc]
        rfl
    · next hge =>
      cases hf
      rw [hst.unc, Nat.sub_zero] at hge
      refine ⟨[], (List.append_nil _).symm, ?_⟩
      rw [Nat.sub_eq_zero_of_le (Nat.not_lt.1 hge)]
      rfl

/-- the events of one encoder instance are valid from the writer's initial state (fresh coder, history = the `q0`
    preset bytes) and denote exactly `d[q0 ..]` -/
theorem segEvents_ok (hd1 : 1 ≤ dict) (q0 : Nat) (hq : q0 ≤ d.size) (evs : List Ev) (c : Coder) (ps : Probs)
    (h : segEvents F P nice pr d q0 = some evs) :
    EvsOk pr dictBuf evs true c ps (histOf d q0) (sliceNat d q0 (d.size - q0)) := by
  have hpos : FS.pos (F.skip d q0 F.init) = q0 := by
    rw [FS.skip_pos _ _ FS.init_R, FS.init_pos, Nat.zero_add]
  obtain ⟨evs', rfl, hok⟩ := finishLoop_ok FS P hP nice pr dictBuf hdb h32 hd1 (d.size + 1)
    (encNew F pr d q0) [] evs true c ps h
    ⟨Search.init hd1 hq (FS.skip_R _ _ FS.init_R) hpos [], rfl, rfl, rfl, rfl⟩ rfl rfl
  exact hok

end Run

end Seg

end LzmaVerif.Lzma2W
