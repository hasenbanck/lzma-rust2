import LzmaVerif.Model.LzmaStream
import LzmaVerif.Proofs.ProgRun
import LzmaVerif.Proofs.SymRt
import LzmaVerif.Proofs.LoopRt
/-!
P3 and P4 of C06 (head of `Proofs/Total.lean`): `AllD` states a property of every leaf of a decision program together
with its depth; the decoder follows one path, one range-coder decision per node.
-/

namespace LzmaVerif.Total

section LeavesPart
open LzmaVerif Lzma Prog Rc

/-- every leaf `a` of `p`, reached after `m + (number of decisions on the path)` decisions, satisfies `P a (that number)` -/
def AllD {α : Type} (P : α → Nat → Prop) : Prog α → Nat → Prop
  | .ret a, m => P a m
  | .bit _ k, m => ∀ b, AllD P (k b) (m + 1)
  | .direct k, m => ∀ b, AllD P (k b) (m + 1)

def All {α : Type} (P : α → Prop) : Prog α → Prop
  | .ret a => P a
  | .bit _ k => ∀ b, All P (k b)
  | .direct k => ∀ b, All P (k b)

theorem AllD.mono {α : Type} {P Q : α → Nat → Prop} (hpq : ∀ a m, P a m → Q a m) :
    ∀ (p : Prog α) (m : Nat), AllD P p m → AllD Q p m
  | .ret a, m, h => hpq a m h
  | .bit _ k, m, h => fun b => AllD.mono hpq (k b) (m + 1) (h b)
  | .direct k, m, h => fun b => AllD.mono hpq (k b) (m + 1) (h b)

theorem All.iff_allD {α : Type} {P : α → Prop} : ∀ (p : Prog α) (m : Nat), All P p ↔ AllD (fun a _ => P a) p m
  | .ret _, _ => Iff.rfl
  | .bit _ k, m => forall_congr' fun b => All.iff_allD (k b) (m + 1)
  | .direct k, m => forall_congr' fun b => All.iff_allD (k b) (m + 1)

theorem All.mono {α : Type} {P Q : α → Prop} (hpq : ∀ a, P a → Q a) (p : Prog α) (h : All P p) : All Q p :=
  (All.iff_allD p 0).mpr (AllD.mono (fun a _ => hpq a) p 0 ((All.iff_allD p 0).mp h))

theorem AllD.toAll {α : Type} {P : α → Nat → Prop} {Q : α → Prop} (hpq : ∀ a m, P a m → Q a) (p : Prog α) (m : Nat)
    (h : AllD P p m) : All Q p :=
  (All.iff_allD p m).mpr (AllD.mono hpq p m h)

theorem AllD.bind {α β : Type} {Q : β → Nat → Prop} (f : α → Prog β) :
    ∀ (p : Prog α) (m : Nat), AllD (fun a m' => AllD Q (f a) m') p m → AllD Q (Prog.bind p f) m
  | .ret _, _, h => h
  | .bit _ k, m, h => fun b => AllD.bind f (k b) (m + 1) (h b)
  | .direct k, m, h => fun b => AllD.bind f (k b) (m + 1) (h b)

theorem All.bind {α β : Type} {Q : β → Prop} (f : α → Prog β) (p : Prog α) (h : All (fun a => All Q (f a)) p) :
    All Q (Prog.bind p f) :=
  (All.iff_allD _ 0).mpr (AllD.bind f p 0 (AllD.mono (fun a m => (All.iff_allD (f a) m).mp) p 0 ((All.iff_allD p 0).mp h)))

theorem All.run {α σ : Type} {P : α → Prop} {o : Src σ} {p : Prog α} {s : σ} {a : α} {s' : σ}
    (h : p.run o s = some (a, s')) (hp : All P p) : P a := by
  induction p, s, a, s', h using run_induction with
  | ret a s => exact hp
  | ask q k s b s₁ a s' _ _ ih => cases q <;> exact ih (hp b)

theorem All.decRun {α : Type} {P : α → Prop} (p : Prog α) (hp : All P p) (ps : Probs) (d : Dec) : P (p.decRun ps d).1 :=
  All.run (decRun_eq_run p ps d) hp

theorem AllD.runBits {α : Type} {P : α → Nat → Prop} : ∀ (p : Prog α) (m : Nat), AllD P p m →
    ∀ (bs : List Bool) (a : α) (r : List Bool), p.runBits bs = some (a, r) → ∃ k, P a (m + k) ∧ bs.length = k + r.length
  | .ret a, m, h, bs, a', r, e => by
    cases e
    exact ⟨0, h, (Nat.zero_add _).symm⟩
  | .bit i k, m, h, [], a', r, e => nomatch e
  | .bit i k, m, h, b :: bs, a', r, e => by
    obtain ⟨j, h1, h2⟩ := AllD.runBits (k b) (m + 1) (h b) bs a' r e
    exact ⟨j + 1, by rwa [Nat.add_right_comm] at h1, by rw [List.length_cons, h2, Nat.add_right_comm]⟩
  | .direct k, m, h, [], a', r, e => nomatch e
  | .direct k, m, h, b :: bs, a', r, e => by
    obtain ⟨j, h1, h2⟩ := AllD.runBits (k b) (m + 1) (h b) bs a' r e
    exact ⟨j + 1, by rwa [Nat.add_right_comm] at h1, by rw [List.length_cons, h2, Nat.add_right_comm]⟩

theorem All.runBits {α : Type} {P : α → Prop} : ∀ (p : Prog α), All P p → ∀ (bs : List Bool) (a : α) (r : List Bool),
    p.runBits bs = some (a, r) → P a := fun p h bs _ _ e =>
  All.run (runBits_eq_run p bs ▸ e) h

theorem b2n_le (b : Bool) : b2n b ≤ 1 := by cases b <;> decide

/-- the values that start with `2 * m + b` start with `m` -/
theorem bit_interval {m n v : Nat} (b : Bool) (h1 : (2 * m + b2n b) * 2 ^ n ≤ v)
    (h2 : v < (2 * m + b2n b + 1) * 2 ^ n) : m * 2 ^ (n + 1) ≤ v ∧ v < (m + 1) * 2 ^ (n + 1) := by
  have e : ∀ k, k * 2 ^ (n + 1) = 2 * k * 2 ^ n := fun k => by rw [Nat.pow_succ, Nat.mul_comm 2 k, Nat.mul_assoc, Nat.mul_comm 2]
  have hb := b2n_le b
  rw [e, e]
  exact ⟨Nat.le_trans (Nat.mul_le_mul_right _ (Nat.le_add_right _ _)) h1,
    Nat.lt_of_lt_of_le h2 (Nat.mul_le_mul_right _ (by omega))⟩

theorem bitTreeAux_allD {P : Nat → Nat → Prop} (base : Nat) : ∀ (n m d : Nat),
    (∀ v, m * 2 ^ n ≤ v → v < (m + 1) * 2 ^ n → P v (d + n)) → AllD P (bitTreeAux base n m) d
  | 0, m, d, h => h m (by simp) (by simp)
  | n + 1, m, d, h => fun b => bitTreeAux_allD base n _ _ fun v h1 h2 =>
    Nat.add_right_comm d 1 n ▸ h v (bit_interval b h1 h2).1 (bit_interval b h1 h2).2

theorem bitTree_allD {P : Nat → Nat → Prop} (base n d : Nat) (h : ∀ v, v < 2 ^ n → P v (d + n)) :
    AllD P (bitTree base n) d := by
  unfold bitTree
  apply AllD.bind
  apply bitTreeAux_allD
  intro v h1 h2
  apply h
  omega

theorem directBits_allD {P : Nat → Nat → Prop} : ∀ (n acc d : Nat),
    (∀ v, acc * 2 ^ n ≤ v → v < (acc + 1) * 2 ^ n → P v (d + n)) → AllD P (directBits n acc) d
  | 0, m, d, h => h m (by simp) (by simp)
  | n + 1, m, d, h => fun b => directBits_allD n _ _ fun v h1 h2 =>
    Nat.add_right_comm d 1 n ▸ h v (bit_interval b h1 h2).1 (bit_interval b h1 h2).2

theorem revTreeAux_allD {P : Nat → Nat → Prop} (base : Nat) : ∀ (n m i acc d : Nat),
    (∀ v, acc ≤ v → v + 2 ^ i ≤ acc + 2 ^ i * 2 ^ n → P v (d + n)) → AllD P (revTreeAux base n m i acc) d
  | 0, m, i, acc, d, h => h acc (Nat.le_refl _) (by simp)
  | n + 1, m, i, acc, d, h => fun b => revTreeAux_allD base n _ _ _ _ fun v h1 h2 => by
    have hb : b2n b * 2 ^ i ≤ 1 * 2 ^ i := Nat.mul_le_mul_right _ (b2n_le b)
    rw [Nat.pow_succ, Nat.mul_right_comm] at h2
    exact Nat.add_right_comm d 1 n ▸ h v (by omega) (by rw [Nat.pow_succ, ← Nat.mul_assoc]; omega)

theorem revTree_allD {P : Nat → Nat → Prop} (base n d : Nat) (h : ∀ v, v < 2 ^ n → P v (d + n)) :
    AllD P (revTree base n) d := by
  unfold revTree
  apply revTreeAux_allD
  intro v _ h2
  apply h
  simp only [Nat.pow_zero, Nat.one_mul, Nat.zero_add] at h2
  omega

/-- `LengthCoder::decode` -/
theorem lenProg_allD {P : Nat → Nat → Prop} (base posState d : Nat)
    (h : ∀ len k, 2 ≤ len → len ≤ 273 → k ≤ 10 → P len (d + k)) : AllD P (lenProg base posState) d := by
  simp only [lenProg, AllD, Bool.forall_bool, Bool.not_true, Bool.not_false, if_true, Bool.false_eq_true, if_false]
  exact ⟨AllD.bind _ _ _ (bitTree_allD _ _ _ fun v hv => h (v + 2) 4 (by omega) (by omega) (by omega)),
    AllD.bind _ _ _ (bitTree_allD _ _ _ fun v hv => h (v + 10) 5 (by omega) (by omega) (by omega)),
    AllD.bind _ _ _ (bitTree_allD _ _ _ fun v hv => h (v + 18) 10 (by omega) (by omega) (by omega))⟩

/-- a distance with slot below 64: `(2 + slot % 2) · 2^limit` plus `limit` further bits, `limit = slot / 2 - 1 ≤ 30` -/
theorem dist_bound {slot x : Nat} (h64 : slot < 64) (hx : x < 2 ^ (slot / 2 - 1)) :
    (2 + slot % 2) * 2 ^ (slot / 2 - 1) + x < 2 ^ 32 := by
  have hp : 2 ^ (slot / 2 - 1) ≤ 2 ^ 30 := Nat.pow_le_pow_right (by decide) (by omega)
  have hm : (2 + slot % 2) * 2 ^ (slot / 2 - 1) ≤ 3 * 2 ^ (slot / 2 - 1) := Nat.mul_le_mul_right _ (by omega)
  omega

/-- distance part of `decode_match` -/
theorem distProg_allD {P : Nat → Nat → Prop} (len d : Nat)
    (h : ∀ dist k, dist < 2 ^ 32 → k ≤ 36 → P dist (d + k)) : AllD P (distProg len) d := by
  unfold distProg
  refine AllD.bind _ _ _ (bitTree_allD _ _ _ fun slot hslot => ?_)
  by_cases h4 : slot < 4
  · rw [if_pos h4]
    exact h slot 6 (by omega) (by omega)
  rw [if_neg h4]
  dsimp only
  by_cases h14 : slot < 14
  · rw [if_pos h14]
    refine AllD.bind _ _ _ (revTree_allD _ _ _ fun r hr => ?_)
    have := h _ (6 + (slot / 2 - 1)) (dist_bound hslot hr) (by omega)
    rwa [← Nat.add_assoc] at this
  · rw [if_neg h14]
    refine AllD.bind _ _ _ (directBits_allD _ _ _ fun hi _ hhi => ?_)
    refine AllD.bind _ _ _ (revTree_allD _ _ _ fun lo hlo => ?_)
    have e : 2 ^ (slot / 2 - 1 - 4) * 2 ^ 4 = 2 ^ (slot / 2 - 1) := by
      rw [← Nat.pow_add]
      congr 1
      omega
    rw [Nat.zero_add, Nat.one_mul] at hhi
    have hb := dist_bound (x := hi * 16 + lo) hslot (by omega)
    rw [← Nat.add_assoc] at hb
    have := h _ (6 + (slot / 2 - 1 - 4) + 4) hb (by omega)
    rwa [← Nat.add_assoc, ← Nat.add_assoc] at this
theorem litPlain_allD {P : Nat → Nat → Prop} (base d : Nat) (h : ∀ b, b < 256 → P b (d + 8)) :
    AllD P (litPlain base) d :=
  bitTree_allD base 8 d h

theorem litMatchedAux_allD {P : Nat → Nat → Prop} (base : Nat) : ∀ (n symbol offset matchByte d : Nat),
    (∀ v, symbol * 2 ^ n ≤ v → v < (symbol + 1) * 2 ^ n → P (v - 256) (d + n)) →
    AllD P (litMatchedAux base n symbol offset matchByte) d
  | 0, m, _, _, d, h => h m (by simp) (by simp)
  | n + 1, m, _, _, d, h => fun b => litMatchedAux_allD base n _ _ _ _ fun v h1 h2 =>
    Nat.add_right_comm d 1 n ▸ h v (bit_interval b h1 h2).1 (bit_interval b h1 h2).2

theorem litMatched_allD {P : Nat → Nat → Prop} (base matchByte d : Nat) (h : ∀ b, b < 256 → P b (d + 8)) :
    AllD P (litMatched base matchByte) d := by
  unfold litMatched
  apply litMatchedAux_allD
  intro v h1 h2
  apply h
  omega

/-- **P4.**  Every path through the decision program of one symbol makes at most 48 range-coder decisions (each reads at
most one input byte) and ends in an admissible symbol. -/
theorem symProg_allD (pr : Params) (c : Ctx) : AllD (fun s m => SymOk s ∧ m ≤ 48) (symProg pr c) 0 := by
  have hrep : ∀ i d, i ≤ 3 → d ≤ 5 → AllD (fun s m => SymOk s ∧ m ≤ 48)
      ((lenProg oRepLen (c.pos % 2 ^ pr.pb)).bind fun len => ret (Sym.rep i len)) d :=
    fun i d hi hd => AllD.bind _ _ _ (lenProg_allD _ _ _ fun len k h2 h273 hk => ⟨⟨hi, h2, h273⟩, by omega⟩)
  simp only [symProg, AllD, Bool.forall_bool, Bool.not_true, Bool.not_false, if_true, Bool.false_eq_true, if_false]
  refine ⟨?_, ?_, ⟨⟨trivial, by omega⟩, hrep 0 _ (by omega) (by omega)⟩, hrep 1 _ (by omega) (by omega),
    hrep 2 _ (by omega) (by omega), hrep 3 _ (by omega) (by omega)⟩
  · split
    · exact AllD.bind _ _ _ (litPlain_allD _ _ fun b hb => ⟨hb, by omega⟩)
    · exact AllD.bind _ _ _ (litMatched_allD _ _ _ fun b hb => ⟨hb, by omega⟩)
  · exact AllD.bind _ _ _ (lenProg_allD _ _ _ fun len k h2 h273 hk =>
      AllD.bind _ _ _ (distProg_allD _ _ fun dist k' hd hk' => ⟨⟨h2, h273, hd⟩, by omega⟩))
theorem symProg_all (pr : Params) (c : Ctx) : All SymOk (symProg pr c) :=
  AllD.toAll (fun _ _ h => h.1) _ _ (symProg_allD pr c)

/-- **P4, encoder side.** -/
theorem symBits_length_le (pr : Params) (c : Ctx) (s : Sym) (hs : SymOk s) : (symBits pr c s).length ≤ 48 := by
  have h := sym_rt pr c s hs []
  rw [List.append_nil] at h
  obtain ⟨k, ⟨_, hk⟩, hl⟩ := AllD.runBits _ 0 (symProg_allD pr c) _ _ _ h
  simp only [List.length_nil] at hl
  omega

/-- the bound 48 is attained: a match with the largest distance slot -/
example : (symBits ⟨3, 0, 2⟩ ⟨0, 0, 0, 0⟩ (.mtch 0xFFFFFFFE 273)).length = 48 := by decide +kernel

end LeavesPart

section LoopPart
open LzmaVerif Lzma Prog Rc

/-- what every leaf of `loopProg fuel remaining c h acc em` satisfies, relative to where the loop started; `syms` allows
one symbol beyond the emitted bytes: the terminating one of an end marker or bad distance -/
structure LoopPost (fuel : Nat) (remaining : Option Nat) (h : Hist) (acc : List Sym) (em : Nat) (r : LoopRes) : Prop where
  em_le : em ≤ r.emitted
  hist : r.hist.size = h.size + (r.emitted - em)
  acc_le : acc.length ≤ r.parse.length
  syms : r.parse.length - acc.length ≤ (r.emitted - em) + (if r.stop = .endMarker ∨ r.stop = .distOverflow then 1 else 0)
  fuelStop : r.stop = .fuel → fuel ≤ r.emitted - em
  rem : ∀ n, remaining = some n → r.emitted - em ≤ n ∧ (r.stop = .limit → r.emitted - em = n)

theorem LoopPost.step {fuel : Nat} {remaining rem' : Option Nat} {h h' : Hist} {acc : List Sym} {s : Sym}
    {em k : Nat} {r : LoopRes} (hk : 1 ≤ k) (hh : h'.size = h.size + k)
    (hr1 : ∀ n, remaining = some n → k ≤ n ∧ rem' = some (n - k))
    (p : LoopPost fuel rem' h' (s :: acc) (em + k) r) : LoopPost (fuel + 1) remaining h acc em r := by
  obtain ⟨p1, p2, p3, p4, p5, p6⟩ := p
  simp only [List.length_cons] at p3 p4
  refine ⟨by omega, by omega, by omega, by omega, fun hf => by have := p5 hf; omega, fun n hn => ?_⟩
  obtain ⟨a, b⟩ := hr1 n hn
  obtain ⟨c, d⟩ := p6 _ b
  exact ⟨by omega, fun hl => by have := d hl; omega⟩

theorem copyOf_of_not_lit {s : Sym} (c : Coder) (hs : SymOk s) (hl : ∀ b, s ≠ .lit b) :
    ∃ dist len, s.copyOf c = some (dist, len) ∧ 1 ≤ len := by
  cases s with
  | lit b => exact absurd rfl (hl b)
  | mtch dist len => exact ⟨dist, len, rfl, by have := hs.1; omega⟩
  | rep i len => exact ⟨c.rep i, len, rfl, by have := hs.2.1; omega⟩
  | shortRep => exact ⟨c.rep0, 1, rfl, Nat.le_refl 1⟩

theorem loopNext_post {dictBuf fuel : Nat} {remaining : Option Nat} {c : Coder} {h : Hist} {acc : List Sym} {em : Nat}
    {s : Sym} (hs : SymOk s) (h0 : remaining ≠ some 0) :
    match loopNext dictBuf remaining c h acc em s with
    | .stop r => LoopPost (fuel + 1) remaining h acc em r
    | .go rem' h' em' => ∀ r, LoopPost fuel rem' h' (s :: acc) em' r → LoopPost (fuel + 1) remaining h acc em r := by
  by_cases hl : ∃ b, s = .lit b
  · obtain ⟨b, rfl⟩ := hl
    refine fun r p => LoopPost.step (Nat.le_refl 1) (Array.size_push _) (fun n hn => ?_) p
    subst hn
    exact ⟨Nat.pos_of_ne_zero fun hn => h0 (congrArg some hn), rfl⟩
  have hl : ∀ b, s ≠ .lit b := fun b hb => hl ⟨b, hb⟩
  obtain ⟨dist, len, hcopy, hlen⟩ := copyOf_of_not_lit c hs hl
  simp only [loopNext, hcopy]
  by_cases hd : dist ≥ h.size ∨ dist ≥ dictBuf
  · rw [if_pos hd]
    refine ⟨Nat.le_refl _, by simp, by simp, ?_, ?_, fun n _ => ⟨by simp, ?_⟩⟩
    · split <;> simp
    · split <;> simp
    · split <;> simp
  rw [if_neg hd]
  cases remaining with
  | none => exact fun r p => LoopPost.step hlen (hist_copy_size h dist len) nofun p
  | some r =>
    have hr : 1 ≤ r := Nat.pos_of_ne_zero fun hr => h0 (congrArg some hr)
    dsimp only
    by_cases hl : len > r
    · rw [if_pos hl]
      refine ⟨by simp, ?_, by simp, ?_, by simp, fun n hn => ?_⟩
      · simp only [hist_copy_size]; omega
      · simp only [List.length_cons]; simp; omega
      · cases hn
        exact ⟨by simp, by simp⟩
    · rw [if_neg hl]
      exact fun r' p =>
        LoopPost.step hlen (hist_copy_size h dist len) (fun n hn => by cases hn; exact ⟨by omega, rfl⟩) p

/-- **P3 (program level).**  Every leaf of the symbol loop, i.e. every possible run of the decoder, satisfies `LoopPost`. -/
theorem loopProg_all (pr : Params) (dictBuf : Nat) : ∀ (fuel : Nat) (remaining : Option Nat) (c : Coder) (h : Hist)
    (acc : List Sym) (em : Nat), All (LoopPost fuel remaining h acc em) (loopProg pr dictBuf fuel remaining c h acc em) := by
  intro fuel
  induction fuel with
  | zero =>
    intro remaining c h acc em
    rw [loopProg]
    exact ⟨Nat.le_refl _, by simp, by simp, by simp, by simp, fun n _ => ⟨by simp, by simp⟩⟩
  | succ fuel ih =>
    intro remaining c h acc em
    rw [loopProg_succ]
    by_cases h0 : remaining = some 0
    · rw [if_pos h0]
      refine ⟨Nat.le_refl _, by simp, by simp, by simp, by simp, fun n hn => ?_⟩
      rw [h0] at hn
      cases hn
      exact ⟨by simp, by simp⟩
    rw [if_neg h0]
    refine All.bind _ _ (All.mono (fun s hs => ?_) _ (symProg_all pr (ctxOf c h)))
    have hpost := loopNext_post (fuel := fuel) (c := c) (h := h) (acc := acc) (em := em) (dictBuf := dictBuf) hs h0
    cases hn : loopNext dictBuf remaining c h acc em s with
    | stop r => rwa [hn] at hpost
    | go rem' h' em' =>
      rw [hn] at hpost
      exact All.mono hpost _ (ih rem' (c.apply s) h' (s :: acc) em')

/-- **P3.**  The symbol loop run by the range decoder, on ANY probabilities and ANY decoder state. -/
theorem loop_symbols_le_bytes (pr : Params) (dictBuf fuel : Nat) (remaining : Option Nat) (c : Coder) (h : Hist)
    (ps : Probs) (d : Dec) :
    let r := ((loopProg pr dictBuf fuel remaining c h [] 0).decRun ps d).1
    r.parse.length ≤ r.emitted + 1 ∧
    (r.stop ≠ .endMarker → r.stop ≠ .distOverflow → r.parse.length ≤ r.emitted) ∧
    r.hist.size = h.size + r.emitted ∧
    (∀ n, remaining = some n → r.emitted ≤ n ∧ (r.stop = .limit → r.emitted = n)) ∧
    (r.stop = .fuel → fuel ≤ r.emitted) := by
  intro r
  have p : LoopPost fuel remaining h [] 0 r := All.decRun _ (loopProg_all pr dictBuf fuel remaining c h [] 0) ps d
  obtain ⟨p1, p2, p3, p4, p5, p6⟩ := p
  simp only [List.length_nil, Nat.sub_zero] at p2 p4 p5 p6
  refine ⟨?_, ?_, p2, p6, p5⟩
  · split at p4 <;> omega
  · intro h1 h2
    rw [if_neg (by intro h; rcases h with h | h; exact h1 h; exact h2 h)] at p4
    omega

/-- `n + 1` symbols of fuel for a declared size `n` is what `decodeRaw` and `Lzma2.chunkLoop` pass -/
theorem loop_no_fuel_stop (pr : Params) (dictBuf n fuel : Nat) (hf : n < fuel) (c : Coder) (h : Hist) (acc : List Sym)
    (em : Nat) (ps : Probs) (d : Dec) :
    ((loopProg pr dictBuf fuel (some n) c h acc em).decRun ps d).1.stop ≠ .fuel := by
  have p := All.decRun _ (loopProg_all pr dictBuf fuel (some n) c h acc em) ps d
  intro hs
  have a := p.fuelStop hs
  have b := (p.rem n rfl).1
  omega

/-- without a declared size `.fuel` means MORE than `cap` bytes were produced -/
theorem loop_fuel_means_cap (pr : Params) (dictBuf cap : Nat) (c : Coder) (h : Hist) (ps : Probs) (d : Dec) :
    let r := ((loopProg pr dictBuf (cap + 1) none c h [] 0).decRun ps d).1
    r.stop = .fuel → cap < r.emitted ∧ r.hist.size = h.size + r.emitted := by
  intro r hs
  have p : LoopPost (cap + 1) none h [] 0 r := All.decRun _ (loopProg_all pr dictBuf (cap + 1) none c h [] 0) ps d
  have a := p.fuelStop hs
  have b := p.hist
  simp only [Nat.sub_zero] at a b
  exact ⟨by omega, b⟩

end LoopPart

end LzmaVerif.Total
