import LzmaVerif.Proofs.XzBasic
import LzmaVerif.Props.C02
/-! Three facts about each parser of the container, next to each other: what it answers on the bytes the writer model
produces, followed by anything (`*_ok`); how much a successful run consumed (`*_len`, `*_inv`); that more input behind a
successful run changes nothing (`*_ext`, by composition, see `Ext` in `Proofs/XzBasic.lean`).  The record loop of the Index
is reasoned about through its fuel-free form `records`. -/
namespace LzmaVerif.Xz
open LzmaVerif Lzma Checks


theorem flags_bytes (c : Check) : Bytes [0, c.toByte] :=
  Bytes.cons (by decide) (Bytes.cons (toByte_lt c) Bytes.nil)

theorem parseFlags_ok (c : Check) (r : List Nat) :
    parseFlags ([0, c.toByte] ++ le 4 (crc32 [0, c.toByte]) ++ r) = .ok (c, r) := by
  unfold parseFlags
  rw [List.append_assoc, takeN_append 2 _ _ rfl]
  simp only [bind, Except.bind, List.getD_cons_zero, List.getD_cons_succ, ne_eq, not_true_eq_false, if_false,
    ofByte_toByte]
  rw [takeN_append 4 _ _ (le_length _ _)]
  simp only [ofLe_le_crc32 _ (flags_bytes c), not_true_eq_false, if_false]
  rfl

theorem streamHeaderBytes_length (c : Check) : (streamHeaderBytes c).length = 12 := by
  simp [streamHeaderBytes, le_length, Consts.XZ_MAGIC]

theorem parseStreamHeader_ok (c : Check) (r : List Nat) :
    parseStreamHeader (streamHeaderBytes c ++ r) = .ok (c, r) := by
  unfold parseStreamHeader streamHeaderBytes
  rw [List.append_assoc, List.append_assoc, takeN_append 6 _ _ rfl]
  simp only [bind, Except.bind, ne_eq, not_true_eq_false, if_false]
  rw [← List.append_assoc]
  exact parseFlags_ok c r

theorem footerBytes_length (c : Check) (n : Nat) : (footerBytes c n).length = 12 := by
  simp [footerBytes, le_length, Consts.XZ_FOOTER_MAGIC]

theorem parseFooter_ok (c : Check) (n : Nat) (r : List Nat) :
    parseFooter (footerBytes c n ++ r) = .ok (ofLe (le 4 (n / 4 - 1)), [0, c.toByte], r) := by
  unfold parseFooter footerBytes
  simp only [List.append_assoc]
  rw [takeN_append 4 _ _ (le_length _ _)]
  simp only [bind, Except.bind]
  rw [takeN_append 4 _ _ (le_length _ _)]
  simp only []
  rw [takeN_append 2 _ _ rfl]
  have hb : Bytes (le 4 (n / 4 - 1) ++ [0, c.toByte]) := Bytes.append (le_bytes _ _) (flags_bytes c)
  simp only [ofLe_le_crc32 _ hb, ne_eq, not_true_eq_false, if_false]
  rw [takeN_append 2 _ _ rfl]
  simp only [not_true_eq_false, if_false]
  rfl

theorem parseFlags_len {inp rest : List Nat} {c : Check} (h : parseFlags inp = .ok (c, rest)) :
    inp.length = 6 + rest.length := by
  unfold parseFlags at h
  obtain ⟨⟨flags, inp1⟩, hT1, h1⟩ := bind_eq_ok.mp h
  obtain ⟨-, h2⟩ := guard_eq_ok.mp h1
  simp only [] at h2
  split at h2
  · cases h2
  · obtain ⟨⟨crc, inp2⟩, hT2, h3⟩ := bind_eq_ok.mp h2
    obtain ⟨-, h4⟩ := guard_eq_ok.mp h3
    cases h4
    obtain ⟨rfl, l1⟩ := takeN_ok hT1
    obtain ⟨rfl, l2⟩ := takeN_ok hT2
    simp only [List.length_append]
    omega

theorem parseStreamHeader_len {inp rest : List Nat} {c : Check} (h : parseStreamHeader inp = .ok (c, rest)) :
    inp.length = 12 + rest.length := by
  unfold parseStreamHeader at h
  obtain ⟨⟨magic, inp1⟩, hT, h1⟩ := bind_eq_ok.mp h
  obtain ⟨-, h2⟩ := guard_eq_ok.mp h1
  obtain ⟨rfl, l1⟩ := takeN_ok hT
  rw [List.length_append, parseFlags_len h2]
  omega

theorem parseFooter_len {inp flags rest : List Nat} {bs : Nat} (h : parseFooter inp = .ok (bs, flags, rest)) :
    inp.length = 12 + rest.length := by
  unfold parseFooter at h
  obtain ⟨⟨a1, i1⟩, hT1, h1⟩ := bind_eq_ok.mp h
  obtain ⟨⟨a2, i2⟩, hT2, h2⟩ := bind_eq_ok.mp h1
  obtain ⟨⟨a3, i3⟩, hT3, h3⟩ := bind_eq_ok.mp h2
  obtain ⟨-, h4⟩ := guard_eq_ok.mp h3
  obtain ⟨⟨a4, i4⟩, hT4, h5⟩ := bind_eq_ok.mp h4
  obtain ⟨-, h6⟩ := guard_eq_ok.mp h5
  cases h6
  obtain ⟨rfl, l1⟩ := takeN_ok hT1
  obtain ⟨rfl, l2⟩ := takeN_ok hT2
  obtain ⟨rfl, l3⟩ := takeN_ok hT3
  obtain ⟨rfl, l4⟩ := takeN_ok hT4
  simp only [List.length_append]
  omega


theorem parseFlags_ext : Ext parseFlags app2 := by
  refine Ext.bind (takeN_ext 2) fun flags => Ext.guard ?_
  cases Check.ofByte (flags.getD 1 0) with
  | none => exact Ext.throw
  | some c => exact Ext.bind (takeN_ext 4) fun _ => Ext.guard <| Ext.pure fun _ _ => rfl

theorem parseStreamHeader_ext : Ext parseStreamHeader app2 :=
  Ext.bind (takeN_ext 6) fun _ => Ext.guard parseFlags_ext

theorem parseFooter_ext : Ext parseFooter (fun b x => (b.1, b.2.1, b.2.2 ++ x)) :=
  Ext.bind (takeN_ext 4) fun _ => Ext.bind (takeN_ext 4) fun _ => Ext.bind (takeN_ext 2) fun _ => Ext.guard <|
    Ext.bind (takeN_ext 2) fun _ => Ext.guard <| Ext.pure fun _ _ => rfl


def PreOk : Filter → Prop
  | .delta d => 1 ≤ d ∧ d ≤ 256
  | .bcj a s => s < 2 ^ 32 ∧ s % archAlign a = 0
  | .lzma2 _ => False

instance : DecidablePred PreOk := fun f => by
  cases f <;> (unfold PreOk; infer_instance)

/-- dictionary sizes `encode_lzma2_dict_size` accepts (it rounds up to the next size a property byte announces) -/
def DictOk (d : Nat) : Prop := 4096 ≤ d ∧ (d ≤ 3 * 2 ^ 30 ∨ d = 0xFFFFFFFF)

instance : DecidablePred DictOk := fun d => by unfold DictOk; infer_instance

def LastOk : Option Filter → Prop
  | some (.lzma2 d) => DictOk d
  | _ => False

instance : DecidablePred LastOk := fun o => by
  rcases o with _ | f
  · unfold LastOk; infer_instance
  · cases f <;> (unfold LastOk; infer_instance)

def FiltersOk (fs : List Filter) : Prop :=
  fs.length ≤ 4 ∧ (∀ f ∈ fs.dropLast, PreOk f) ∧ LastOk fs.getLast?

instance (fs : List Filter) : Decidable (FiltersOk fs) := by unfold FiltersOk; infer_instance

example : FiltersOk [.lzma2 8388608] := by decide
example : FiltersOk [.delta 4, .lzma2 4096] := by decide
example : FiltersOk [.bcj .x86 0, .bcj .arm 4096, .delta 256, .lzma2 65536] := by decide
example : ¬ FiltersOk [.bcj .arm 3, .lzma2 65536] := by decide
example : ¬ FiltersOk [.lzma2 65536, .lzma2 65536] := by decide
example : ¬ FiltersOk [] := by decide

/-- the dictionary size the block header announces for a written dictionary `d` -/
def readerDict1 (d : Nat) : Nat := (XzInt.dictOfProp ((XzInt.propOfDict d).getD 0)).getD 0

def readerDict (fs : List Filter) : Nat :=
  match fs.getLast? with
  | some (.lzma2 d) => readerDict1 d
  | _ => 0

def readerFilter : Filter → Filter
  | .lzma2 d => .lzma2 (readerDict1 d)
  | f => f

theorem dictOk_spec (d : Nat) (h : DictOk d) :
    ∃ p, XzInt.propOfDict d = some p ∧ p ≤ 40 ∧ XzInt.dictOfProp p = some (readerDict1 d) ∧ d ≤ readerDict1 d := by
  obtain ⟨h1, h2 | h2⟩ := h
  · obtain ⟨p, d', hp, hp40, hd, hle, _⟩ := Props.C02.lzma2DictProp d h1 h2
    refine ⟨p, hp, hp40, ?_, ?_⟩
    · simp only [readerDict1, hp, Option.getD_some, hd]
    · simp only [readerDict1, hp, Option.getD_some, hd]; exact hle
  · subst h2
    exact ⟨40, by decide, by decide, by decide, by decide⟩

theorem idOfArch_spec (a : Filters.Arch) : idOfArch a < 128 ∧ idOfArch a ≠ 3 ∧ idOfArch a ≠ 0x21 ∧
    archOfId (idOfArch a) = some a := by
  cases a <;> decide

theorem parseFilter_pre (f : Filter) (hf : PreOk f) (r : List Nat) :
    parseFilter (encFilter f ++ r) = .ok (f, r) := by
  cases f with
  | delta d =>
    obtain ⟨h1, h2⟩ := hf
    have hm : (d - 1) % 256 + 1 = d := by omega
    simp [parseFilter, encFilter, mbSlice_small, bind, Except.bind, pure, Except.pure, hm]
  | bcj a s =>
    obtain ⟨h1, h2⟩ := hf
    obtain ⟨i1, i2, i3, i4⟩ := idOfArch_spec a
    by_cases hs : s = 0
    · subst hs
      simp [parseFilter, encFilter, mbSlice_small, bind, Except.bind, pure, Except.pure, i1, i2, i3, i4]
    · have hl : ¬ ((le 4 s).length + r.length < 4) := by rw [le_length]; omega
      have ht : List.take 4 (le 4 s ++ r) = le 4 s := by
        have := List.take_left (l₁ := le 4 s) (l₂ := r)
        rwa [le_length] at this
      have hd : List.drop 4 (le 4 s ++ r) = r := by
        have := List.drop_left (l₁ := le 4 s) (l₂ := r)
        rwa [le_length] at this
      simp [parseFilter, encFilter, mbSlice_small, bind, Except.bind, pure, Except.pure, i1, i2, i3, i4, hs, hl, ht, hd,
        ofLe_le 4 s (by omega), h2]
  | lzma2 d => exact absurd hf (by simp [PreOk])

theorem parseFilter_lzma2 (d : Nat) (hd : DictOk d) (r : List Nat) :
    parseFilter (encFilter (.lzma2 d) ++ r) = .ok (.lzma2 (readerDict1 d), r) := by
  obtain ⟨p, hp, hp40, hdp, _⟩ := dictOk_spec d hd
  simp [parseFilter, encFilter, mbSlice_small, bind, Except.bind, pure, Except.pure, hp, hdp]

def AnyOk : Filter → Prop
  | .lzma2 d => DictOk d
  | f => PreOk f

theorem parseFilter_any (f : Filter) (hf : AnyOk f) (r : List Nat) :
    parseFilter (encFilter f ++ r) = .ok (readerFilter f, r) := by
  cases f with
  | delta d => exact parseFilter_pre (.delta d) hf r
  | bcj a s => exact parseFilter_pre (.bcj a s) hf r
  | lzma2 d => exact parseFilter_lzma2 d hf r

theorem encFilter_shape (f : Filter) (hf : AnyOk f) :
    ∃ id psz props, encFilter f = id :: psz :: props ∧ id < 128 ∧ psz ≤ 4 ∧ props.length = psz ∧ Bytes props := by
  cases f with
  | delta d =>
    exact ⟨3, 1, [(d - 1) % 256], rfl, by decide, by decide, rfl, Bytes.cons (Nat.mod_lt _ (by decide)) Bytes.nil⟩
  | bcj a s =>
    obtain ⟨i1, _⟩ := idOfArch_spec a
    simp only [encFilter]
    split
    · exact ⟨idOfArch a, 0, [], rfl, i1, by decide, rfl, Bytes.nil⟩
    · exact ⟨idOfArch a, 4, le 4 s, rfl, i1, by decide, le_length _ _, le_bytes _ _⟩
  | lzma2 d =>
    obtain ⟨p, hp, hp40, _⟩ := dictOk_spec d hf
    refine ⟨0x21, 1, [(XzInt.propOfDict d).getD 0], rfl, by decide, by decide, rfl, ?_⟩
    rw [hp]
    exact Bytes.cons (by simp only [Option.getD_some]; omega) Bytes.nil

theorem parseFilters_ok : ∀ (fs : List Filter), (∀ f ∈ fs, AnyOk f) → ∀ r,
    parseFilters fs.length ((fs.map encFilter).flatten ++ r) = .ok (fs.map readerFilter, r) := by
  intro fs
  induction fs with
  | nil => intro _ r; rfl
  | cons f fs ih =>
    intro h r
    simp only [List.length_cons, List.map_cons, List.flatten_cons, List.append_assoc, parseFilters]
    rw [parseFilter_any f (h f List.mem_cons_self)]
    simp only [bind, Except.bind]
    rw [ih (fun g hg => h g (List.mem_cons_of_mem _ hg))]
    rfl

theorem encFilters_spec : ∀ (fs : List Filter), (∀ f ∈ fs, AnyOk f) →
    ((fs.map encFilter).flatten).length ≤ 6 * fs.length ∧ Bytes ((fs.map encFilter).flatten) := by
  intro fs
  induction fs with
  | nil => intro _; exact ⟨by simp, Bytes.nil⟩
  | cons f fs ih =>
    intro h
    obtain ⟨id, psz, props, he, h1, h2, h3, h4⟩ := encFilter_shape f (h f List.mem_cons_self)
    obtain ⟨c, d⟩ := ih (fun g hg => h g (List.mem_cons_of_mem _ hg))
    simp only [List.map_cons, List.flatten_cons, List.length_append, he, List.length_cons]
    exact ⟨by omega, Bytes.append (Bytes.cons (by omega) (Bytes.cons (by omega) h4)) d⟩

theorem filtersOk_spec (fs : List Filter) (h : FiltersOk fs) :
    ∃ pre d, fs = pre ++ [.lzma2 d] ∧ pre.length ≤ 3 ∧ (∀ f ∈ pre, PreOk f) ∧ DictOk d := by
  obtain ⟨h1, h2, h3⟩ := h
  rcases hl : fs.getLast? with _ | f
  · rw [hl] at h3; exact absurd h3 (by simp [LastOk])
  · rw [hl] at h3
    cases f with
    | delta _ => exact absurd h3 (by simp [LastOk])
    | bcj _ _ => exact absurd h3 (by simp [LastOk])
    | lzma2 d =>
      obtain ⟨ys, rfl⟩ := List.getLast?_eq_some_iff.mp hl
      rw [List.dropLast_concat] at h2
      refine ⟨ys, d, rfl, ?_, h2, h3⟩
      simp only [List.length_append, List.length_cons, List.length_nil] at h1
      omega

theorem map_readerFilter_pre (pre : List Filter) (h : ∀ f ∈ pre, PreOk f) : pre.map readerFilter = pre := by
  induction pre with
  | nil => rfl
  | cons f pre ih =>
    have hf : readerFilter f = f := by
      cases f with
      | delta _ => rfl
      | bcj _ _ => rfl
      | lzma2 _ => exact absurd (h _ List.mem_cons_self) (by simp [PreOk])
    rw [List.map_cons, hf, ih (fun g hg => h g (List.mem_cons_of_mem _ hg))]

theorem filtersOk_any (fs : List Filter) (h : FiltersOk fs) : ∀ f ∈ fs, AnyOk f := by
  obtain ⟨pre, d, rfl, _, hp, hd⟩ := filtersOk_spec fs h
  intro f hf
  rcases List.mem_append.mp hf with h | h
  · have := hp f h
    cases f with
    | delta _ => exact this
    | bcj _ _ => exact this
    | lzma2 _ => exact absurd this (by simp [PreOk])
  · simp only [List.mem_singleton] at h
    subst h; exact hd

theorem readerDict_append (pre : List Filter) (d : Nat) : readerDict (pre ++ [.lzma2 d]) = readerDict1 d := by
  simp [readerDict]

theorem getLast?_map_readerFilter (pre : List Filter) (d : Nat) :
    ((pre ++ [Filter.lzma2 d]).map readerFilter).getLast? = some (.lzma2 (readerDict1 d)) := by
  simp [readerFilter]

theorem replicate0_any (n : Nat) : (List.replicate n 0).any (fun x => decide (x ≠ 0)) = false := by
  induction n with
  | zero => rfl
  | succ n ih => simp [List.replicate_succ]

theorem blockHeaderBytes_length (fs : List Filter) :
    (blockHeaderBytes fs).length = (((fs.map encFilter).flatten).length + 9) / 4 * 4 := by
  simp only [blockHeaderBytes, List.length_cons, List.length_append, List.length_replicate, le_length]
  omega

/-- an admissible chain has at most four entries of at most six bytes -/
theorem blockHeaderBytes_le (fs : List Filter) (hfs : FiltersOk fs) : (blockHeaderBytes fs).length ≤ 32 := by
  rw [blockHeaderBytes_length]
  have := (encFilters_spec fs (filtersOk_any fs hfs)).1
  have := hfs.1
  omega

theorem blockHeaderBytes_mod4 (fs : List Filter) : (blockHeaderBytes fs).length % 4 = 0 := by
  rw [blockHeaderBytes_length]; omega

theorem blockHeaderBytes_pos (fs : List Filter) : 8 ≤ (blockHeaderBytes fs).length := by
  rw [blockHeaderBytes_length]; omega

theorem blockHeaderBytes_parts (fs : List Filter) (hfs : FiltersOk fs) :
    ∃ sz k, blockHeaderBytes fs = sz :: (fs.length - 1) :: ((fs.map encFilter).flatten ++ (List.replicate k 0 ++
        le 4 (crc32 (sz :: (fs.length - 1) :: ((fs.map encFilter).flatten ++ List.replicate k 0))))) ∧
      sz ≠ 0 ∧ sz < 256 ∧ (sz + 1) * 4 - 1 = 1 + ((fs.map encFilter).flatten).length + k + 4 ∧ 1 ≤ fs.length := by
  obtain ⟨pre, d, hfsE, hpl, -, -⟩ := filtersOk_spec fs hfs
  have hlen1 : 1 ≤ fs.length := by
    rw [hfsE]; simp only [List.length_append, List.length_cons, List.length_nil]; omega
  have hlen4 := hfs.1
  obtain ⟨hfl, -⟩ := encFilters_spec fs (filtersOk_any fs hfs)
  have hflags : (fs.length - 1) % 256 = fs.length - 1 := by omega
  simp only [blockHeaderBytes, hflags, List.length_cons, List.cons_append, List.append_assoc]
  generalize (fs.map encFilter).flatten = filt at *
  exact ⟨_, _, rfl, by omega, by omega, by omega, hlen1⟩

/-- LZMA2 comes back with the dictionary size the property byte announces (`readerFilter`) -/
theorem parseBlockHeader_ok (fs : List Filter) (hfs : FiltersOk fs) (r : List Nat) :
    parseBlockHeader (blockHeaderBytes fs ++ r)
      = .ok (some { filters := fs.map readerFilter, size := (blockHeaderBytes fs).length }, r) := by
  obtain ⟨sz, k, he, hsz, hsz', hlen, hlen1⟩ := blockHeaderBytes_parts fs hfs
  have hlen4 := hfs.1
  obtain ⟨-, hfb⟩ := encFilters_spec fs (filtersOk_any fs hfs)
  obtain ⟨pre, d, hfsE, -, -, -⟩ := filtersOk_spec fs hfs
  have hlast : (fs.map readerFilter).getLast? = some (.lzma2 (readerDict1 d)) := by
    rw [hfsE]; exact getLast?_map_readerFilter pre d
  have hC := ofLe_le_crc32 (sz :: (fs.length - 1) :: ((fs.map encFilter).flatten ++ List.replicate k 0))
    (Bytes.cons hsz' (Bytes.cons (by omega) (Bytes.append hfb (Bytes.replicate0 k))))
  have hL := le_length 4 (crc32 (sz :: (fs.length - 1) :: ((fs.map encFilter).flatten ++ List.replicate k 0)))
  have hpf := parseFilters_ok fs (filtersOk_any fs hfs) (List.replicate k 0 ++
    le 4 (crc32 (sz :: (fs.length - 1) :: ((fs.map encFilter).flatten ++ List.replicate k 0))))
  have hsize : (blockHeaderBytes fs).length = (sz + 1) * 4 := by
    rw [he]
    simp only [List.length_cons, List.length_append, List.length_replicate, le_length]
    omega
  rw [hsize, he]
  generalize le 4 _ = L at *
  generalize (fs.map encFilter).flatten = filt at *
  generalize fs.map readerFilter = rfs at *
  generalize fs.length = n at *
  have hhd : ((n - 1) :: (filt ++ (List.replicate k 0 ++ L))).length = (sz + 1) * 4 - 1 := by
    simp only [List.length_cons, List.length_append, List.length_replicate]; omega
  rw [List.cons_append, parseBlockHeader, if_neg hsz]
  refine bind_eq_ok.mpr ⟨_, takeN_append _ _ _ hhd, ?_⟩
  refine bind_eq_ok.mpr ⟨(none, filt ++ (List.replicate k 0 ++ L)), if_neg (by rw [List.getD_cons_zero]; omega), ?_⟩
  refine bind_eq_ok.mpr ⟨(none, filt ++ (List.replicate k 0 ++ L)), if_neg (by rw [List.getD_cons_zero]; omega), ?_⟩
  refine bind_eq_ok.mpr ⟨(rfs, List.replicate k 0 ++ L), ?_, ?_⟩
  · rw [List.getD_cons_zero, show (n - 1) % 4 + 1 = n by omega]; exact hpf
  · simp only [hlast]
    have hPL : (List.replicate k 0 ++ L).length - 4 = k := by
      rw [List.length_append, List.length_replicate]; omega
    refine guard_eq_ok.mpr ⟨by rw [List.length_append]; omega, ?_⟩
    refine guard_eq_ok.mpr ⟨by rw [hPL, List.take_left' (List.length_replicate ..), replicate0_any]; exact Bool.false_ne_true, ?_⟩
    refine guard_eq_ok.mpr ⟨?_, rfl⟩
    have e : List.take (((n - 1) :: (filt ++ (List.replicate k 0 ++ L))).length - 4) ((n - 1) :: (filt ++ (List.replicate k 0 ++ L)))
        = (n - 1) :: (filt ++ List.replicate k 0) := by
      have : (n - 1) :: (filt ++ (List.replicate k 0 ++ L)) = ((n - 1) :: (filt ++ List.replicate k 0)) ++ L := by simp
      rw [this, List.length_append, hL, Nat.add_sub_cancel, List.take_left]
    rw [hPL, List.drop_left' (List.length_replicate ..), e, hC]
    exact not_not_intro rfl

theorem parseBlockHeader_inv {inp inp' : List Nat} {o : Option BlockHeader}
    (hp : parseBlockHeader inp = .ok (o, inp')) :
    match o with
    | none => inp = 0 :: inp'
    | some h => inp.length = h.size + inp'.length ∧ h.size % 4 = 0 ∧ 8 ≤ h.size := by
  cases inp with
  | nil => cases hp
  | cons sz t =>
    rw [parseBlockHeader] at hp
    by_cases hsz : sz = 0
    · subst hsz
      rw [if_pos rfl] at hp
      cases hp
      exact rfl
    · rw [if_neg hsz] at hp
      obtain ⟨⟨hd, inp1⟩, hT, h1⟩ := bind_eq_ok.mp hp
      obtain ⟨⟨cs, d1⟩, -, h2⟩ := bind_eq_ok.mp h1
      obtain ⟨⟨us, d2⟩, -, h3⟩ := bind_eq_ok.mp h2
      obtain ⟨⟨fs, d3⟩, -, h4⟩ := bind_eq_ok.mp h3
      obtain ⟨rfl, hl⟩ := takeN_ok hT
      simp only [] at h4
      split at h4
      · obtain ⟨-, h5⟩ := guard_eq_ok.mp h4
        obtain ⟨-, h6⟩ := guard_eq_ok.mp h5
        obtain ⟨-, h7⟩ := guard_eq_ok.mp h6
        cases h7
        simp only [List.length_cons, List.length_append]
        omega
      · cases h4

theorem parseBlockHeader_len {inp inp' : List Nat} {h : BlockHeader}
    (hp : parseBlockHeader inp = .ok (some h, inp')) :
    inp.length = h.size + inp'.length ∧ h.size % 4 = 0 ∧ 8 ≤ h.size :=
  parseBlockHeader_inv hp

/-- after the header bytes have been taken nothing looks at the input any more -/
theorem parseBlockHeader_ext : Ext parseBlockHeader app2 := by
  intro inp b h x
  cases inp with
  | nil => cases h
  | cons sz t =>
    rw [parseBlockHeader] at h
    rw [List.cons_append, parseBlockHeader]
    by_cases hsz : sz = 0
    · rw [if_pos hsz] at h ⊢
      cases h
      rfl
    · rw [if_neg hsz] at h ⊢
      refine (show Ext _ app2 from Ext.bind (takeN_ext _) fun _ => Ext.seq fun _ => Ext.seq fun _ =>
        Ext.seq fun fs => ?_) h x
      obtain ⟨fs, data⟩ := fs
      dsimp only
      rcases fs.getLast? with _ | (_ | _ | _)
      · exact Ext.throw
      · exact Ext.throw
      · exact Ext.throw
      · exact Ext.guard <| Ext.guard <| Ext.guard <| Ext.pure fun _ _ => rfl

/-- index records the format can represent -/
def RecOk (r : Nat × Nat) : Prop := r.1 ≠ 0 ∧ r.1 < 2 ^ 63 ∧ r.2 < 2 ^ 63

def recBytes (recs : List (Nat × Nat)) : List Nat := (recs.map fun r => mb r.1 ++ mb r.2).flatten

theorem recBytes_spec : ∀ (recs : List (Nat × Nat)), (∀ r ∈ recs, RecOk r) →
    recs.length ≤ (recBytes recs).length ∧ (recBytes recs).length ≤ 18 * recs.length ∧ Bytes (recBytes recs) := by
  intro recs
  induction recs with
  | nil => intro _; exact ⟨by simp [recBytes], by simp [recBytes], Bytes.nil⟩
  | cons x recs ih =>
    intro h
    obtain ⟨_, h1, h2⟩ := h x List.mem_cons_self
    obtain ⟨a1, a2, a3, _⟩ := mb_spec x.1 h1
    obtain ⟨b1, b2, b3, _⟩ := mb_spec x.2 h2
    obtain ⟨c, c', d⟩ := ih (fun g hg => h g (List.mem_cons_of_mem _ hg))
    simp only [recBytes, List.map_cons, List.flatten_cons, List.length_append, List.length_cons] at c c' d ⊢
    exact ⟨by omega, by omega, Bytes.append (Bytes.append a3 b3) d⟩

theorem parseReaderAux_pos : ∀ (fuel : Nat) {data : List Nat} {shift acc n v k : Nat},
    XzInt.parseReaderAux fuel data shift acc n = .ok v k → n + 1 ≤ k ∧ k ≤ n + data.length := by
  intro fuel
  induction fuel with
  | zero => intro data shift acc n v k h; cases h
  | succ fuel ih =>
    intro data shift acc n v k h
    cases data with
    | nil => cases h
    | cons b bs =>
      rw [XzInt.parseReaderAux] at h
      split at h
      · cases h
      · split at h
        · cases h; rw [List.length_cons]; omega
        · have := ih h
          rw [List.length_cons]; omega

theorem mbReader_len {inp rest : List Nat} {v : Nat} (h : mbReader inp = .ok (v, rest)) :
    rest.length < inp.length := by
  unfold mbReader at h
  split at h
  · rename_i v' k hp
    cases h
    have := parseReaderAux_pos _ hp
    rw [List.length_drop]
    omega
  · cases h
  · cases h

theorem parseReaderAux_ext : ∀ (fuel : Nat) {data : List Nat} {shift acc n v k : Nat} (x : List Nat),
    XzInt.parseReaderAux fuel data shift acc n = .ok v k → XzInt.parseReaderAux fuel (data ++ x) shift acc n = .ok v k := by
  intro fuel
  induction fuel with
  | zero => intro data shift acc n v k x h; cases h
  | succ fuel ih =>
    intro data shift acc n v k x h
    cases data with
    | nil => cases h
    | cons b bs =>
      rw [XzInt.parseReaderAux] at h
      rw [List.cons_append, XzInt.parseReaderAux]
      split at h
      · cases h
      · rename_i hs
        rw [if_neg hs]
        split at h
        · rename_i hb
          rw [if_pos hb]
          exact h
        · rename_i hb
          rw [if_neg hb]
          exact ih x h

theorem mbReader_ext : Ext mbReader app2 := by
  intro inp b h x
  unfold mbReader at h ⊢
  split at h
  · rename_i v k hp
    cases h
    have := parseReaderAux_pos _ hp
    rw [show XzInt.parseReader (inp ++ x) = .ok v k from parseReaderAux_ext _ x hp]
    exact congrArg (fun l => Except.ok (v, l)) (List.drop_append_of_le_length (by omega))
  · cases h
  · cases h

/-- `parseRecords` by recursion on the number of records announced -/
def records : Nat → List (Nat × Nat) → List Nat → Except Err (List (Nat × Nat) × List Nat)
  | 0, acc, inp => .ok (acc.reverse, inp)
  | n + 1, acc, inp => do
    let (u, inp) ← mbReader inp
    let (s, inp) ← mbReader inp
    if u = 0 then throw .invalidData
    records n ((u, s) :: acc) inp

/-- a record takes at least two bytes, so fuel above the length of the input is never used up -/
theorem parseRecords_eq_records : ∀ (fuel n : Nat) (inp : List Nat) (acc : List (Nat × Nat)), inp.length < fuel →
    parseRecords fuel n inp acc = records n acc inp := by
  intro fuel
  induction fuel with
  | zero => intro _ _ _ h; omega
  | succ f ih =>
    intro n inp acc hf
    cases n with
    | zero => rfl
    | succ n =>
      rw [parseRecords, if_neg (Nat.succ_ne_zero n), records]
      refine bind_congr_ok fun ⟨u, inp1⟩ h1 => bind_congr_ok fun ⟨s, inp2⟩ h2 => ?_
      have l1 := mbReader_len h1
      have l2 := mbReader_len h2
      simp only [Nat.add_sub_cancel, ih n inp2 _ (by omega)]

theorem records_len : ∀ (n : Nat) {inp rest : List Nat} {acc recs : List (Nat × Nat)},
    records n acc inp = .ok (recs, rest) → recs.length = acc.length + n ∧ rest.length + 2 * n ≤ inp.length := by
  intro n
  induction n with
  | zero =>
    intro inp rest acc recs h
    cases h
    exact ⟨List.length_reverse, Nat.le_refl _⟩
  | succ n ih =>
    intro inp rest acc recs h
    rw [records] at h
    obtain ⟨⟨u, inp1⟩, h1, h⟩ := bind_eq_ok.mp h
    obtain ⟨⟨s, inp2⟩, h2, h⟩ := bind_eq_ok.mp h
    obtain ⟨-, h⟩ := guard_eq_ok.mp h
    have l1 := mbReader_len h1
    have l2 := mbReader_len h2
    obtain ⟨e, l⟩ := ih h
    rw [List.length_cons] at e
    exact ⟨by omega, by omega⟩

theorem records_ok : ∀ (recs acc : List (Nat × Nat)) (r : List Nat), (∀ x ∈ recs, RecOk x) →
    records recs.length acc (recBytes recs ++ r) = .ok (acc.reverse ++ recs, r) := by
  intro recs
  induction recs with
  | nil => intro acc r _; simp [records, recBytes]
  | cons x recs ih =>
    intro acc r h
    obtain ⟨h0, h1, h2⟩ := h x List.mem_cons_self
    rw [List.length_cons, records]
    simp only [recBytes, List.map_cons, List.flatten_cons, List.append_assoc]
    refine bind_eq_ok.mpr ⟨_, (mb_spec x.1 h1).2.2.2 _, bind_eq_ok.mpr ⟨_, (mb_spec x.2 h2).2.2.2 _, ?_⟩⟩
    refine guard_eq_ok.mpr ⟨h0, ?_⟩
    rw [show (recs.map fun r => mb r.1 ++ mb r.2).flatten = recBytes recs from rfl,
      ih (x :: acc) r fun g hg => h g (List.mem_cons_of_mem _ hg), List.reverse_cons, List.append_assoc]
    rfl

theorem records_ext : ∀ (n : Nat) (acc : List (Nat × Nat)), Ext (records n acc) app2 := by
  intro n
  induction n with
  | zero => intro acc; exact Ext.pure (f := fun inp => (acc.reverse, inp)) fun _ _ => rfl
  | succ n ih =>
    intro acc
    exact Ext.bind mbReader_ext fun _ => Ext.bind mbReader_ext fun _ => Ext.guard (ih _)

/-- the record loop as `parseIndex` calls it: its fuel grows with the input -/
theorem parseRecords_ext (n : Nat) : Ext (fun r => parseRecords (r.length + 1) n r []) app2 := by
  simp only [parseRecords_eq_records _ _ _ _ (Nat.lt_succ_self _)]
  exact records_ext n []

theorem indexBytes_eq (recs : List (Nat × Nat)) :
    indexBytes recs = 0 :: (mb recs.length ++ recBytes recs ++
      List.replicate ((4 - (1 + (mb recs.length ++ recBytes recs).length) % 4) % 4) 0 ++
      le 4 (crc32 (0 :: (mb recs.length ++ recBytes recs) ++
        List.replicate ((4 - (1 + (mb recs.length ++ recBytes recs).length) % 4) % 4) 0))) := by
  simp [indexBytes, recBytes]

theorem indexBytes_mod4 (recs : List (Nat × Nat)) : (indexBytes recs).length % 4 = 0 := by
  rw [indexBytes_eq]
  simp only [List.length_cons, List.length_append, List.length_replicate, le_length]
  omega

theorem parseIndex_ok (recs : List (Nat × Nat)) (hn : recs.length < 2 ^ 63) (h : ∀ x ∈ recs, RecOk x)
    (r : List Nat) :
    parseIndex ((indexBytes recs).tail ++ r) = .ok (recs, (indexBytes recs).length, r) := by
  have hsize : (indexBytes recs).length = 1 + (mb recs.length ++ recBytes recs).length +
      (4 - (1 + (mb recs.length ++ recBytes recs).length) % 4) % 4 + 4 := by
    rw [indexBytes_eq]
    simp only [List.length_cons, List.length_append, List.length_replicate, le_length]
    omega
  rw [hsize]
  obtain ⟨n1, _, n3, n4⟩ := mb_spec recs.length hn
  obtain ⟨rl, -, rb⟩ := recBytes_spec recs h
  rw [indexBytes_eq]
  simp only [List.tail_cons, List.append_assoc]
  unfold parseIndex
  rw [n4]
  simp only [bind, Except.bind]
  rw [parseRecords_eq_records _ _ _ _ (Nat.lt_succ_self _), records_ok recs [] _ h]
  simp only [List.reverse_nil, List.nil_append]
  have hc : (recs.map fun r => mb r.1 ++ mb r.2).flatten = recBytes recs := rfl
  simp only [hc]
  rw [takeN_append _ _ _ (List.length_replicate ..)]
  simp only [replicate0_any, Bool.false_eq_true, if_false]
  rw [takeN_append _ _ _ (le_length _ _)]
  have hb : Bytes (0 :: (mb recs.length ++ recBytes recs) ++
        List.replicate ((4 - (1 + (mb recs.length ++ recBytes recs).length) % 4) % 4) 0) :=
    Bytes.append (Bytes.cons (by decide) (Bytes.append n3 rb)) (Bytes.replicate0 _)
  simp only [List.append_assoc, List.cons_append] at hb ⊢
  simp only [ofLe_le_crc32 _ hb, ne_eq, not_true_eq_false, if_false]
  rfl

theorem parseIndex_inv {inp rest : List Nat} {recs : List (Nat × Nat)} {isize : Nat}
    (h : parseIndex inp = .ok (recs, isize, rest)) :
    isize = (indexBytes recs).length ∧
    (∃ inp1, mbReader inp = .ok (recs.length, inp1) ∧ rest.length + 2 * recs.length + 4 ≤ inp1.length) ∧
      rest.length + 2 * recs.length + 5 ≤ inp.length := by
  unfold parseIndex at h
  obtain ⟨⟨n, inp1⟩, h1, h⟩ := bind_eq_ok.mp h
  obtain ⟨⟨recs', inp2⟩, hr, h⟩ := bind_eq_ok.mp h
  obtain ⟨⟨pad, inp3⟩, hT3, h⟩ := bind_eq_ok.mp h
  obtain ⟨-, h⟩ := guard_eq_ok.mp h
  obtain ⟨⟨crc, inp4⟩, hT4, h⟩ := bind_eq_ok.mp h
  obtain ⟨-, h⟩ := guard_eq_ok.mp h
  cases h
  rw [parseRecords_eq_records _ _ _ _ (Nat.lt_succ_self _)] at hr
  obtain ⟨hn, hl⟩ := records_len _ hr
  have c1 := mbReader_len h1
  obtain ⟨rfl, _⟩ := takeN_ok hT3
  obtain ⟨rfl, l4⟩ := takeN_ok hT4
  rw [List.length_nil, Nat.zero_add] at hn
  simp only [List.length_append] at hl
  refine ⟨?_, ⟨inp1, hn ▸ h1, by omega⟩, by omega⟩
  rw [indexBytes_eq, ← hn]
  simp only [List.length_cons, List.length_append, List.length_replicate, le_length, recBytes]
  omega

theorem parseIndex_size {inp rest : List Nat} {recs : List (Nat × Nat)} {isize : Nat}
    (h : parseIndex inp = .ok (recs, isize, rest)) : isize = (indexBytes recs).length :=
  (parseIndex_inv h).1

theorem parseIndex_ext : Ext parseIndex (fun b x => (b.1, b.2.1, b.2.2 ++ x)) :=
  Ext.bind mbReader_ext fun n => Ext.bind (parseRecords_ext n) fun _ => Ext.bind (takeN_ext _) fun _ =>
    Ext.guard <| Ext.bind (takeN_ext 4) fun _ => Ext.guard <| Ext.pure fun _ _ => rfl

theorem lzma2_consumed_le {dict : Nat} {pre : Array Nat} {inp : List Nat} {cap : Nat} {r : Lzma2.DecOk}
    (h : Lzma2.decode dict pre inp cap = .ok r) : r.consumed ≤ inp.length := by
  unfold Lzma2.decode at h
  split at h
  · injection h with h; subst h; simp only; omega
  · cases h
  · cases h

theorem decodeBlockBody_len {chk : Check} {h : BlockHeader} {cb : Nat} {inp : List Nat} {cap : Nat}
    {blk : Block} {rest : List Nat} (hd : decodeBlockBody chk h cb inp cap = .ok blk rest) :
    rest.length ≤ inp.length ∧ (cb + (inp.length - rest.length)) % 4 = 0 ∧ blk.header = h := by
  revert hd
  rw [decodeBlockBody]
  refine of_guard_ok nofun fun _ => ?_
  split
  · exact nofun
  · exact nofun
  · rename_i r hr
    simp only []
    split
    · exact nofun
    · rename_i pad rest1 hT
      refine of_guard_ok nofun fun _ => ?_
      split
      · exact nofun
      · rename_i stored rest2 hT2
        refine of_guard_ok nofun fun _ => ?_
        refine of_guard_ok nofun fun _ => ?_
        refine of_guard_ok nofun fun _ => ?_
        intro hd
        cases hd
        obtain ⟨e1, l1⟩ := takeN_ok hT
        obtain ⟨e2, l2⟩ := takeN_ok hT2
        have hc := lzma2_consumed_le hr
        have hl : inp.length = r.consumed + (pad.length + (chk.size + rest.length)) := by
          rw [← List.take_append_drop r.consumed inp, e1, e2]
          simp only [List.length_append, List.length_take, l2, Nat.min_eq_left hc]
        have hp : (cb + r.consumed + pad.length) % 4 = 0 := by omega
        have := size_mod4 chk
        -- from here only `hl`, `hp` and the check size matter (fewer facts for `omega` to sift)
        clear l1 l2 e1 e2 hT hT2 hr
        exact ⟨by omega, by omega, rfl⟩

/-- a next stream was found: `k` bytes of padding, aligned, then the 12 bytes of its header -/
theorem nextStream_len : ∀ (fuel : Nat) {inp rest : List Nat} {z : Nat} {c : Check},
    nextStream fuel inp z = .ok (some (c, rest)) →
    ∃ k, inp.length = k + 12 + rest.length ∧ (z + k) % 4 = 0 := by
  intro fuel
  induction fuel with
  | zero => intro inp rest z c h; cases h
  | succ fuel ih =>
    intro inp rest z c h
    cases inp with
    | nil => rw [nextStream] at h; split at h <;> cases h
    | cons b t =>
      rw [nextStream] at h
      by_cases hb : b = 0
      · rw [if_pos hb] at h
        obtain ⟨k, h1, h2⟩ := ih h
        exact ⟨k + 1, by rw [List.length_cons]; omega, by omega⟩
      · rw [if_neg hb] at h
        split at h
        · cases h
        · obtain ⟨-, h1⟩ := guard_eq_ok.mp h
          obtain ⟨-, h2⟩ := guard_eq_ok.mp h1
          obtain ⟨hz, h3⟩ := guard_eq_ok.mp h2
          obtain ⟨⟨c', rest'⟩, hF, h4⟩ := bind_eq_ok.mp h3
          cases h4
          have hl := parseFlags_len hF
          rw [List.length_drop] at hl
          exact ⟨0, by omega, by omega⟩

end LzmaVerif.Xz
