import LzmaVerif.Model.Lzip
import Mathlib.Tactic.IntervalCases
namespace LzmaVerif.Lzip

theorem min_eq : MIN_DICT_SIZE = 4096 := by decide
theorem max_eq : MAX_DICT_SIZE = 2 ^ 29 := by decide

theorem ceilLog2_spec (d : Nat) (h1 : 4096 ≤ d) (h2 : d ≤ 2^29) :
    12 ≤ ceilLog2 d ∧ ceilLog2 d ≤ 29 ∧ d ≤ 2 ^ (ceilLog2 d) ∧
      (ceilLog2 d = 12 ∨ 2 ^ (ceilLog2 d - 1) < d) := by
  have hd : d ≠ 0 := by omega
  have hlo : 2 ^ (Nat.log2 d) ≤ d := Nat.log2_self_le hd
  have hhi : d < 2 ^ (Nat.log2 d + 1) := Nat.lt_log2_self
  have hl12 : 12 ≤ Nat.log2 d := (Nat.le_log2 hd).2 h1
  unfold ceilLog2
  simp only
  split <;> rename_i hlt
  · -- not a power of two: `2 ^ log2 d < d ≤ 2 ^ 29`
    have hl28 : Nat.log2 d < 29 := (Nat.pow_lt_pow_iff_right (by decide)).1 (Nat.lt_of_lt_of_le hlt h2)
    rw [if_neg (by omega)]
    exact ⟨by omega, by omega, by omega, .inr (by simpa using hlt)⟩
  · have hl29 : Nat.log2 d < 30 := (Nat.log2_lt hd).2 (by omega)
    rw [if_neg (by omega)]
    refine ⟨hl12, by omega, by omega, ?_⟩
    by_cases h12 : Nat.log2 d = 12
    · exact .inl h12
    · have : 2 ^ (Nat.log2 d - 1) < 2 ^ (Nat.log2 d) := Nat.pow_lt_pow_right (by decide) (by omega)
      exact .inr (by omega)

theorem pow_split (b : Nat) (hb : 4 ≤ b) : 2 ^ b = 16 * 2 ^ (b - 4) := by
  have : b = (b - 4) + 4 := by omega
  conv => lhs; rw [this, Nat.pow_add]
  omega

theorem pow_div16 (b : Nat) (hb : 4 ≤ b) : 2 ^ b / 16 = 2 ^ (b - 4) := by
  rw [pow_split b hb]; omega

theorem decodeDict_eq (b k : Nat) (hb1 : 12 ≤ b) (hb2 : b ≤ 29) (hk : k ≤ 7) :
    decodeDict (k * 32 + b) =
      (if 4096 ≤ 2 ^ b - 2 ^ (b - 4) * k ∧ 2 ^ b - 2 ^ (b - 4) * k ≤ 2 ^ 29
       then some (2 ^ b - 2 ^ (b - 4) * k) else none) := by
  unfold decodeDict
  have hm : (k * 32 + b) % 32 = b := by omega
  have hdv : (k * 32 + b) / 32 = k := by omega
  simp only [hm, hdv, hb1, hb2, and_self, if_true, min_eq, max_eq, pow_div16 b (by omega)]

theorem decodeDict_some (e d : Nat) (h : decodeDict e = some d) :
    12 ≤ e % 32 ∧ e % 32 ≤ 29 ∧ d = 2 ^ (e % 32) - 2 ^ (e % 32 - 4) * (e / 32) ∧ 4096 ≤ d ∧ d ≤ 2 ^ 29 := by
  unfold decodeDict at h
  simp only [min_eq, max_eq] at h
  split at h
  · rename_i hb
    split at h
    · rename_i hd
      simp only [Option.some.injEq] at h
      rw [pow_div16 _ (by omega)] at h hd
      exact ⟨hb.1, hb.2, h.symm, by omega, by omega⟩
    · cases h
  · cases h

end LzmaVerif.Lzip
