import LzmaVerif.Model.BcjStream
import LzmaVerif.Proofs.Stream
import LzmaVerif.Proofs.FiltersArm
import LzmaVerif.Proofs.FiltersPpc
import LzmaVerif.Proofs.FiltersSparc
import LzmaVerif.Proofs.FiltersThumb
import LzmaVerif.Proofs.FiltersArm64
import LzmaVerif.Proofs.FiltersIa64
import LzmaVerif.Proofs.FiltersRiscv
import LzmaVerif.Proofs.FiltersX86
/-!
The eight BCJ filters are restartable (`bcj_restartable`), hence `writeParts_eq_oneShot`, `readAll_eq_oneShot`.

Every loop is the scan of a step (`*Loop_eq_scan` of the per-architecture files, `x86Loop_eq` here) that keeps the size,
leaves the bytes behind the new index alone, and is local: at index `pre.length` of `pre ++ G ++ post` it does to the
window `G` what it does to `G` alone at the stream position of that index (`LocalStep`).  A local step is a window
scanner (`scanLoop_spec`), so `Restartable.of_scanner` applies.  For the five filters with a four-byte window
locality is proved once, for `winStep` (`winStep_localStep`); a further such filter (recipe: FiltersFields.lean) needs
`x_local`, `LocalStep.restartable` and a case in `bcj_restartable` here.  x86 carries a loop state: the mask an opcode
at the current index would see.

Three scans meet here.  `Filters.scan W step` (FiltersBase; hidden by the `open` below, always written with its
namespace) runs a step without loop state over the byte array: the normal form of the architecture files.
`scanLoop W astep` is the same loop with a loop state, for x86; `Filters.scan` is its case of a `Unit` state
(`scan_eq_scanLoop`).  `Stream.scan S` runs a window function over a LIST, index and buffer gone: on it restart is
proved; a `scanLoop` whose step is local is a `Stream.scan` (`scanLoop_spec`).  Likewise `Filters.StepOK` is the
encoder/decoder step pair of the inverse proofs, `Stream.StepFits` what one scanner step may do to its window.
-/
namespace LzmaVerif.BcjStream
open LzmaVerif.Stream
open LzmaVerif.Filters hiding scan

/-! Rewriting with these turns an iteration on `pre ++ G ++ post` into the same iteration on the window `G` alone. -/

theorem gb_local (pre post : List Nat) (G : Buf) (j : Nat) (hj : j < G.size) :
    gb (pre ++ G.toList ++ post).toArray (pre.length + j) = gb G j := by
  simp only [gb, Array.getD_eq_getD_getElem?, List.getElem?_toArray, List.append_assoc]
  rw [List.getElem?_append_right (by omega), Nat.add_sub_cancel_left,
    List.getElem?_append_left (by simpa using hj), Array.getElem?_toList]

theorem gb_local0 (pre post : List Nat) (G : Buf) (h0 : 0 < G.size) :
    gb (pre ++ G.toList ++ post).toArray pre.length = gb G 0 :=
  gb_local pre post G 0 h0

theorem sb_local (pre post : List Nat) (G : Buf) (j v : Nat) (hj : j < G.size) :
    sb (pre ++ G.toList ++ post).toArray (pre.length + j) v =
      (pre ++ (sb G j v).toList ++ post).toArray := by
  simp only [sb, List.setIfInBounds_toArray, List.append_assoc, Array.toList_setIfInBounds]
  rw [List.set_append_right _ _ (by omega), Nat.add_sub_cancel_left,
    List.set_append_left _ _ (by simpa using hj)]

theorem sb_local0 (pre post : List Nat) (G : Buf) (v : Nat) (h0 : 0 < G.size) :
    sb (pre ++ G.toList ++ post).toArray pre.length v = (pre ++ (sb G 0 v).toList ++ post).toArray :=
  sb_local pre post G 0 v h0

theorem ite_local (c : Prop) [Decidable c] (pre post : List Nat) (X Y : Buf) :
    (if c then (pre ++ X.toList ++ post).toArray else (pre ++ Y.toList ++ post).toArray) =
      (pre ++ (if c then X else Y).toList ++ post).toArray := by
  split <;> rfl

theorem get6_local (pre post : List Nat) (G : Buf) (o : Nat) (ho : o + 5 < G.size) :
    get6 (pre ++ G.toList ++ post).toArray (pre.length + o) = get6 G o := by
  simp (disch := omega) only [get6, Nat.add_assoc, gb_local]

theorem set6_local (pre post : List Nat) (G : Buf) (o v : Nat) (ho : o + 5 < G.size) :
    set6 (pre ++ G.toList ++ post).toArray (pre.length + o) v =
      (pre ++ (set6 G o v).toList ++ post).toArray := by
  unfold set6
  simp only [Nat.add_assoc]
  rw [sb_local _ _ _ _ _ (by omega), sb_local _ _ _ _ _ (by simp only [size_sb]; omega),
    sb_local _ _ _ _ _ (by simp only [size_sb]; omega), sb_local _ _ _ _ _ (by simp only [size_sb]; omega),
    sb_local _ _ _ _ _ (by simp only [size_sb]; omega), sb_local _ _ _ _ _ (by simp only [size_sb]; omega)]

theorem gb_mask_local (pre post : List Nat) (G : Buf) (m : Nat) (hG : 4 < G.size) :
    gb (pre ++ G.toList ++ post).toArray (pre.length + 4 - maskBit m) = gb G (4 - maskBit m) := by
  have := maskBit_le m
  rw [show pre.length + 4 - maskBit m = pre.length + (4 - maskBit m) by omega]
  exact gb_local pre post G _ (by omega)

def stAt (pos : Nat) : St := { pos := pos, prevMask := 0 }

theorem posAt_stAt (st : St) (i : Nat) : posAt (stAt (st.pos + i)) 0 = posAt st i := rfl

/-- the shape of `x86Loop`; `astep i t b`: the new buffer, the next index, the next loop state -/
def scanLoop {τ : Type} (W : Nat) (astep : Nat → τ → Buf → Buf × Nat × τ) :
    Nat → Nat → τ → Buf → Buf × Nat × τ
  | 0, i, t, b => (b, i, t)
  | f+1, i, t, b =>
    if i + W > b.size then (b, i, t) else
      scanLoop W astep f (astep i t b).2.1 (astep i t b).2.2 (astep i t b).1

theorem scanLoop_spec {τ : Type} {S : Scanner τ} (hS : S.Ok) (astep : Nat → τ → Buf → Buf × Nat × τ)
    (pos0 : Nat)
    (hloc : ∀ (pre win post : List Nat) (t : τ), win.length = S.W →
      astep pre.length t (pre ++ win ++ post).toArray =
        let r := S.step (pos0 + pre.length) t win
        ((pre ++ r.1 ++ post).toArray, pre.length + r.2.1, r.2.2))
    (f : Nat) :
    ∀ (pre rest : List Nat) (t : τ),
      scanLoop S.W astep f pre.length t (pre ++ rest).toArray =
        let q := scan S f (pos0 + pre.length) t rest
        ((pre ++ q.1).toArray, pre.length + q.2.1, q.2.2) := by
  induction f with
  | zero => intro pre rest t; rfl
  | succ f ih =>
    intro pre rest t
    rw [scanLoop, scan]
    by_cases hlt : rest.length < S.W
    · rw [if_pos (by simp; omega), if_pos hlt]
      rfl
    · have hw : (rest.take S.W).length = S.W := by rw [List.length_take]; omega
      obtain ⟨h0, _, h3, h4⟩ := hS.ok (pos0 + pre.length) t _ hw
      rw [if_neg (by simp; omega), if_neg hlt]
      have hl := hloc pre (rest.take S.W) (rest.drop S.W) t hw
      rw [List.append_assoc pre (rest.take S.W), List.take_append_drop] at hl
      rw [hl]
      generalize S.step (pos0 + pre.length) t (rest.take S.W) = r at *
      simp only
      -- the buffer after the iteration, cut at the new index
      have hb : pre ++ r.1 ++ rest.drop S.W = (pre ++ r.1.take r.2.1) ++ rest.drop r.2.1 := by
        conv => rhs; rw [← List.take_append_drop S.W rest]
        rw [List.drop_append_of_le_length (by omega), ← h4, List.append_assoc, List.append_assoc,
          ← List.append_assoc (r.1.take r.2.1), List.take_append_drop]
      have hpl : (pre ++ r.1.take r.2.1).length = pre.length + r.2.1 := by
        rw [List.length_append, List.length_take, h0, Nat.min_eq_left h3]
      rw [hb, ← hpl, ih, hpl]
      simp only [List.append_assoc, Nat.add_assoc]

theorem restartable_of_loop {τ : Type} {S : Scanner τ} (hS : S.Ok) (a : Arch) (enc : Bool)
    (astep : St → Nat → τ → Buf → Buf × Nat × τ) (abs : St → τ)
    (hframe : ∀ (st : St) (pre w post : List Nat) (t : τ), w.length = S.W →
      astep st pre.length t (pre ++ w ++ post).toArray =
        let r := S.step (st.pos + pre.length) t w
        ((pre ++ r.1 ++ post).toArray, pre.length + r.2.1, r.2.2))
    (hcode : ∀ st b,
      (Filters.code a enc st b).1 = (scanLoop S.W (astep st) (b.size + 1) 0 (abs st) b).1 ∧
      (Filters.code a enc st b).2.1 = (scanLoop S.W (astep st) (b.size + 1) 0 (abs st) b).2.1 ∧
      (Filters.code a enc st b).2.2.pos = st.pos + (Filters.code a enc st b).2.1 ∧
      abs (Filters.code a enc st b).2.2 = (scanLoop S.W (astep st) (b.size + 1) 0 (abs st) b).2.2) :
    Restartable (blockFilter a enc) :=
  Restartable.of_scanner hS (fun st : St => st.pos) abs fun st xs => by
    have h := scanLoop_spec hS (astep st) st.pos (hframe st) (xs.length + 1) [] xs (abs st)
    simp only [List.nil_append, List.length_nil, Nat.zero_add, Nat.add_zero] at h
    obtain ⟨c1, c2, c3, c4⟩ := hcode st xs.toArray
    rw [List.size_toArray, h] at c1 c2 c4
    exact ⟨congrArg Array.toList c1, c2, c3, c4⟩

theorem scan_eq_scanLoop (w : Nat) (step : Nat → Buf → Buf × Nat) : ∀ f i b,
    Filters.scan w step f i b =
      ((scanLoop w (fun i _ b => ((step i b).1, i + (step i b).2, ())) f i () b).1,
       (scanLoop w (fun i _ b => ((step i b).1, i + (step i b).2, ())) f i () b).2.1) := by
  intro f
  induction f with
  | zero => intro i b; rfl
  | succ f ih =>
    intro i b
    rw [Filters.scan, scanLoop]
    split
    · rfl
    · exact ih _ _

theorem StepFits.of_frame {W δ : Nat} {G G' : Buf} (hG : G.size = W) (hs : G'.size = G.size) (h0 : 0 < δ)
    (hle : δ ≤ W) (hf : ∀ k, δ ≤ k → gb G' k = gb G k) : StepFits W G.toList G'.toList δ := by
  refine ⟨by rw [Array.length_toList, hs, hG], h0, hle, List.ext_getElem? fun n => ?_⟩
  have := hf (δ + n) (Nat.le_add_right _ _)
  rw [List.getElem?_drop, List.getElem?_drop, Array.getElem?_toList, Array.getElem?_toList]
  by_cases hn : δ + n < G.size
  · simpa [gb, Array.getD_eq_getD_getElem?, hn, hs] using this
  · rw [Array.getElem?_eq_none (by omega), Array.getElem?_eq_none (by omega)]

/-- What the streaming proof needs of the step of a filter loop; `loc`: it sees and changes only the `W` bytes at its
    index, and the position only through the stream position of that index. -/
structure LocalStep (W : Nat) (step : St → Nat → Buf → Buf × Nat) : Prop where
  size : ∀ st i b, (step st i b).1.size = b.size
  adv : ∀ st i b, 0 < (step st i b).2 ∧ (step st i b).2 ≤ W
  frame : ∀ st i b k, i + (step st i b).2 ≤ k → gb (step st i b).1 k = gb b k
  loc : ∀ st (pre post : List Nat) (G : Buf), G.size = W →
    step st pre.length (pre ++ G.toList ++ post).toArray =
      ((pre ++ (step (stAt (st.pos + pre.length)) 0 G).1.toList ++ post).toArray,
        (step (stAt (st.pos + pre.length)) 0 G).2)

/-- `W ≤ 16` is `Restartable.bound`; `hcode` is what `simp only [Filters.code, xLoop_eq_scan]` proves. -/
theorem LocalStep.restartable {W : Nat} {step : St → Nat → Buf → Buf × Nat} (h : LocalStep W step)
    (hW0 : 0 < W) (hW16 : W ≤ 16) (a : Arch) (enc : Bool)
    (hcode : ∀ st b, Filters.code a enc st b =
      ((Filters.scan W (step st) (b.size + 1) 0 b).1, (Filters.scan W (step st) (b.size + 1) 0 b).2,
        { st with pos := st.pos + (Filters.scan W (step st) (b.size + 1) 0 b).2 })) :
    Restartable (blockFilter a enc) :=
  restartable_of_loop
    (S := ⟨W, fun pos _ w => ((step (stAt pos) 0 w.toArray).1.toList, (step (stAt pos) 0 w.toArray).2, ())⟩)
    ⟨hW0, hW16, fun pos _ w hw => StepFits.of_frame (G := w.toArray) hw (h.size _ _ _) (h.adv _ _ _).1 (h.adv _ _ _).2
      fun k hk => h.frame _ _ _ k (by rw [Nat.zero_add]; exact hk)⟩ a enc
    (fun st i _ b => ((step st i b).1, i + (step st i b).2, ())) (fun _ => ())
    (fun st pre w post _ hw => by
      have := h.loc st pre post w.toArray hw
      rw [this])
    (fun st b => by
      rw [hcode, scan_eq_scanLoop]
      exact ⟨rfl, rfl, rfl, rfl⟩)

section winStep
variable {R : Nat → Nat → Nat → Nat → Prop} [∀ b0 b1 b2 b3, Decidable (R b0 b1 b2 b3)]

theorem winStep_local {O O' : Nat → Nat → Nat → Nat → Nat → Nat × Nat × Nat × Nat} (pre post : List Nat) (G : Buf)
    (hG : G.size = 4) (hO : O' 0 = O pre.length) :
    winStep R O pre.length (pre ++ G.toList ++ post).toArray =
      (pre ++ (winStep R O' 0 G).toList ++ post).toArray := by
  simp only [winStep, put4, hO, hG, Nat.zero_add, gb_local, gb_local0, sb_local, sb_local0, size_sb, Nat.reduceLT,
    ite_local]

/-- `hO`: the output sees the index only through the stream position (`rfl` for the five `xOut`); `a`: the advance over
    a window that is not recognised (Thumb: 2). -/
theorem winStep_localStep (O : St → Nat → Nat → Nat → Nat → Nat → Nat × Nat × Nat × Nat) (a : Nat)
    (ha : 0 < a ∧ a ≤ 4) (hO : ∀ st k, O (stAt (st.pos + k)) 0 = O st k) :
    LocalStep 4 (fun st i b =>
      (winStep R (O st) i b, if R (gb b i) (gb b (i + 1)) (gb b (i + 2)) (gb b (i + 3)) then 4 else a)) where
  size st i b := winStep_size i b
  adv st i b := by
    simp only
    split <;> omega
  frame st i b k hk := by
    simp only at hk ⊢
    by_cases hr : R (gb b i) (gb b (i + 1)) (gb b (i + 2)) (gb b (i + 3))
    · rw [if_pos hr] at hk
      exact winStep_frame i b k (Or.inr hk)
    · exact congrArg (gb · k) (winStep_neg i b hr)
  loc st pre post G hG := by
    simp only [winStep_local pre post G hG (hO st pre.length), hG, Nat.zero_add, gb_local, gb_local0, Nat.reduceLT]

end winStep

theorem arm_local (enc : Bool) : LocalStep 4 (fun st i b => (armStep enc st i b, 4)) := by
  simpa only [ite_self, armStep] using winStep_localStep (fun st => armOut enc st) 4 (by decide) fun _ _ => rfl

theorem ppc_local (enc : Bool) : LocalStep 4 (fun st i b => (ppcStep enc st i b, 4)) := by
  simpa only [ite_self, ppcStep] using winStep_localStep (fun st => ppcOut enc st) 4 (by decide) fun _ _ => rfl

theorem sparc_local (enc : Bool) : LocalStep 4 (fun st i b => (sparcStep enc st i b, 4)) := by
  simpa only [ite_self, sparcStep] using winStep_localStep (fun st => sparcOut enc st) 4 (by decide) fun _ _ => rfl

theorem arm64_local (enc : Bool) : LocalStep 4 (fun st i b => (arm64Step enc st i b, 4)) := by
  simpa only [ite_self, arm64Step] using winStep_localStep (fun st => arm64Out enc st) 4 (by decide) fun _ _ => rfl

theorem thumb_local (enc : Bool) : LocalStep 4 (thumbStep enc) :=
  winStep_localStep (fun st => thumbOut enc st) 2 (by decide) fun _ _ => rfl

theorem arm_restartable (enc : Bool) : Restartable (blockFilter .arm enc) :=
  (arm_local enc).restartable (by decide) (by decide) .arm enc fun st b => by
    simp only [Filters.code, armLoop_eq_scan]

theorem ppc_restartable (enc : Bool) : Restartable (blockFilter .ppc enc) :=
  (ppc_local enc).restartable (by decide) (by decide) .ppc enc fun st b => by
    simp only [Filters.code, ppcLoop_eq_scan]

theorem sparc_restartable (enc : Bool) : Restartable (blockFilter .sparc enc) :=
  (sparc_local enc).restartable (by decide) (by decide) .sparc enc fun st b => by
    simp only [Filters.code, sparcLoop_eq_scan]

theorem arm64_restartable (enc : Bool) : Restartable (blockFilter .arm64 enc) :=
  (arm64_local enc).restartable (by decide) (by decide) .arm64 enc fun st b => by
    simp only [Filters.code, arm64Loop_eq_scan]

theorem thumb_restartable (enc : Bool) : Restartable (blockFilter .armThumb enc) :=
  (thumb_local enc).restartable (by decide) (by decide) .armThumb enc fun st b => by
    simp only [Filters.code, thumbLoop_eq_scan]

theorem ite_frame (pre post : List Nat) (c : Prop) [Decidable c] (x y : Buf × Nat) :
    ((pre ++ (if c then x else y).1.toList ++ post).toArray, (if c then x else y).2) =
      if c then ((pre ++ x.1.toList ++ post).toArray, x.2) else ((pre ++ y.1.toList ++ post).toArray, y.2) := by
  split <;> rfl

theorem riscv_local (enc : Bool) : LocalStep 8 (riscvStep enc) where
  size := riscvStep_size enc
  adv st i b := riscvK_leaf (fun r => 0 < r.2 ∧ r.2 ≤ 8) enc st i b Prod.mk (by omega) (fun _ _ _ => by omega)
    (fun _ _ => by omega)
  frame st i b k hk := riscvStep_frame enc st i b k (Or.inr hk)
  loc st pre post G hG := by
    simp only [riscvStep, riscvK, rvJal, rvPairOut, rvSpecOut, put4, le32, be32, hG, Nat.zero_add, Nat.add_assoc,
      Nat.reduceAdd, gb_local, gb_local0, sb_local, sb_local0, size_sb, posAt_stAt, Nat.reduceLT, ite_frame, ite_local]

theorem riscv_restartable (enc : Bool) : Restartable (blockFilter .riscv enc) :=
  (riscv_local enc).restartable (by decide) (by decide) .riscv enc fun st b => by
    simp only [Filters.code, riscvLoop_eq_scan]

theorem slotOp_local (c : Prop) [Decidable c] (enc : Bool) (p i o br : Nat) (pre post : List Nat) (G : Buf)
    (hi : i = pre.length + o) (ho : o + 5 < G.size) :
    slotOp c enc p i br (pre ++ G.toList ++ post).toArray =
      (pre ++ (slotOp c enc p o br G).toList ++ post).toArray := by
  simp only [slotOp, hi, get6_local _ _ _ _ ho, set6_local _ _ _ _ _ ho, ite_local]

theorem ia64_local (enc : Bool) : LocalStep 16 (fun st i b => (ia64Step enc st i b, 16)) where
  size st i b := ia64Step_size enc st i b
  adv _ _ _ := ⟨Nat.succ_pos 15, Nat.le_refl 16⟩
  frame st i b k hk := ia64Step_frame enc st i b k (Or.inr hk)
  loc st pre post G hG := by
    have hm : ia64Mask (pre ++ G.toList ++ post).toArray pre.length = ia64Mask G 0 := by
      simp only [ia64Mask, gb_local0 pre post G (by omega)]
    simp only [ia64Step, hm, posAt_stAt, Nat.zero_add]
    rw [slotOp_local _ _ _ pre.length 0 _ pre post G rfl (by omega),
      slotOp_local _ _ _ _ 5 _ pre post _ rfl (by simp only [slotOp_size]; omega),
      slotOp_local _ _ _ _ 10 _ pre post _ rfl (by simp only [slotOp_size]; omega)]

theorem ia64_restartable (enc : Bool) : Restartable (blockFilter .ia64 enc) :=
  (ia64_local enc).restartable (by decide) (by decide) .ia64 enc fun st b => by
    simp only [Filters.code, ia64Loop_eq_scan]

/-! x86.  All that counts of the loop state `(prev_pos, prev_mask)` at index `i` is the mask an opcode at `i` would see
(`effPm`): three bits.  On it the loop is a scanner like the others: a byte that is no opcode shifts the mask, a
converted opcode clears it (the next index is 5 on), an opcode seen and not converted shifts a 1 in.  The stored
`prev_mask` abstracts to it by `&&& 7`. -/

def x86Step (enc : Bool) (st : St) (i m : Nat) (b : Buf) : Buf × Nat × Nat :=
  if gb b i ≠ 0xE8 ∧ gb b i ≠ 0xE9 then (b, i + 1, (m <<< 1) &&& 7) else
  if cvt m b i then (store b i (x86Conv enc (posAt st i) m 64 (opnd b i)), i + 5, 0)
  else (b, i + 1, ((m <<< 1) ||| 1) &&& 7)

theorem shl_and7 (x n : Nat) (h : 3 ≤ n) : (x <<< n) &&& 7 = 0 := by
  have h7 : (7 : Nat) = 2 ^ 3 - 1 := rfl
  rw [h7, Nat.and_two_pow_sub_one_eq_mod, Nat.shiftLeft_eq]
  obtain ⟨k, rfl⟩ : ∃ k, n = 3 + k := ⟨n - 3, by omega⟩
  rw [Nat.pow_add, ← Nat.mul_assoc, Nat.mul_comm x, Nat.mul_assoc]
  exact Nat.mul_mod_right _ _

theorem and7_shl1 (x : Nat) : ((x &&& 7) <<< 1) &&& 7 = (x <<< 1) &&& 7 := by
  have h7 : (7 : Nat) = 2 ^ 3 - 1 := rfl
  simp only [h7, Nat.and_two_pow_sub_one_eq_mod, Nat.shiftLeft_eq]
  omega

theorem effPm_succ (pp : Option Nat) (m i : Nat) (hd : 1 ≤ xDist pp i) :
    1 ≤ xDist pp (i + 1) ∧ effPm pp m (i + 1) = (effPm pp m i <<< 1) &&& 7 := by
  have hx : xDist pp (i + 1) = xDist pp i + 1 := by
    cases pp <;> simp only [xDist] at hd ⊢ <;> omega
  refine ⟨by omega, ?_⟩
  simp only [effPm, hx, Nat.add_sub_cancel]
  by_cases h3 : xDist pp i > 3
  · rw [if_pos h3, if_pos (by omega)]; rfl
  · rw [if_neg h3, and7_shl1, ← Nat.shiftLeft_add, show xDist pp i - 1 + 1 = xDist pp i by omega]
    split
    · exact (shl_and7 _ _ (by omega)).symm
    · rfl

/-- the `(prev_pos, prev_mask)` the loop goes on with are left existential: only their effective mask is needed -/
theorem x86Loop_succ (enc : Bool) (st : St) (f i : Nat) (pp : Option Nat) (pm : Nat) (b : Buf)
    (h : ¬ i + 5 > b.size) (hd : 1 ≤ xDist pp i) :
    ∃ pp' pm', x86Loop enc st (f + 1) i pp pm b =
        x86Loop enc st f (x86Step enc st i (effPm pp pm i) b).2.1 pp' pm' (x86Step enc st i (effPm pp pm i) b).1 ∧
      1 ≤ xDist pp' (x86Step enc st i (effPm pp pm i) b).2.1 ∧
      effPm pp' pm' (x86Step enc st i (effPm pp pm i) b).2.1 = (x86Step enc st i (effPm pp pm i) b).2.2 := by
  rw [x86Loop_step enc st f i pp pm b h, x86Step]
  split
  · exact ⟨pp, pm, rfl, effPm_succ pp pm i hd⟩
  · have h1 : xDist (some i) (i + 1) = 1 := by simp only [xDist]; omega
    have h5 : xDist (some i) (i + 5) = 5 := by simp only [xDist]; omega
    split
    -- `dsimp only` first: unifying through the projections unfolds `store` down to the arithmetic of `x86Conv`
    · dsimp only
      exact ⟨_, _, rfl, h5.symm ▸ (by decide : 1 ≤ 5), by simp only [effPm, h5]; rfl⟩
    · dsimp only
      exact ⟨_, _, rfl, Nat.le_of_eq h1.symm, by simp only [effPm, h1]; rfl⟩

theorem x86Step_size (enc : Bool) (st : St) (i m : Nat) (b : Buf) :
    (x86Step enc st i m b).1.size = b.size ∧ i < (x86Step enc st i m b).2.1 ∧
      (x86Step enc st i m b).2.1 ≤ i + 5 ∧
      ∀ k, (x86Step enc st i m b).2.1 ≤ k → gb (x86Step enc st i m b).1 k = gb b k := by
  unfold x86Step
  split
  · exact ⟨rfl, Nat.lt_succ_self i, Nat.add_le_add_left (by decide) i, fun _ _ => rfl⟩
  · split
    -- `dsimp only` first, as in `x86Loop_succ`
    · dsimp only
      exact ⟨size_store _ _ _, Nat.lt_add_of_pos_right (by decide), Nat.le_refl _,
        fun k hk => gb_store_out _ _ _ _ (Or.inr hk)⟩
    · exact ⟨rfl, Nat.lt_succ_self i, Nat.add_le_add_left (by decide) i, fun _ _ => rfl⟩

/-- `x86Loop` is the scan of `x86Step` from the effective mask; the `prev_mask` it returns has, at index `0` of
    the next call, the effective mask the scan ends with -/
theorem x86Loop_eq (enc : Bool) (st : St) (fuel : Nat) :
    ∀ (i : Nat) (pp : Option Nat) (pm : Nat) (b : Buf), 1 ≤ xDist pp i → i ≤ b.size → b.size < i + fuel →
      (x86Loop enc st fuel i pp pm b).1 = (scanLoop 5 (x86Step enc st) fuel i (effPm pp pm i) b).1 ∧
      (x86Loop enc st fuel i pp pm b).2.1 = (scanLoop 5 (x86Step enc st) fuel i (effPm pp pm i) b).2.1 ∧
      (x86Loop enc st fuel i pp pm b).2.2 &&& 7 = (scanLoop 5 (x86Step enc st) fuel i (effPm pp pm i) b).2.2 := by
  induction fuel with
  | zero => intro i pp pm b _ h1 h2; omega
  | succ fuel ih =>
    intro i pp pm b hd h1 h2
    rw [scanLoop]
    split
    · next h =>
      simp only [x86Loop, h, ↓reduceIte]
      refine ⟨trivial, trivial, ?_⟩
      show (if xDist pp i > 3 then 0 else pm <<< (xDist pp i - 1)) &&& 7 = effPm pp pm i
      unfold effPm
      split <;> rfl
    · next h =>
      obtain ⟨pp', pm', e, hd', he⟩ := x86Loop_succ enc st fuel i pp pm b h hd
      obtain ⟨s1, s2, s3, _⟩ := x86Step_size enc st i (effPm pp pm i) b
      rw [e, ← he]
      exact ih _ _ _ _ hd' (by omega) (by omega)

theorem x86Step_local (enc : Bool) (st : St) (pre post : List Nat) (G : Buf) (m : Nat) (hG : G.size = 5) :
    x86Step enc st pre.length m (pre ++ G.toList ++ post).toArray =
      ((pre ++ (x86Step enc (stAt (st.pos + pre.length)) 0 m G).1.toList ++ post).toArray,
        pre.length + (x86Step enc (stAt (st.pos + pre.length)) 0 m G).2.1,
        (x86Step enc (stAt (st.pos + pre.length)) 0 m G).2.2) := by
  simp only [x86Step, cvt, store, opnd, hG, Nat.zero_add, gb_local, gb_local0, gb_mask_local, sb_local, size_sb,
    posAt_stAt, Nat.reduceLT]
  split
  · rfl
  · split <;> rfl

/-- in the sense of `Restartable`, which compares outputs only: the stored states differ (`x86_strong_restart_false`) -/
theorem x86_restartable (enc : Bool) : Restartable (blockFilter .x86 enc) :=
  restartable_of_loop
    (S := ⟨5, fun pos m w => ((x86Step enc (stAt pos) 0 m w.toArray).1.toList,
      (x86Step enc (stAt pos) 0 m w.toArray).2.1, (x86Step enc (stAt pos) 0 m w.toArray).2.2)⟩)
    ⟨Nat.succ_pos 4, (by decide : 5 ≤ 16), fun pos m w hw =>
      have ⟨s1, s2, s3, s4⟩ := x86Step_size enc (stAt pos) 0 m w.toArray
      StepFits.of_frame (G := w.toArray) hw s1 s2 (by omega) s4⟩
    .x86 enc (x86Step enc) (fun st => st.prevMask &&& 7)
    (fun st pre w post m hw => x86Step_local enc st pre post w.toArray m hw)
    (fun st b => by
      unfold Filters.code
      simp only []
      split
      · next h => rw [scanLoop, if_pos (by omega)]; exact ⟨rfl, rfl, rfl, rfl⟩
      · next h =>
        obtain ⟨e1, e2, e3⟩ := x86Loop_eq enc st (b.size + 1) 0 none st.prevMask b (Nat.le_refl 1) (Nat.zero_le _)
          (by omega)
        exact ⟨e1, e2, rfl, e3⟩)

theorem bcj_restartable (a : Arch) (enc : Bool) : Restartable (blockFilter a enc) := by
  cases a
  · exact x86_restartable enc
  · exact ppc_restartable enc
  · exact ia64_restartable enc
  · exact arm_restartable enc
  · exact thumb_restartable enc
  · exact sparc_restartable enc
  · exact arm64_restartable enc
  · exact riscv_restartable enc

theorem fixedStride_restartable (a : Arch) (enc : Bool)
    (ha : a = .arm ∨ a = .ppc ∨ a = .sparc ∨ a = .arm64 ∨ a = .ia64) :
    Restartable (blockFilter a enc) :=
  bcj_restartable a enc

theorem oneShot_blockFilter (a : Arch) (enc : Bool) (start : Nat) (xs : List Nat) :
    Stream.oneShot (blockFilter a enc) (St.init a start) xs = Filters.oneShot a enc start xs := by
  simp only [Stream.oneShot, blockFilter, Filters.oneShot]

/-- C07, writer: however the input is split into `write` calls (empty writes included) -/
theorem writeParts_eq_oneShot (a : Arch) (start : Nat) (parts : List (List Nat)) :
    writeParts a start parts = Filters.oneShot a true start parts.flatten := by
  rw [← oneShot_blockFilter]
  exact wRun_eq_oneShot _ (bcj_restartable a true) _ _

/-- C07, reader: whatever the destination sizes (at least one non-zero) and the short reads of the inner reader; of
    `grants` a call looks at no more than its 8200 iterations (`Model/Stream.lean`, `rRead`) -/
theorem readAll_eq_oneShot (a : Arch) (start : Nat) (src sizes grants : List Nat)
    (hnz : ∃ x ∈ sizes, x ≠ 0) :
    readAll a start src sizes grants = Filters.oneShot a false start src := by
  rw [← oneShot_blockFilter]
  exact rRun_eq_oneShot_default _ (bcj_restartable a false) _ _ _ _ hnz

end LzmaVerif.BcjStream

namespace LzmaVerif.BcjStream
open LzmaVerif LzmaVerif.Stream LzmaVerif.Filters

/-- a filter that never processes anything: it has every property of `Restartable` (even the
    strong form of `restart`) except the bound on the unprocessed tail … -/
def lazyF : BlockFilter Unit := { code := fun _ xs => (xs, 0, ()) }

theorem lazyF_all_but_bound :
    (∀ st xs, ((lazyF.code st xs).1).length = xs.length) ∧
    (∀ st xs, (lazyF.code st xs).2.1 ≤ xs.length) ∧
    (∀ st xs, ((lazyF.code st xs).1).drop (lazyF.code st xs).2.1 = xs.drop (lazyF.code st xs).2.1) ∧
    (∀ st xs ys, lazyF.code st (xs ++ ys) =
      (((lazyF.code st xs).1).take (lazyF.code st xs).2.1 ++
          (lazyF.code (lazyF.code st xs).2.2 (xs.drop (lazyF.code st xs).2.1 ++ ys)).1,
        (lazyF.code st xs).2.1 + (lazyF.code (lazyF.code st xs).2.2 (xs.drop (lazyF.code st xs).2.1 ++ ys)).2.1,
        (lazyF.code (lazyF.code st xs).2.2 (xs.drop (lazyF.code st xs).2.1 ++ ys)).2.2)) :=
  ⟨fun _ _ => rfl, fun _ _ => Nat.zero_le _, fun _ _ => rfl, fun _ _ _ => rfl⟩

/-- Three iterations: the buffer is filled with `BUF` bytes of which none is filtered; there is no room left, the inner
    reader is asked for 0 bytes and that is taken for the end; the `BUF` bytes are handed out.  What is left of `src` is
    never read. -/
theorem lazy_rRead (src : List Nat) (hs : BUF < src.length) (len fuel : Nat) (hl : BUF < len) :
    rRead lazyF (fuel + 3) (rInit () src) len [] [] =
      (src.take BUF, { rInit () (src.drop BUF) with endReached := true }, []) := by
  have h0 : len ≠ 0 := by omega
  have hB0 : BUF ≠ 0 := by decide
  have hmx : max 1 BUF = BUF := by decide
  have hm1 : min BUF src.length = BUF := Nat.min_eq_left (Nat.le_of_lt hs)
  have hm2 : min BUF len = BUF := Nat.min_eq_left (Nat.le_of_lt hl)
  simp [rRead_succ, rInit, cpy, rot, nRead, grantHd, room, sEnd, sFill, lazyF, h0, hB0, hm1, hm2, hmx, List.take_take]

theorem lazy_rRun (src : List Nat) (hs : BUF < src.length) (len fuel : Nat) (hl : BUF < len) :
    rRun lazyF (fuel + 2) (rInit () src) [len] [] [] = src.take BUF := by
  have h0 : len ≠ 0 := by omega
  have hne : src.take BUF ≠ [] := by
    intro h
    have := congrArg List.length h
    rw [List.length_take, Nat.min_eq_left (Nat.le_of_lt hs)] at this
    exact absurd this (by decide)
  rw [rRun_cons, show 2 * BUF + 8 = 2 * BUF + 5 + 3 from rfl, lazy_rRead src hs len _ hl]
  -- the second call finds `endReached` and nothing pending: it delivers nothing, which ends the run
  simp [h0, hne, rRun_cons, rRead_succ, rInit, cpy, rot]

/-- … and the 4096-byte reader loses data with it: every source longer than the buffer is cut to `BUF` bytes
    (`lazy_rRun`); here 4097 source bytes and one 4097-byte destination, 4096 bytes come out. -/
theorem lazy_reader_loses_data :
    (rRun lazyF (4097 + 1 + 16) (rInit () (List.replicate 4097 7)) [4097] [] []).length = 4096 ∧
    (oneShot lazyF () (List.replicate 4097 7)).length = 4097 := by
  refine ⟨?_, List.length_replicate⟩
  rw [lazy_rRun _ (by rw [List.length_replicate]; decide) 4097 4112 (by decide), List.length_take, List.length_replicate]
  decide

/-- The strong form of `restart` (equal processed counts AND equal final states) is FALSE for the
    x86 model: the outputs and processed counts agree, but the stored `prevMask` differs (`0` after
    the one-shot call, `8` after the split calls; only `prevMask &&& 7` is ever used). -/
theorem x86_strong_restart_false :
    ¬ (∀ (st : St) (xs ys : List Nat),
        (blockFilter .x86 true).code st (xs ++ ys) =
          ((((blockFilter .x86 true).code st xs).1).take ((blockFilter .x86 true).code st xs).2.1 ++
              ((blockFilter .x86 true).code ((blockFilter .x86 true).code st xs).2.2
                (xs.drop ((blockFilter .x86 true).code st xs).2.1 ++ ys)).1,
            ((blockFilter .x86 true).code st xs).2.1 +
              ((blockFilter .x86 true).code ((blockFilter .x86 true).code st xs).2.2
                (xs.drop ((blockFilter .x86 true).code st xs).2.1 ++ ys)).2.1,
            ((blockFilter .x86 true).code ((blockFilter .x86 true).code st xs).2.2
                (xs.drop ((blockFilter .x86 true).code st xs).2.1 ++ ys)).2.2)) := by
  intro h
  have h1 := congrArg (fun r => r.2.2.prevMask)
    (h (St.init .x86 0) [232, 16, 255, 0, 16, 3, 255] [233])
  revert h1
  decide

end LzmaVerif.BcjStream

section axioms
open LzmaVerif.Stream LzmaVerif.BcjStream
#print axioms arm_restartable
#print axioms fixedStride_restartable
#print axioms thumb_restartable
#print axioms riscv_restartable
#print axioms x86_restartable
#print axioms bcj_restartable
#print axioms writeParts_eq_oneShot
#print axioms readAll_eq_oneShot
#print axioms lazy_reader_loses_data
#print axioms x86_strong_restart_false
#print axioms LzmaVerif.BcjStream.scanLoop_spec
end axioms
