import LzmaVerif.Proofs.XzStream
import LzmaVerif.Proofs.Lzma2Reader
/-! Satisfiability of the payload hypothesis: a stored LZMA2 chunk meets `PayloadOk` (used where a concrete
block is needed: the examples of the XZ files and `XzStrict.writer_index_overflow`; the general statement is the LZMA2
round-trip theorem's job). -/
namespace LzmaVerif.Xz
open LzmaVerif Lzma Checks

theorem payloadOk_stored (dict : Nat) (raw : List Nat) (h1 : 1 ≤ raw.length) (h2 : raw.length ≤ 65536) :
    PayloadOk dict (1 :: (raw.length - 1) / 256 :: (raw.length - 1) % 256 :: (raw ++ [0])) raw := by
  intro rest cap hcap
  have hc : Lzma2.ChunkAt (Lzma2.initState dict #[]) cap
      (1 :: (raw.length - 1) / 256 :: (raw.length - 1) % 256 :: (raw ++ 0 :: rest)) _ (0 :: rest) :=
    .stored (.inl rfl) rfl (by unfold Lzma2.be16; omega) (by simpa [Lzma2.initState] using hcap)
  unfold Lzma2.decode
  rw [show (1 :: (raw.length - 1) / 256 :: (raw.length - 1) % 256 :: (raw ++ [0])) ++ rest
      = 1 :: (raw.length - 1) / 256 :: (raw.length - 1) % 256 :: (raw ++ 0 :: rest) by simp,
    hc.loop, List.length_cons, Lzma2.chunkLoop_end]
  exact ⟨[{ control := 1, unc := raw.length, comp := 0, props := none, parse := [], raw := raw }], by
    simp [Lzma2.pushAll_eq, Lzma2.initState]; omega⟩

theorem stored_block_ok (raw : List Nat) (h1 : 1 ≤ raw.length) (h2 : raw.length ≤ 65536) :
    PayloadOk (readerDict [.lzma2 4096]) (1 :: (raw.length - 1) / 256 :: (raw.length - 1) % 256 :: (raw ++ [0]))
        (applyFilters [.lzma2 4096] raw) ∧
      unfilter [.lzma2 4096] (applyFilters [.lzma2 4096] raw) = raw :=
  ⟨payloadOk_stored _ raw h1 h2, rfl⟩

theorem stored1_blocks_ok (xs : List Nat) : ∀ b ∈ xs.map (fun x => ([1, 0, 0, x, 0], [x])),
    PayloadOk (readerDict [.lzma2 4096]) b.1 (applyFilters [.lzma2 4096] b.2) ∧
      unfilter [.lzma2 4096] (applyFilters [.lzma2 4096] b.2) = b.2 := by
  intro b hb
  obtain ⟨x, -, rfl⟩ := List.mem_map.mp hb
  have hp := payloadOk_stored (readerDict [.lzma2 4096]) [x] (Nat.le_refl 1) (by simp)
  simp only [List.length_cons, List.length_nil, Nat.zero_add, Nat.sub_self, Nat.zero_div, Nat.zero_mod,
    List.cons_append, List.nil_append] at hp
  exact ⟨hp, rfl⟩

theorem hdr_lzma2_len12 (d : Nat) : (blockHeaderBytes [.lzma2 d]).length = 12 := by
  rw [blockHeaderBytes_length]
  simp [encFilter]

end LzmaVerif.Xz
