/-
  (H4) every table index, data index, `extend_match` argument and position subtraction that `find` /
  `skip` compute in a state satisfying the invariant is in bounds (the access logs `findAcc` /
  `skip1Acc` of the model).
-/
import LzmaVerif.Proofs.Hc4Sound

namespace LzmaVerif.Mf.Hc4

/-- `n` = size of the logical input -/
def AllOk (n : Nat) (l : List Access) : Prop := ∀ a ∈ l, a.okB n = true

theorem AllOk.nil (n : Nat) : AllOk n [] := fun _ h => nomatch h

theorem AllOk.cons {n : Nat} {a : Access} {l : List Access} (ha : a.okB n = true) (hl : AllOk n l) :
    AllOk n (a :: l) := List.forall_mem_cons.mpr ⟨ha, hl⟩

theorem AllOk.append {n : Nat} {l1 l2 : List Access} (h1 : AllOk n l1) (h2 : AllOk n l2) :
    AllOk n (l1 ++ l2) := List.forall_mem_append.mpr ⟨h1, h2⟩

theorem ok_sub {n a b : Nat} (h : b ≤ a) : (Access.sub a b).okB n = true := decide_eq_true h

theorem ok_data {n p fwd back : Nat} (h1 : back ≤ p + fwd) (h2 : p + fwd - back < n) :
    (Access.data p fwd back).okB n = true := decide_eq_true ⟨h1, h2⟩

theorem ok_ext {n p cur delta limit : Nat} (h1 : delta ≤ p + cur) (h2 : cur ≤ limit) (h3 : p + limit ≤ n) :
    (Access.ext p cur delta limit).okB n = true := decide_eq_true ⟨h1, h2, h3⟩

theorem ok_tbl {n : Nat} {i : Int} {size : Nat} (h1 : 0 ≤ i) (h2 : i < (size : Int)) :
    (Access.tbl i size).okB n = true := decide_eq_true ⟨h1, h2⟩

/-- `get_byte(fwd, 0)` -/
theorem ok_read {n p fwd : Nat} (h : p + fwd < n) : (Access.data p fwd 0).okB n = true :=
  ok_data (Nat.zero_le _) h

/-- `get_byte(0, δ)`: the byte `δ` back -/
theorem ok_back {n p δ : Nat} (h : δ ≤ p) (hp : p < n) : (Access.data p 0 δ).okB n = true :=
  ok_data h (Nat.lt_of_le_of_lt (Nat.sub_le _ _) hp)

theorem ok_slot {n i size : Nat} (h : i < size) : (Access.tbl i size).okB n = true :=
  ok_tbl (Int.natCast_nonneg i) (Int.ofNat_lt.mpr h)

theorem chainIdx_bounds (cs : Nat) (cp : Int) (delta : Nat) (h0 : 0 ≤ cp) (h1 : cp < (cs : Int))
    (hd : delta < cs) : 0 ≤ chainIdx cs cp delta ∧ chainIdx cs cp delta < (cs : Int) := by
  unfold chainIdx
  split <;> omega

theorem AllOk.ite {n : Nat} {b : Prop} [Decidable b] {l1 l2 : List Access} (h1 : b → AllOk n l1)
    (h2 : ¬ b → AllOk n l2) : AllOk n (if b then l1 else l2) := by
  split
  · exact h1 ‹_›
  · exact h2 ‹_›

variable (P : Hc4Params) (c : Cfg) (d : Array UInt8)

theorem chainLoopAcc_ok (hP : P.ok) (chain : Array Nat)
    (dict p mll nll : Nat) (cp : Int) (hcp0 : 0 ≤ cp) (hcp1 : cp < ((dict + 1 : Nat) : Int))
    (hcsz : dict + 1 ≤ chain.size) (hm1 : 1 ≤ mll) (hsz : p + mll ≤ d.size) (hnl : p + nll ≤ d.size)
    (hch : ∀ i, EntryOk dict p (chain.getD i 0)) (depth cur lb : Nat)
    (hcur : EntryOk dict p cur) (hlb : p + lb < d.size) :
    AllOk d.size (chainLoopAcc P d chain (dict + 1) cp (dict + 1 + p + 1) p mll nll depth cur lb) := by
  have hge : P.chainStopGe = true := hP.chainStopGe
  fun_induction chainLoopAcc P d chain (dict + 1) cp (dict + 1 + p + 1) p mll nll depth cur lb with
  | case1 cur lb => exact AllOk.nil _
  | case2 depth cur lb δ ih2 ih1 =>
    refine AllOk.cons (ok_sub hcur.le) (AllOk.ite (fun _ => AllOk.nil _) fun hstop => ?_)
    rw [stop_iff hge] at hstop
    obtain ⟨hd1, hdp, _⟩ := hcur.cand d (Nat.lt_of_not_le hstop)
    obtain ⟨i0, i1⟩ := chainIdx_bounds (dict + 1) cp δ hcp0 hcp1 (Nat.lt_of_not_le hstop)
    have hcur' := hch (chainIdx (dict + 1) cp δ).toNat
    have hp : p < d.size := by omega
    refine AllOk.cons (ok_tbl i0 (by omega)) (AllOk.cons (ok_data (by omega) (by omega))
      (AllOk.cons (ok_read hlb) (AllOk.ite (fun _ => ?_) fun _ => ih1 hcur' hlb)))
    refine AllOk.cons (ok_back hdp hp) (AllOk.cons (ok_read hp)
      (AllOk.ite (fun _ => ?_) fun _ => ih1 hcur' hlb))
    exact AllOk.cons (ok_ext (by omega) hm1 hsz) (AllOk.ite
      (fun _ => AllOk.ite (fun _ => AllOk.nil _) fun hn => ih2 hcur' (by omega)) fun _ => ih1 hcur' hlb)

theorem niceLenLimit_le_avail (a : Nat) (h : c.niceLen ≤ c.mlmax) : niceLenLimit c a ≤ a := by
  unfold niceLenLimit
  split
  · split <;> omega
  · omega

theorem findMatchesAcc_ok (hP : P.ok) (chain : Array Nat)
    (cp : Int) (p avail delta2 delta3 cur : Nat)
    (hav : avail = d.size - p) (h4 : P.minAvail ≤ avail) (hml : 3 ≤ c.mlmax) (hnm : c.niceLen ≤ c.mlmax)
    (hcp0 : 0 ≤ cp) (hcp1 : cp < (cyclicSize P c : Int)) (hcsz : c.dict + 1 ≤ chain.size)
    (hd2 : CandOk d c.dict p 2 delta2) (hd3 : CandOk d c.dict p 3 delta3)
    (hcur : EntryOk c.dict p cur) (hch : ∀ i, EntryOk c.dict p (chain.getD i 0)) :
    AllOk d.size (findMatchesAcc P c d chain cp (c.dict + 1 + p + 1) p avail delta2 delta3 cur) := by
  have hP' := hP
  obtain ⟨hs2, hs3, _, _, _, _, _, _, hfl2, hm4, _⟩ := hP
  have hp : p < d.size := by omega
  rw [cyclicSize_eq hP'] at hcp1
  unfold findMatchesAcc
  rw [cyclicSize_eq hP', hs2, hs3]
  extract_lets cs mll nll t2 c2 a2 lb1 t3 c3 a3 lb2 dl hit lb3 a4
  -- all that is needed of the intermediate values
  have hm : 3 ≤ mll ∧ p + mll ≤ d.size ∧ p + nll ≤ d.size := by
    have := niceLenLimit_le_avail c avail hnm
    have := matchLenLimit_eq c avail
    omega
  have k2 : t2 = true → delta2 ≤ p := fun h =>
    (hd2 (by simpa only [t2, cmpLt, if_true, decide_eq_true_eq] using h)).2.1
  have k3 : t3 = true → delta3 ≤ p := fun h =>
    (hd3 (by simp only [t3, cmpLt, if_true, Bool.and_eq_true, decide_eq_true_eq] at h; exact h.2)).2.1
  have hdl : hit = true → dl ≤ p ∧ lb2 ≤ 3 := by
    intro h
    cases h3 : c3
    · have h2 : c2 = true := by simpa only [hit, h3, Bool.or_false] using h
      simp only [dl, lb2, lb1, h3, h2, Bool.false_eq_true, if_false, if_true]
      exact ⟨k2 (Bool.and_eq_true .. ▸ h2).1, by decide⟩
    · simp only [dl, lb2, h3, if_true]
      exact ⟨k3 (Bool.and_eq_true .. ▸ h3).1, Nat.le_refl _⟩
  have hlb3 : hit = false → lb3 = 0 := by
    intro h
    have h2 : c2 = false ∧ c3 = false := by simpa only [hit, Bool.or_eq_false_iff] using h
    simp only [lb3, lb2, lb1, h, h2.1, h2.2, Bool.false_eq_true, if_false]
  clear_value lb3 dl lb2 lb1 hit c3 t3 c2 t2 nll mll
  refine AllOk.append (AllOk.append (AllOk.append (AllOk.ite (fun h => ?_) fun _ => AllOk.nil _)
    (AllOk.ite (fun h => ?_) fun _ => AllOk.nil _)) (AllOk.ite (fun h => ?_) fun _ => AllOk.nil _))
    (AllOk.ite (fun _ => AllOk.nil _) fun hne => ?_)
  · exact AllOk.cons (ok_back (k2 h) hp) (AllOk.cons (ok_read hp) (AllOk.nil _))
  · exact AllOk.cons (ok_back (k3 h) hp) (AllOk.cons (ok_read hp) (AllOk.nil _))
  · obtain ⟨g1, g2⟩ := hdl h
    exact AllOk.cons (ok_ext (Nat.le_trans g1 (Nat.le_add_right _ _)) (Nat.le_trans g2 hm.1) hm.2.1) (AllOk.nil _)
  · refine chainLoopAcc_ok P d hP' chain c.dict p mll nll cp hcp0 hcp1 hcsz (Nat.le_trans (by decide) hm.1)
      hm.2.1 hm.2.2 hch (depthOf P c) cur _ hcur ?_
    have : lb3 < nll ∨ lb3 = 0 := by
      cases h : hit
      · exact Or.inr (hlb3 h)
      · exact Or.inl (Nat.lt_of_not_le fun hge => hne ⟨h, hge⟩)
    show p + (if lb3 < P.lenBestFloor then P.lenBestFloor else lb3) < d.size
    split <;> omega

theorem hashesAt_bounds (hP : P.ok) (p : Nat) :
    (hashesAt P c d p).h2 < P.hash.hash2Size ∧ (hashesAt P c d p).h3 < P.hash.hash3Size ∧
    (hashesAt P c d p).h4 < hash4Size P.hash c.dict := by
  obtain ⟨_, h2, _, h3, _⟩ := hP.hash
  refine ⟨and_mask_lt _ _ h2, and_mask_lt _ _ h3, ?_⟩
  exact and_mask_lt _ _ (Nat.succ_pos _)

/-- the accesses of one insertion, in terms of the fields of the state before `move_pos` -/
theorem insert_ok (hP : P.ok) (s : State)
    (hinv : Inv P c d s) (hge : P.minAvail ≤ d.size - s.pos) :
    AllOk d.size [.data s.pos 0 0, .data s.pos 1 0, .data s.pos 2 0, .data s.pos 3 0,
      .tbl (hashesAt P c d s.pos).h2 P.hash.hash2Size, .tbl (hashesAt P c d s.pos).h3 P.hash.hash3Size,
      .tbl (hashesAt P c d s.pos).h4 (hash4Size P.hash c.dict),
      .tbl (if s.cyclicPos + 1 = (cyclicSize P c : Int) then 0 else s.cyclicPos + 1) s.chain.size] := by
  have hm4 : 4 ≤ P.minAvail := hP.minAvail
  have hch1 : 1 ≤ P.chainExtra := hP.chainExtra
  obtain ⟨b2, b3, b4⟩ := hashesAt_bounds P c d hP s.pos
  have hcs := cyclicSize_eq hP c
  have hcp := cp_next s.cyclicPos (cyclicSize P c) hinv.cpLo hinv.cpHi (by omega)
  have hr : s.pos + 3 < d.size := by omega
  exact AllOk.cons (ok_read (by omega)) (AllOk.cons (ok_read (by omega)) (AllOk.cons (ok_read (by omega))
    (AllOk.cons (ok_read hr) (AllOk.cons (ok_slot b2) (AllOk.cons (ok_slot b3) (AllOk.cons (ok_slot b4)
    (AllOk.cons (ok_tbl hcp.1 (Int.lt_of_lt_of_le hcp.2 (by rw [hinv.szc, hcs]; omega))) (AllOk.nil _))))))))

theorem findAcc_ok (hP : P.ok) (s : State)
    (hinv : Inv P c d s) (hml : 3 ≤ c.mlmax) (hnm : c.niceLen ≤ c.mlmax) :
    AllOk d.size (findAcc P c d s) := by
  have hm4 : 4 ≤ P.minAvail := hP.minAvail
  have hho : hashOk P.hash := hP.hash
  have hch1 : 1 ≤ P.chainExtra := hP.chainExtra
  rw [view_findAcc P c d s (by omega) ⟨hinv.sz2, hinv.sz3, hinv.sz4⟩]
  rcases encMovePos_cases P d s.pos hm4 with ⟨h0, _⟩ | ⟨he, hge, hne⟩
  · rw [show s.view.findAcc P c d = [] from if_pos h0]
    exact AllOk.nil _
  · obtain ⟨hlz, t2, t3, t4, ch⟩ := hinv.tables hP hge
    rw [show s.view.findAcc P c d = _ from if_neg hne]
    dsimp only [State.view]
    rw [he, hlz]
    have hcp := cp_next s.cyclicPos (cyclicSize P c) hinv.cpLo hinv.cpHi (by rw [cyclicSize_eq hP]; omega)
    exact AllOk.append (AllOk.append (insert_ok P c d hP s hinv hge)
      (AllOk.cons (ok_sub (t2.entryOk _).le) (AllOk.cons (ok_sub (t3.entryOk _).le) (AllOk.nil _))))
      (findMatchesAcc_ok P c d hP _ _ s.pos (d.size - s.pos) _ _ _ rfl hge hml hnm hcp.1 hcp.2
        (by rw [Array.size_setIfInBounds, hinv.szc]; omega) (hash2_cand P c d hho t2) (hash3_cand P c d hho t3)
        (t4.entryOk _) (t4.setFrom ch _ _).entryOk)

theorem skip1Acc_ok (hP : P.ok) (s : State)
    (hinv : Inv P c d s) : AllOk d.size (skip1Acc P c d s) := by
  have hm4 : 4 ≤ P.minAvail := hP.minAvail
  unfold skip1Acc
  rcases encMovePos_cases P d s.pos hm4 with ⟨h0, _⟩ | ⟨he, hge, hne⟩
  · rw [if_neg (fun h => h h0)]; exact AllOk.nil _
  · rw [if_pos hne, movePos, if_pos hne]
    unfold insertAcc
    dsimp only
    rw [hinv.sz2, hinv.sz3, hinv.sz4]
    exact insert_ok P c d hP s hinv hge

end LzmaVerif.Mf.Hc4
