import LzmaVerif.Proofs.Twins
/-!
Proofs about the two twins as they are CALLED (the granularity at which the real functions are run against the
model through the verification hooks `lz_match_len_fast_reject` / `rc_decode_direct_bits`):

* `get_match_len_fast_reject` = two-byte reject, then `extend_match(.., current_len = 2, ..)`;
* `decode_direct_bits` of the buffer decoder = guard, then assembly or portable loop.
-/
namespace LzmaVerif.Twins

/-- **C15.**  Every byte the optimized `get_match_len_fast_reject` reads is inside `buf`, also for `len_limit < 2`,
    where the logical extension `(len_limit - 2) as usize` is huge and only the clamp to the physical buffer bounds the
    reads.  (`read_pos - match_dist` is truncated here, as in `extendMatchOptT_inBounds`.) -/
theorem matchLenFastRejectOptT_inBounds (P : TwinParams) (hu : P.u16Bytes ≤ P.bufLimitSub)
    (buf : List Nat) (hlen : P.bufLimitSub ≤ buf.length) (readPos dist lenLimit : Nat) :
    ∀ i ∈ (matchLenFastRejectOptT P buf readPos dist lenLimit).2, i < buf.length := by
  intro i hi
  have hr := fastRejectOpt_inBounds P hu buf hlen readPos (dist + 1) i
  simp only [matchLenFastRejectOptT] at hi
  split at hi
  · exact hr hi
  · rcases List.mem_append.1 hi with hi | hi
    · exact hr hi
    · exact extendMatchOptT_inBounds P buf _ _ _ _ i hi

/-- **C14.**  Whenever the portable `get_match_len_fast_reject` does not panic, the optimized one returns the
    same length (caller's invariant `dist + 1 ≤ read_pos`). -/
theorem matchLenFastRejectOpt_eq_portable (P : TwinParams) (hs : P.bufLimitSub = 2) (hu : P.u16Bytes = 2)
    (buf : List Nat) (hB : Bytes buf) (readPos dist lenLimit : Nat) (hd : dist + 1 ≤ readPos) (v : Nat)
    (h : matchLenFastRejectPortable P buf readPos dist lenLimit = some v) :
    (matchLenFastRejectOptT P buf readPos dist lenLimit).1 = v := by
  unfold matchLenFastRejectPortable at h
  simp only [matchLenFastRejectOptT]
  cases hq : fastRejectPortable buf readPos (dist + 1) with
  | none => rw [hq] at h; cases h
  | some b =>
    rw [hq] at h
    rw [fastRejectOpt_eq_portable P hs hu buf hB readPos (dist + 1) hd b hq]
    cases b with
    | true => exact Option.some.inj h
    | false => exact extendMatchOpt_eq_portable P buf _ _ _ _ _ h

/-- the portable twin against the byte-wise specification, inside the callers' invariants
    (`2 ≤ len_limit`, `read_pos + len_limit ≤ buf.len()`) -/
theorem matchLenFastRejectPortable_spec (P : TwinParams) (hW : 0 < P.wordSize) (hd8 : P.tzDiv = 8)
    (buf : List Nat) (hB : Bytes buf) (readPos dist lenLimit : Nat) (h2 : 2 ≤ lenLimit)
    (hb : readPos + lenLimit ≤ buf.length) :
    matchLenFastRejectPortable P buf readPos dist lenLimit =
      some (if buf.getD readPos 0 ≠ buf.getD (readPos - (dist + 1)) 0
               ∨ buf.getD (readPos + 1) 0 ≠ buf.getD (readPos + 1 - (dist + 1)) 0 then 0
            else 2 + byteMatchLen (slice buf (readPos + 2) (lenLimit - 2))
                                  (slice buf (readPos + 2 - (dist + 1)) (lenLimit - 2))) := by
  unfold matchLenFastRejectPortable fastRejectPortable
  have h1 : readPos + 1 < buf.length := by omega
  simp only [if_pos h1]
  by_cases hc : buf.getD readPos 0 ≠ buf.getD (readPos - (dist + 1)) 0
               ∨ buf.getD (readPos + 1) 0 ≠ buf.getD (readPos + 1 - (dist + 1)) 0
  · simp only [hc, decide_true, if_true]
  · simp only [hc, decide_false, if_false]
    exact extendMatchPortable_spec P hW hd8 buf hB readPos 2 (dist + 1) lenLimit h2 (by omega)

/-- non-vacuity: a match of length 5 found behind an accepted two-byte check, both twins -/
example :
    let buf := [1, 2, 3, 1, 2, 3, 1, 2, 9]
    matchLenFastRejectPortable srcParams buf 3 2 6 = some 5 ∧
    (matchLenFastRejectOptT srcParams buf 3 2 6).1 = 5 ∧
    matchLenFastRejectPortable srcParams buf 4 0 4 = some 0 ∧
    (matchLenFastRejectOptT srcParams buf 4 0 4).1 = 0 := by decide

/-- witness (outside the callers' invariant `2 ≤ len_limit`; the real code does the same): with
    `len_limit = 1` the optimized twin does not return 2 but extends to the physical end of the buffer, because
    `(1 - 2) as usize` is `2^64 - 1`; the portable twin panics on its slice bound. -/
theorem fastReject_small_limit_extends :
    (matchLenFastRejectOptT srcParams [7, 7, 7, 7, 7, 7] 1 0 1).1 = 6 - 1 ∧
    matchLenFastRejectPortable srcParams [7, 7, 7, 7, 7, 7] 1 0 1 = none := by decide

theorem normCount_le (P : TwinParams) : ∀ k r, normCount P k r ≤ k := by
  intro k
  induction k with
  | zero => intro r; simp [normCount]
  | succ k ih =>
    intro r
    unfold normCount
    split
    · have := ih ((r * 2 ^ P.shiftBits) % 2 ^ 32 / 2); omega
    · have := ih (r / 2); omega

/-- **C14.**  `decode_direct_bits` (x86-64 build: guard, then assembly or portable loop) is the portable loop on every
    state with `RangeOk`, every `count`, buffer and position: `count` bits normalise at most `count` times
    (`normCount_le`), so past the guard no byte beyond the buffer is requested. -/
theorem directBitsOpt_eq_portable (P : TwinParams) (hT : P.topValue = 2 ^ 24) (hS : P.shiftBits = 8)
    (hs : P.signShift = 31) (ha : P.asmLimitSub = 1) (buf : List Nat) (hB : Bytes buf) (k : Nat)
    (s : DState) (hs0 : RangeOk s) :
    directBitsOpt P buf k s = directPortable P buf (directFuel k) k s := by
  unfold directBitsOpt
  split
  · rename_i hg
    apply directX86_eq_directPortable P hT hS hs buf hB ha k s hs0
    rw [directPortable_pos P hT hS hs buf hB k s hs0]
    have := normCount_le P k s.range
    omega
  · rfl

/-- the guard is what makes this true: non-vacuity (a run that ends exactly at the end of the buffer takes the
    assembly) and the state of `C14.direct_bits_overrun_witness` (already past the end: guard fails, portable
    loop) -/
example :
    let s : DState := ⟨0x00FFFFFF, 0x00123456, 1, 0⟩
    RangeOk s ∧ (0 < 2 ∧ s.pos + 2 ≤ [1, 2, 3].length) ∧
    directBitsOpt srcParams [1, 2, 3] 2 s = directX86 srcParams [1, 2, 3] 2 s ∧
    directBitsOpt srcParams [0xFF] 1 ⟨2 ^ 23 + 1, 2 ^ 22, 1, 0⟩ = ⟨2 ^ 30 + 128, 2 ^ 30, 2, 0⟩ := by
  refine ⟨by unfold RangeOk; decide, by decide, by decide +kernel, by decide +kernel⟩

end LzmaVerif.Twins

#print axioms LzmaVerif.Twins.matchLenFastRejectOptT_inBounds
#print axioms LzmaVerif.Twins.matchLenFastRejectOpt_eq_portable
#print axioms LzmaVerif.Twins.matchLenFastRejectPortable_spec
#print axioms LzmaVerif.Twins.fastReject_small_limit_extends
#print axioms LzmaVerif.Twins.normCount_le
#print axioms LzmaVerif.Twins.directBitsOpt_eq_portable
