import LzmaVerif.Model.Checks
/-! Little-endian words (`le`, `ofLe`) and the range of CRC-32, for the XZ and the LZIP container proofs.  "Bytes" is
written out as `∀ x ∈ bs, x < 256`, which is what `Xz.Bytes bs` and `LzipFile.Bytes bs` unfold to. -/
namespace LzmaVerif.Checks

theorem le_length (n v : Nat) : (le n v).length = n := by simp [le]

theorem le_succ (n v : Nat) : le (n + 1) v = v % 256 :: le n (v / 256) := by
  unfold le
  rw [List.range_succ_eq_map, List.map_cons, List.map_map]
  congr 1
  · simp
  · apply List.map_congr_left
    intro i _
    simp only [Function.comp, Nat.pow_succ, Nat.succ_eq_add_one]
    rw [Nat.mul_comm, Nat.div_div_eq_div_mul]

theorem le_drop (n v k : Nat) (h : n ≤ k) : (le n v).drop k = [] :=
  List.drop_eq_nil_of_le (by rw [le_length]; exact h)

theorem le_bytes (n v : Nat) : ∀ x ∈ le n v, x < 256 := by
  intro x hx
  simp only [le, List.mem_map] at hx
  obtain ⟨i, _, rfl⟩ := hx
  exact Nat.mod_lt _ (by decide)

theorem ofLe_cons (b : Nat) (bs : List Nat) : ofLe (b :: bs) = b + 256 * ofLe bs := rfl

theorem ofLe_le (n v : Nat) (hv : v < 256 ^ n) : ofLe (le n v) = v := by
  induction n generalizing v with
  | zero =>
    have h0 : v = 0 := by simp only [Nat.pow_zero] at hv; omega
    subst h0; rfl
  | succ n ih =>
    rw [le_succ, ofLe_cons, ih (v / 256) (by rw [Nat.pow_succ] at hv; omega)]
    omega

theorem le_ofLe (n : Nat) (bs : List Nat) (hb : ∀ x ∈ bs, x < 256) (hl : bs.length = n) : le n (ofLe bs) = bs := by
  induction bs generalizing n with
  | nil => subst hl; rfl
  | cons b bs ih =>
    subst hl
    have hb0 : b < 256 := hb b (List.mem_cons_self ..)
    rw [List.length_cons, le_succ, ofLe_cons]
    have h1 : (b + 256 * ofLe bs) % 256 = b := by omega
    have h2 : (b + 256 * ofLe bs) / 256 = ofLe bs := by omega
    rw [h1, h2, ih bs.length (fun x hx => hb x (List.mem_cons_of_mem _ hx)) rfl]

theorem ofLe_lt (bs : List Nat) (hb : ∀ x ∈ bs, x < 256) : ofLe bs < 256 ^ bs.length := by
  induction bs with
  | nil => simp [ofLe]
  | cons b bs ih =>
    have hb0 : b < 256 := hb b (List.mem_cons_self ..)
    have := ih fun x hx => hb x (List.mem_cons_of_mem _ hx)
    rw [ofLe_cons, List.length_cons, Nat.pow_succ]
    omega

theorem crcStep_lt (poly : Nat) (hp : poly < 2 ^ 32) (c n : Nat) (hc : c < 2 ^ 32) :
    crcStep poly c n < 2 ^ 32 := by
  induction n generalizing c with
  | zero => exact hc
  | succ n ih =>
    unfold crcStep
    apply ih
    split
    · exact Nat.xor_lt_two_pow (by omega) hp
    · omega

theorem crc32_lt (bs : List Nat) (hb : ∀ x ∈ bs, x < 256) : crc32 bs < 2 ^ 32 := by
  unfold crc32
  apply Nat.xor_lt_two_pow _ (by decide)
  have : ∀ (bs : List Nat) (c : Nat), (∀ x ∈ bs, x < 256) → c < 2 ^ 32 →
      bs.foldl (crcByte 0xEDB88320) c < 2 ^ 32 := by
    intro bs
    induction bs with
    | nil => intro c _ hc; exact hc
    | cons b bs ih =>
      intro c hb hc
      rw [List.foldl_cons]
      apply ih
      · exact fun x hx => hb x (List.mem_cons_of_mem _ hx)
      · unfold crcByte
        apply crcStep_lt _ (by decide)
        have hb0 : b < 256 := hb b (List.mem_cons_self ..)
        exact Nat.xor_lt_two_pow hc (by omega)
  exact this bs _ hb (by decide)

theorem ofLe_le_crc32 (bs : List Nat) (hb : ∀ x ∈ bs, x < 256) : ofLe (le 4 (crc32 bs)) = crc32 bs :=
  ofLe_le 4 _ (by have := crc32_lt bs hb; omega)

end LzmaVerif.Checks

#print axioms LzmaVerif.Checks.le_length
#print axioms LzmaVerif.Checks.ofLe_le
#print axioms LzmaVerif.Checks.le_ofLe
#print axioms LzmaVerif.Checks.crc32_lt
