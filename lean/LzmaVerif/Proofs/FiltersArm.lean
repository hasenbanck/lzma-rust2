import LzmaVerif.Proofs.FiltersFields
/-! ARM BCJ filter (`arm_code`): the window comes back on its bytes (`arm_round`), by the byte arithmetic of the model
and `shiftBy_inv`.  Core Lean only. -/
namespace LzmaVerif.Filters

/-- the bytes `arm_code` stores for a recognised window; the fourth (the `BL` opcode) it leaves alone -/
def armOut (enc : Bool) (st : St) (i b0 b1 b2 b3 : Nat) : Nat × Nat × Nat × Nat :=
  let dest := shiftBy 4 enc (posAt st i) (b0 + 256 * b1 + 65536 * b2)
  (dest, dest / 256, dest / 65536, b3)

def armStep (enc : Bool) (st : St) : Nat → Buf → Buf :=
  winStep (fun _ _ _ b3 => b3 = 0xEB) (armOut enc st)

theorem put4_same (b : Buf) (i c0 c1 c2 : Nat) (h : gb b (i + 3) < 256) :
    put4 b i (c0, c1, c2, gb b (i + 3)) = sb (sb (sb b i c0) (i + 1) c1) (i + 2) c2 := by
  apply buf_ext _ _ (size_sb _ _ _)
  intro k _
  show gb (sb (sb (sb (sb b i c0) (i + 1) c1) (i + 2) c2) (i + 3) (gb b (i + 3))) k = _
  rw [gb_sb]
  split
  next hk =>
    rw [← hk.1, gb_sb_ne _ _ _ _ (by omega), gb_sb_ne _ _ _ _ (by omega), gb_sb_ne _ _ _ _ (by omega)]
    exact Nat.mod_eq_of_lt h
  next => rfl

theorem armLoop_eq_scan (enc : Bool) (st : St) : ∀ fuel i b,
    armLoop enc st fuel i b = scan 4 (fun i b => (armStep enc st i b, 4)) fuel i b :=
  eq_scan _ (fun _ _ => rfl) (fun n i b => by
    rw [armLoop]
    refine ite_congr rfl (fun _ => rfl) (fun _ => ?_)
    unfold armStep winStep
    by_cases hr : gb b (i + 3) = 0xEB
    · rw [if_pos hr, if_pos hr, armOut, put4_same _ _ _ _ _ (by omega)]
      rfl
    · rw [if_neg hr, if_neg hr])

theorem armStep_bytes (enc : Bool) (st : St) (i : Nat) (b : Buf) (h : BBytes b) : BBytes (armStep enc st i b) :=
  winStep_bytes i b h

/-- The window is a `BL` instruction if its last byte is `0xEB`; the three bytes below are the displacement in
    words, low byte first. -/
theorem arm_round (st : St) (i : Nat) (hp : posAt st i % 4 = 0) :
    Round (fun _ _ _ b3 => b3 = 0xEB) (armOut true st i) (armOut false st i) where
  recog := fun _ _ _ b3 _ _ _ h3 hr => (Nat.mod_eq_of_lt h3).trans hr
  back := fun b0 b1 b2 b3 h0 h1 h2 h3 _ d hd => by
    subst hd
    simp only [armOut]
    generalize hD : shiftBy 4 true (posAt st i) (b0 + 256 * b1 + 65536 * b2) = D
    have hx : D % 256 + 256 * (D / 256 % 256) + 65536 * (D / 65536 % 256) = D % 2 ^ 24 := by omega
    have := shiftBy_inv 4 (2 ^ 24) (by decide) (by decide) (posAt st i) hp (b0 + 256 * b1 + 65536 * b2) (D % 2 ^ 24)
      (by rw [hD, Nat.mod_mod])
    rw [hx]
    generalize shiftBy 4 false (posAt st i) (D % 2 ^ 24) = D' at this ⊢
    omega

theorem arm_stepOK (st : St) (hp : st.pos % 4 = 0) :
    StepOK 4 (fun i => i % 4 = 0) (fun _ _ => 0) (fun i b => (armStep true st i b, 4))
      (fun i b => (armStep false st i b, 4)) :=
  winStep_stepOK (O := fun enc => armOut enc st) (fun i h => by omega)
    (fun i hi => arm_round st i (posAt_aligned st i 4 (by decide) hp hi))

theorem arm_inv (start : Nat) (hs : start % 4 = 0) (xs : List Nat) (h : Bytes xs) :
    oneShot .arm false start (oneShot .arm true start xs) = xs := by
  have hp : (St.init .arm start).pos % 4 = 0 := by simp only [St.init]; omega
  simp only [oneShot, code, armLoop_eq_scan]
  exact scan_inv_list (arm_stepOK _ hp) (by rfl) xs h

end LzmaVerif.Filters
