import LzmaVerif.Model.Options
namespace LzmaVerif.Options

/-- what `LZMAOptions::validate` accepts; the writers' own notions of valid options (`LzmaWriter.FastOpts.valid`,
    `Lzma2W.Opts.admissible`, C19) are instances -/
theorem validate_iff (o : LzOptions) (lzma2 : Bool) : validate o lzma2 = true ↔
    (o.lc ≤ 8 ∧ o.lp ≤ 4 ∧ o.pb ≤ 4) ∧ (lzma2 = true → o.lc + o.lp ≤ 4) ∧
      (4096 ≤ o.dict ∧ o.dict ≤ 805306368) ∧ (8 ≤ o.nice ∧ o.nice ≤ 273) := by
  simp only [validate, Bool.and_eq_true, Bool.or_eq_true, Bool.not_eq_true', decide_eq_true_eq, and_assoc]
  cases lzma2 <;> simp [DICT_SIZE_MAX_ENCODER, Consts.DICT_SIZE_MIN]

end LzmaVerif.Options
