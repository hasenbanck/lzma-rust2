import LzmaVerif.Proofs.LzDecoderLoop
import LzmaVerif.Model.Parse
/-!
# The cyclic dictionary buffer refines the unbounded history (`src/lz/lz_decoder.rs`)

Model: `Model/LzDecoder.lean` (validated against the real `LZDecoder` through `verif_hooks::lz_decoder_script`).
This file: the end-to-end theorems (`rounds_refine`, `readAll_refine`, partition independence), the
abstraction function `abs` (the window = the last `full` bytes of the history), and the witnesses.
-/
namespace LzmaVerif.LzDecoder
open LzmaVerif LzmaVerif.Lzma

theorem append_toArray₂ (H : Hist) (a b : List Nat) : H ++ a.toArray ++ b.toArray = H ++ (a ++ b).toArray := by
  rw [Array.append_assoc, List.append_toArray a b]

theorem size_append_toArray (H : Hist) (a : List Nat) : (H ++ a.toArray).size = H.size + a.length := by
  rw [Array.size_append, List.size_toArray (as := a)]

theorem Ext.out_eq {H F : Hist} {out : List Nat} (h : Ext (H ++ out.toArray) F) :
    out = (F.toList.drop H.size).take out.length := by
  rw [h.eq_append]
  simp

theorem rounds_spec {n : Nat} (hn : 1 ≤ n) {Final H : Hist} {s : State} {base : Nat} {rest : List Sym} (sizes : List Nat)
    (hb : Between n s H base rest Final) (hpos : ∀ x ∈ sizes, 1 ≤ x) :
    ∃ out s' rest' base', rounds s sizes rest = .ok (out, s', rest') ∧
      Between n s' (H ++ out.toArray) base' rest' Final := by
  induction sizes generalizing s H base rest with
  | nil => exact ⟨[], s, rest, base, rfl, by simpa using hb⟩
  | cons x xs ih =>
    obtain ⟨o1, s1, r1, base1, hrun1, hb1, -⟩ := round_spec hb hn x (hpos x List.mem_cons_self)
    obtain ⟨o2, s2, r2, base2, hrun2, hb2⟩ := ih hb1 fun y hy => hpos y (List.mem_cons_of_mem _ hy)
    refine ⟨o1 ++ o2, s2, r2, base2, ?_, append_toArray₂ H o1 o2 ▸ hb2⟩
    simp only [rounds, hrun1, hrun2]

theorem between_new (dict : Nat) (preset : Option (List Nat)) (syms : List Sym)
    (hadm : Admissible dict (presetUsed dict preset).toArray syms) :
    Between dict (new dict preset) (presetUsed dict preset).toArray 0 syms
      (applySyms (presetUsed dict preset).toArray syms) := by
  obtain ⟨hi, hst, hpl, hbs, -⟩ := new_spec dict preset
  exact ⟨Sim.idle hi hbs hpl hadm, hst, fun h => absurd h (hpl ▸ Nat.lt_irrefl 0)⟩

/-- **Refinement, iteration level.**  Start from `LZDecoder::new(dict, preset)`, run the iteration
`set_limit(n); repeat_pending; symbols while has_space; flush` for ANY list of positive sizes over an
admissible symbol sequence.  Then no step fails (no index out of range, no underflow, no failed debug
assertion, no "dist overflow"), and the bytes handed out so far, followed by the pending part of a cut
match and the symbols not yet consumed, are exactly the one-shot history of the unbounded model. -/
theorem rounds_refine (dict : Nat) (preset : Option (List Nat)) (syms : List Sym) (sizes : List Nat)
    (hd : 1 ≤ dict) (hpos : ∀ x ∈ sizes, 1 ≤ x)
    (hadm : Admissible dict (presetUsed dict preset).toArray syms) :
    ∃ out s' rest, rounds (new dict preset) sizes syms = .ok (out, s', rest) ∧
      applySyms (Hist.copy (presetUsed dict preset ++ out).toArray s'.pendingDist s'.pendingLen) rest =
        applySyms (presetUsed dict preset).toArray syms ∧
      out = (((applySyms (presetUsed dict preset).toArray syms).toList.drop (presetUsed dict preset).length).take out.length) ∧
      (rest = [] → s'.pendingLen = 0 →
        out = (applySyms (presetUsed dict preset).toArray syms).toList.drop (presetUsed dict preset).length) := by
  obtain ⟨out, s', rest, base', hrun, hb'⟩ := rounds_spec hd sizes (between_new dict preset syms hadm) hpos
  have hfin := hb'.fin
  rw [List.append_toArray] at hfin
  refine ⟨out, s', rest, hrun, hfin, hb'.ext.out_eq, fun hr hp => ?_⟩
  rw [virt_idle hp, hr] at hfin
  rw [← show (presetUsed dict preset ++ out).toArray = _ from hfin]
  simp

/-- the result does not depend on the iteration sizes once everything has been consumed -/
theorem rounds_partition_free (dict : Nat) (preset : Option (List Nat)) (syms : List Sym) (sizes₁ sizes₂ : List Nat)
    (hd : 1 ≤ dict) (h1 : ∀ x ∈ sizes₁, 1 ≤ x) (h2 : ∀ x ∈ sizes₂, 1 ≤ x)
    (hadm : Admissible dict (presetUsed dict preset).toArray syms)
    {o1 o2 : List Nat} {s1 s2 : State}
    (r1 : rounds (new dict preset) sizes₁ syms = .ok (o1, s1, [])) (p1 : s1.pendingLen = 0)
    (r2 : rounds (new dict preset) sizes₂ syms = .ok (o2, s2, [])) (p2 : s2.pendingLen = 0) : o1 = o2 := by
  obtain ⟨out, s', rest, hrun, -, -, hfull⟩ := rounds_refine dict preset syms sizes₁ hd h1 hadm
  obtain ⟨out', s'', rest', hrun', -, -, hfull'⟩ := rounds_refine dict preset syms sizes₂ hd h2 hadm
  rw [r1] at hrun; rw [r2] at hrun'
  cases hrun; cases hrun'
  rw [hfull rfl p1, hfull' rfl p2]

/-- a `read` call yields `len` bytes unless the stream ends first.  The fuel suffices because every
    iteration but the first yields at least one byte, and the first does too unless `pos = n` -/
theorem readCall_spec {n : Nat} (hn : 1 ≤ n) {Final H : Hist} {s : State} {base : Nat} {rest : List Sym} (fuel len : Nat)
    (hb : Between n s H base rest Final) (hf : len < fuel ∨ (len ≤ fuel ∧ s.pos < n)) :
    ∃ out s' rest' base', readCall fuel s len rest = .ok (out, s', rest') ∧
      Between n s' (H ++ out.toArray) base' rest' Final ∧ out.length = min len (Final.size - H.size) := by
  induction fuel generalizing s H base rest len with
  | zero =>
    obtain rfl : len = 0 := by omega
    exact ⟨[], s, rest, base, rfl, by simpa using hb, (Nat.zero_min _).symm⟩
  | succ f ih =>
    by_cases hl0 : len = 0
    · subst hl0
      exact ⟨[], s, rest, base, by simp only [readCall, if_true], by simpa using hb, (Nat.zero_min _).symm⟩
    · obtain ⟨o1, s1, r1, base1, hrun1, hb1, hle1, hpos1, hprog1⟩ := round_spec hb hn len (Nat.pos_of_ne_zero hl0)
      have hF1 := hb1.ext.1
      rw [size_append_toArray] at hF1
      by_cases hend : r1 = [] ∧ s1.pendingLen = 0
      · refine ⟨o1, s1, r1, base1, ?_, hb1, ?_⟩
        · simp only [readCall, hl0, if_false, hrun1, hend, and_self, if_true]
        · have hfin := hb1.fin
          rw [virt_idle hend.2, hend.1] at hfin
          rw [← show H ++ o1.toArray = Final from hfin, size_append_toArray, Nat.add_sub_cancel_left,
            Nat.min_eq_right hle1]
      · have hfuel : len - o1.length ≤ f := by
          rcases hf with h | ⟨h, hp⟩
          · omega
          · rcases hprog1 hp with h' | h'
            · omega
            · exact absurd h' hend
        obtain ⟨o2, s2, r2, base2, hrun2, hb2, hlen2⟩ := ih (len - o1.length) hb1 (Or.inr ⟨hfuel, hpos1⟩)
        refine ⟨o1 ++ o2, s2, r2, base2, ?_, append_toArray₂ H o1 o2 ▸ hb2, ?_⟩
        · simp only [readCall, hl0, if_false, hrun1, hend, hrun2]
        · rw [List.length_append, hlen2, size_append_toArray, Nat.sub_add_eq, Nat.sub_min_sub_right,
            Nat.add_sub_cancel' (Nat.le_min.2 ⟨hle1, Nat.le_sub_of_add_le' hF1⟩)]

theorem min_add_min (a b t : Nat) : min a t + min b (t - min a t) = min (a + b) t := by
  rcases Nat.le_total a t with h | h
  · rw [Nat.min_eq_left h, ← Nat.add_min_add_left, Nat.add_sub_cancel' h]
  · rw [Nat.min_eq_right h, Nat.sub_self, Nat.min_zero, Nat.add_zero,
      Nat.min_eq_right (Nat.le_trans h (Nat.le_add_right a b))]

theorem readAll_spec {n : Nat} (hn : 1 ≤ n) {Final H : Hist} {s : State} {base : Nat} {rest : List Sym} (sizes : List Nat)
    (hb : Between n s H base rest Final) :
    ∃ out s' rest' base', readAll s sizes rest = .ok (out, s', rest') ∧
      Between n s' (H ++ out.toArray) base' rest' Final ∧ out.length = min sizes.sum (Final.size - H.size) := by
  induction sizes generalizing s H base rest with
  | nil => exact ⟨[], s, rest, base, rfl, by simpa using hb, (Nat.zero_min _).symm⟩
  | cons x xs ih =>
    obtain ⟨o1, s1, r1, base1, hrun1, hb1, hlen1⟩ := readCall_spec hn (x + 1) x hb (Or.inl (Nat.lt_succ_self _))
    obtain ⟨o2, s2, r2, base2, hrun2, hb2, hlen2⟩ := ih hb1
    refine ⟨o1 ++ o2, s2, r2, base2, ?_, append_toArray₂ H o1 o2 ▸ hb2, ?_⟩
    · simp only [readAll, hrun1, hrun2]
    · rw [List.length_append, hlen2, size_append_toArray, hlen1, List.sum_cons, Nat.sub_add_eq, min_add_min]

/-- **Refinement, `read` level (C07 for the reader side, C06/C15 index safety).**  For every admissible
symbol sequence and EVERY list of read buffer lengths (zero-length reads included), the `read` calls of
the reader over the cyclic buffer never fail and return, concatenated, exactly the first `sizes.sum`
bytes of what the unbounded history model produces after the preset dictionary. -/
theorem readAll_refine (dict : Nat) (preset : Option (List Nat)) (syms : List Sym) (sizes : List Nat)
    (hd : 1 ≤ dict) (hadm : Admissible dict (presetUsed dict preset).toArray syms) :
    ∃ s' rest, readAll (new dict preset) sizes syms =
      .ok (((applySyms (presetUsed dict preset).toArray syms).toList.drop (presetUsed dict preset).length).take sizes.sum,
           s', rest) := by
  obtain ⟨out, s', rest, base', hrun, hb', hlen⟩ := readAll_spec hd sizes (between_new dict preset syms hadm)
  have hout := hb'.ext.out_eq
  rw [hlen, List.size_toArray, ← Array.length_toList, ← List.length_drop, ← List.take_eq_take_min] at hout
  exact ⟨s', rest, hout ▸ hrun⟩

/-- **Independence from call partitioning**: two read schedules that ask for the same number of bytes
    get the same bytes -/
theorem readAll_partition_free (dict : Nat) (preset : Option (List Nat)) (syms : List Sym) (sizes₁ sizes₂ : List Nat)
    (hd : 1 ≤ dict) (hadm : Admissible dict (presetUsed dict preset).toArray syms) (hsum : sizes₁.sum = sizes₂.sum) :
    (readAll (new dict preset) sizes₁ syms).map (·.1) = (readAll (new dict preset) sizes₂ syms).map (·.1) := by
  obtain ⟨s1, r1, h1⟩ := readAll_refine dict preset syms sizes₁ hd hadm
  obtain ⟨s2, r2, h2⟩ := readAll_refine dict preset syms sizes₂ hd hadm
  rw [h1, h2, hsum]; rfl

theorem readAll_complete (dict : Nat) (preset : Option (List Nat)) (syms : List Sym) (sizes : List Nat)
    (hd : 1 ≤ dict) (hadm : Admissible dict (presetUsed dict preset).toArray syms)
    (hsum : (applySyms (presetUsed dict preset).toArray syms).size - (presetUsed dict preset).length ≤ sizes.sum) :
    (readAll (new dict preset) sizes syms).map (·.1) =
      .ok ((applySyms (presetUsed dict preset).toArray syms).toList.drop (presetUsed dict preset).length) := by
  obtain ⟨s1, r1, h1⟩ := readAll_refine dict preset syms sizes hd hadm
  rw [h1, List.take_of_length_le (by rw [List.length_drop, Array.length_toList]; exact hsum)]
  rfl

def lastN (k : Nat) (h : Hist) : Hist := h.extract (h.size - k) h.size

/-- the dictionary window held by the buffer, oldest byte first: the previous lap from `pos` up to `full`,
    then the current lap up to `pos` -/
def abs (s : State) : Hist := s.buf.extract s.pos s.full ++ s.buf.extract 0 s.pos

theorem size_lastN (k : Nat) (h : Hist) (hk : k ≤ h.size) : (lastN k h).size = k := by
  unfold lastN; rw [Array.size_extract]; omega

theorem getD_lastN (k : Nat) (h : Hist) (hk : k ≤ h.size) (i : Nat) (hi : i < k) :
    (lastN k h).getD i 0 = h.getD (h.size - k + i) 0 :=
  getD_extract h _ _ i (Nat.le_refl _) (by omega)

/-- **Abstraction.** Under the invariant the window is the last `full = min |H| buf_size` bytes of the history -/
theorem abs_eq {s : State} {H : Hist} {base : Nat} (hi : Inv s H base) : abs s = lastN s.full H := by
  have hr := hi.rep
  have htot := hr.total
  unfold abs lastN
  rw [hr.extract_cur (Nat.le_refl _), Nat.add_zero, ← htot]
  rcases hi.full_eq with ⟨h1, h2⟩ | ⟨h1, h2⟩
  · rw [h2, Array.extract_eq_empty_of_le (Nat.min_le_left _ _), Array.empty_append]
    congr 1; omega
  · have hple := hr.pos_le
    rw [h2, hr.extract_old h1 (a := H.size - s.bufSize) (by omega), Array.extract_append_extract]
    congr 1 <;> omega

theorem back_lastN (k : Nat) (h : Hist) (hk : k ≤ h.size) (d : Nat) (hd : d < k) : (lastN k h).back d = h.back d := by
  rw [back_def _ _ (by rw [size_lastN k h hk]; exact hd), back_def _ _ (by omega), size_lastN k h hk,
      getD_lastN k h hk _ (by omega)]
  congr 1; omega

theorem getByte_abs {s : State} {H : Hist} {base : Nat} (hi : Inv s H base) (dist : Nat) (hd : dist < s.full) :
    s.getByte dist = .ok ((abs s).back dist) := by
  rw [getByte_spec hi dist (Or.inl hd), abs_eq hi, back_lastN _ _ (hi.full_eq_min ▸ Nat.min_le_left _ _) _ hd]

theorem lastN_lastN (k f : Nat) (H : Hist) (hk : k ≤ f) (hf : f ≤ H.size) : lastN k (lastN f H) = lastN k H := by
  unfold lastN
  rw [Array.extract_extract, Array.size_extract, Nat.min_self]
  congr 1 <;> omega

theorem lastN_push (f : Nat) (H : Hist) (b : Nat) : (lastN f H).push b = lastN (f + 1) (H.push b) := by
  unfold lastN
  rw [Array.size_push, Array.extract_push, if_neg (Nat.not_succ_le_self _), Nat.add_sub_add_right,
    if_pos (Nat.sub_le _ _)]

/-- copying inside a long enough suffix is copying in the whole history -/
theorem copy_lastN (d : Nat) : ∀ (l f : Nat) (H : Hist), d < f → f ≤ H.size →
    Hist.copy (lastN f H) d l = lastN (f + l) (Hist.copy H d l)
  | 0, f, H, _, _ => rfl
  | l + 1, f, H, hd, hf => by
    rw [copy_succ, copy_succ, back_lastN f H hf d hd, lastN_push,
      copy_lastN d l (f + 1) _ (by omega) (by rw [Array.size_push]; omega), Nat.add_right_comm, Nat.add_assoc]

theorem abs_grow {s s' : State} {H T : Hist} {base c : Nat} (hi : Inv s H base) (hi' : Inv s' T base)
    (hb : s'.bufSize = s.bufSize) (hT : T.size = H.size + c) :
    s'.full = min (s.full + c) s.bufSize ∧ abs s' = lastN s'.full (lastN (s.full + c) T) := by
  have hle : s.full ≤ H.size := hi.full_eq_min ▸ Nat.min_le_left _ _
  have hfull : s'.full = min (s.full + c) s.bufSize := by
    rw [hi'.full_eq_min, hT, hb, hi.full_eq_min, ← Nat.add_min_add_right, Nat.min_assoc,
      Nat.min_eq_right (Nat.le_add_right s.bufSize c)]
  refine ⟨hfull, ?_⟩
  rw [abs_eq hi', lastN_lastN _ _ _ (hfull ▸ Nat.min_le_left _ _) (hT ▸ Nat.add_le_add_right hle c)]

/-- `put_byte` is `Hist.push` on the window (truncated to the dictionary size) -/
theorem abs_putByte {s : State} {H : Hist} {base : Nat} (hi : Inv s H base) (hspace : s.pos < s.limit) (b : Nat) :
    ∃ s', s.putByte b = .ok s' ∧ abs s' = lastN s'.full ((abs s).push b) ∧ s'.full = min (s.full + 1) s.bufSize := by
  obtain ⟨s', hrun, hi', post⟩ := putByte_spec hi hspace b
  obtain ⟨hfull, habs⟩ := abs_grow hi hi' post.bufSize (Array.size_push _)
  refine ⟨s', hrun, ?_, hfull⟩
  rw [habs, ← lastN_push, ← abs_eq hi]

/-- `repeat(dist, len)` is `Hist.copy` on the window for the bytes that fit; the rest stays pending -/
theorem abs_repeat {s : State} {H : Hist} {base dist len : Nat} (hi : Inv s H base)
    (hspace : s.pos < s.limit) (hd : dist < s.full) (hlen : 1 ≤ len) :
    ∃ s', s.repeat dist len = .ok s' ∧
      abs s' = lastN s'.full (Hist.copy (abs s) dist (min (s.limit - s.pos) len)) ∧
      s'.full = min (s.full + min (s.limit - s.pos) len) s.bufSize ∧
      s'.pendingLen = len - min (s.limit - s.pos) len ∧ s'.pendingDist = dist := by
  obtain ⟨s', hrun, hi', post⟩ := repeat_spec hi hspace hd hlen
  obtain ⟨hfull, habs⟩ := abs_grow hi hi' post.bufSize (size_copy _ _ _)
  refine ⟨s', hrun, ?_, hfull, post.pendingLen, post.pendingDist⟩
  rw [habs, ← copy_lastN _ _ _ _ hd (hi.full_eq_min ▸ Nat.min_le_left _ _), ← abs_eq hi]

/-- `copy_uncompressed` (the stored chunks of LZMA2) -/
theorem copyUncompressed_spec {s : State} {H : Hist} {base : Nat} (hi : Inv s H base) (data : List Nat) (len : Nat)
    (hdata : min (s.bufSize - s.pos) len ≤ data.length) :
    ∃ s', s.copyUncompressed data len = .ok s' ∧
      Inv s' (H ++ (data.take (min (s.bufSize - s.pos) len)).toArray) base ∧
      s'.pos = s.pos + min (s.bufSize - s.pos) len := by
  have hr := hi.rep
  have hsz := hr.size
  have hple := hr.pos_le
  unfold State.copyUncompressed
  generalize hc : min (s.bufSize - s.pos) len = c at *
  have hfit : s.pos + c ≤ s.bufSize := by omega
  clear hc
  have hxs : (data.take c).toArray.size = c := by
    rw [List.size_toArray, List.length_take, Nat.min_eq_left hdata]
  rw [if_neg (Nat.not_lt_of_le hple), if_neg (fun h => h (hsz ▸ hfit)), if_neg (Nat.not_lt_of_le hdata)]
  have hrep := hr.append_step (data.take c).toArray (by rw [hxs]; exact hfit)
  rw [hxs] at hrep
  refine ⟨_, rfl, (wrote_spec hi hrep ?_).1, rfl⟩
  rcases Nat.eq_zero_or_pos c with h0 | h0
  · right
    rw [blit_getD _ _ _ _ (by rw [hxs]; exact hsz ▸ hfit), if_neg (by rw [hxs, h0]; omega)]
  · exact Or.inl h0

/-! ## Witnesses: every copy strategy of `repeat` is exercised; why `dist ≥ full` is rejected -/

deriving instance DecidableEq for Except

/-- no wrap, `dist ≥ left`: `split_at_mut` + `copy_from_slice` -/
theorem witness_direct :
    runScript 8 none [(0, 8, 0), (1, 1, 0), (1, 2, 0), (1, 3, 0), (2, 2, 2), (4, 0, 0)] = .ok [1, 2, 3, 1, 2] := by
  decide +kernel

/-- no wrap, `dist < left`: the overlapping `copy_within` loop (period 1, then period 2 with doubling) -/
theorem witness_overlap :
    runScript 8 none [(0, 8, 0), (1, 7, 0), (2, 0, 3), (4, 0, 0)] = .ok [7, 7, 7, 7] ∧
    runScript 16 none [(0, 16, 0), (1, 1, 0), (1, 2, 0), (2, 1, 7), (4, 0, 0)] = .ok [1, 2, 1, 2, 1, 2, 1, 2, 1] := by
  decide +kernel

/-- the distance wraps around the end of the buffer: early return (match ends inside the old lap),
    wrap + direct copy, wrap + overlapping loop -/
theorem witness_wrap :
    runScript 4 none [(0, 4, 0), (1, 1, 0), (1, 2, 0), (1, 3, 0), (1, 4, 0), (4, 0, 0), (0, 4, 0), (2, 3, 2), (4, 0, 0)]
      = .ok [1, 2, 3, 4, 1, 2] ∧
    runScript 4 none [(0, 4, 0), (1, 1, 0), (1, 2, 0), (1, 3, 0), (1, 4, 0), (4, 0, 0), (0, 4, 0), (2, 2, 4), (4, 0, 0)]
      = .ok [1, 2, 3, 4, 2, 3, 4, 2] ∧
    runScript 4 none [(0, 4, 0), (1, 1, 0), (1, 2, 0), (1, 3, 0), (1, 4, 0), (4, 0, 0), (0, 4, 0), (2, 1, 4), (4, 0, 0)]
      = .ok [1, 2, 3, 4, 3, 4, 3, 4] := by
  decide +kernel

/-- a match cut by the limit is completed by `repeat_pending` over later calls, across a wrap of the buffer,
    with a preset dictionary longer than the buffer -/
theorem witness_pending :
    runScript 4 (some [9, 9, 5, 6, 7, 8]) [(0, 3, 0), (3, 0, 0), (4, 0, 0), (0, 3, 0), (2, 3, 7), (4, 0, 0),
        (0, 2, 0), (3, 0, 0), (4, 0, 0), (0, 9, 0), (3, 0, 0), (4, 0, 0), (0, 9, 0), (3, 0, 0), (4, 0, 0)]
      = .ok [5, 6, 7, 8, 5, 6, 7] := by
  decide +kernel

/-- the same symbols under two different read schedules (model of the reader loop) -/
theorem witness_schedules :
    (readAll (new 4 (some [1, 2])) [1, 1, 1, 1, 1, 1, 1, 1, 1] [.lit 3, .mtch 2 6, .lit 4, .mtch 0 1]).map (·.1)
      = .ok [3, 1, 2, 3, 1, 2, 3, 4, 4] ∧
    (readAll (new 4 (some [1, 2])) [0, 7, 0, 5] [.lit 3, .mtch 2 6, .lit 4, .mtch 0 1]).map (·.1)
      = .ok [3, 1, 2, 3, 1, 2, 3, 4, 4] := by
  decide +kernel

/-- `dist = full` is rejected ("dist overflow"), `dist = full - 1` is accepted -/
theorem witness_dist_overflow :
    runScript 8 none [(0, 8, 0), (1, 1, 0), (1, 2, 0), (2, 2, 1)] = .error "dist overflow" ∧
    runScript 8 none [(0, 8, 0), (1, 1, 0), (1, 2, 0), (2, 1, 1), (4, 0, 0)] = .ok [1, 2, 1] := by
  decide +kernel

/-- why the check is needed: the buffer keeps bytes the history no longer has.  After `reset` the history
    is empty (`Hist.back #[] 1 = 0`), but slot `buf_size - 2` still holds a byte written before the reset;
    `get_byte` (which has no check) hands it out, and so would an unchecked `repeat`. -/
theorem witness_stale :
    (((new 4 none).setLimit 4).putByte 1 >>= (·.putByte 2) >>= (·.putByte 3) >>= (·.putByte 4)
      >>= (·.flush 4) >>= (·.2.reset) >>= (·.getByte 1)) = .ok 3 ∧
    Hist.back #[] 1 = 0 := by
  decide +kernel

/-- a zero-length iteration with a pending match trips `debug_assert!(left > 0)` (debug builds only; the
    readers never do this: they return early on an empty buffer) -/
theorem witness_zero_limit :
    runScript 4 none [(0, 2, 0), (1, 1, 0), (2, 0, 3), (4, 0, 0), (0, 0, 0), (3, 0, 0)]
      = .error "panic: debug assertion" := by
  decide +kernel

/-- the dictionary operations behind a parse of the LZMA symbol model (`Model/Parse.lean`) -/
def ofParse : Coder → List Lzma.Sym → List Sym
  | _, [] => []
  | c, s :: r =>
    (match s with
     | .lit b => Sym.lit b
     | _ => match s.copyOf c with
            | some (d, l) => Sym.mtch d l
            | none => Sym.lit 0) :: ofParse (c.apply s) r

/-- a parse that `parseRun` accepts is an admissible symbol sequence for the cyclic buffer, and the
    history `parseRun` computes is `applySyms` of it -/
theorem ofParse_admissible (n : Nat) (syms : List Lzma.Sym) (c : Coder) (h : Hist) (c' : Coder) (h' : Hist)
    (hp : parseRun n syms c h = some (c', h')) :
    Admissible n h (ofParse c syms) ∧ applySyms h (ofParse c syms) = h' := by
  induction syms generalizing c h with
  | nil =>
    simp only [parseRun, Option.some.injEq, Prod.mk.injEq] at hp
    exact ⟨trivial, hp.2⟩
  | cons s r ih =>
    cases s with
    | lit b =>
      simp only [parseRun] at hp
      split at hp
      · exact ih _ _ hp
      · exact absurd hp (by simp)
    | _ =>
      -- `mtch`, `rep`, `shortRep`: a copy of `Sym.copyOf`, of positive length by `SymOk`
      simp only [parseRun, Sym.copyOf] at hp
      split at hp
      · rename_i hc
        obtain ⟨hok, h1, h2⟩ := hc
        simp only [SymOk] at hok
        have := ih _ _ hp
        exact ⟨⟨by omega, h1, h2, this.1⟩, this.2⟩
      · exact absurd hp (by simp)

/-- the reader over the cyclic buffer hands out, for every read schedule, the history that `parseRun`
    (the specification used by the LZMA / LZMA2 round-trip theorems) assigns to the parse -/
theorem readAll_of_parse (dict : Nat) (preset : Option (List Nat)) (syms : List Lzma.Sym) (sizes : List Nat)
    (hd : 1 ≤ dict) (c' : Coder) (h' : Hist)
    (hp : parseRun dict syms Coder.init (presetUsed dict preset).toArray = some (c', h')) :
    ∃ s' rest, readAll (new dict preset) sizes (ofParse Coder.init syms) =
      .ok ((h'.toList.drop (presetUsed dict preset).length).take sizes.sum, s', rest) := by
  obtain ⟨hadm, hfin⟩ := ofParse_admissible dict syms _ _ _ _ hp
  exact hfin ▸ readAll_refine dict preset (ofParse Coder.init syms) sizes hd hadm

end LzmaVerif.LzDecoder

section Axioms
open LzmaVerif.LzDecoder
#print axioms copyLoop_spec
#print axioms copyLoop_fuel_irrelevant
#print axioms new_spec
#print axioms reset_spec
#print axioms setLimit_spec
#print axioms getByte_spec
#print axioms putByte_spec
#print axioms repeat_spec
#print axioms repeatPending_spec
#print axioms flush_spec
#print axioms copyUncompressed_spec
#print axioms consume_spec
#print axioms round_spec
#print axioms rounds_refine
#print axioms rounds_partition_free
#print axioms readAll_refine
#print axioms readAll_partition_free
#print axioms readAll_complete
#print axioms ofParse_admissible
#print axioms readAll_of_parse
#print axioms abs_eq
#print axioms getByte_abs
#print axioms abs_putByte
#print axioms abs_repeat
#print axioms witness_direct
#print axioms witness_overlap
#print axioms witness_wrap
#print axioms witness_pending
#print axioms witness_schedules
#print axioms witness_dist_overflow
#print axioms witness_stale
#print axioms witness_zero_limit
end Axioms
