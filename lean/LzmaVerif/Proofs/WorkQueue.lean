import LzmaVerif.Model.WorkQueue
import LzmaVerif.Proofs.Lts
/-
The work-queue model `Model/WorkQueue.lean` (C10).  The repaired `close()` stores `closed` while it holds the mutex.
`Inv` records who owns the mutex (`lockProd`, `lockW`) and draws from it that no worker stands between its load of
`closed = false` and its `wait` once `closed` is set (`closedNoToWait`), and that none is left waiting once
`notify_all` has been issued (`doneNoWait`); so a terminal state has every worker exited (`terminal_good`).
-/
namespace LzmaVerif.WorkQueue

def holdsLock : WPc → Bool
  | .locked | .check | .toWait => true
  | _ => false

def prodHolds : PPc → Bool
  | .pushDo _ | .closeStore | .closeUnlock => true
  | _ => false

structure Inv (s : Sys) : Prop where
  fixed : s.fixed = true
  lockProd : s.lock = .prod ↔ prodHolds s.p = true
  lockW : ∀ i, s.lock = .worker i ↔ (∃ w, s.ws[i]? = some w ∧ holdsLock w = true)
  closedIff : s.closed = true ↔ (s.p = .closeUnlock ∨ s.p = .closeNotify ∨ s.p = .done)
  closedNoToWait : s.closed = true → ∀ w ∈ s.ws, w ≠ .toWait
  doneNoWait : s.p = .done → ∀ w ∈ s.ws, w ≠ .waiting
  exitedQ : (.exited ∈ s.ws) → s.q = 0 ∧ s.closed = true
  chkQ : ∀ w ∈ s.ws, (w = .check ∨ w = .toWait) → s.q = 0

theorem wakeOne_woke : ∀ ws, ∃ n ≤ 1, Lts.Woke .waiting .woken n ws (wakeOne ws)
  | [] => ⟨0, Nat.zero_le _, .nil⟩
  | w :: r => by
    obtain ⟨n, hn, h⟩ := wakeOne_woke r
    cases w
    case waiting => exact ⟨1, Nat.le_refl _, .wake (.refl r)⟩
    all_goals exact ⟨n, hn, .keep _ h⟩

theorem wakeAll_woke (ws : List WPc) : ∃ n, Lts.Woke .waiting .woken n ws (wakeAll ws) := Lts.woke_map _ _ ws

theorem wakeAll_noWait (ws : List WPc) : ∀ w ∈ wakeAll ws, w ≠ .waiting :=
  Lts.not_mem_map (a := WPc.waiting) (b := WPc.woken) (by decide) ws

theorem holder_of_mem (s : Sys) (hlw : ∀ i, s.lock = .worker i ↔ (∃ w, s.ws[i]? = some w ∧ holdsLock w = true))
    (w : WPc) (hw : w ∈ s.ws) (hh : holdsLock w = true) : ∃ i, s.lock = .worker i := by
  obtain ⟨i, hi⟩ := List.getElem?_of_mem hw
  exact ⟨i, (hlw i).mpr ⟨w, hi, hh⟩⟩

theorem move_inv (s : Sys) (i : Nat) (old new : WPc) (lk : Owner) (q' : Nat)
    (h : Inv s) (hold : s.ws[i]? = some old)
    (hlk : (holdsLock new = true → lk = .worker i) ∧
           (holdsLock new = false → holdsLock old = true → lk = .none) ∧
           (holdsLock new = false → holdsLock old = false → lk = s.lock) ∧
           (holdsLock new = true → holdsLock old = false → s.lock = .none))
    (hq : q' ≤ s.q)
    (hnw : new = .waiting → old = .toWait)
    (hntw : new = .toWait → s.closed = false ∧ q' = 0)
    (hnck : new = .check → q' = 0)
    (hnex : new = .exited → s.closed = true ∧ q' = 0)
    (hqlock : q' ≠ s.q → holdsLock old = true) :
    Inv { s with q := q', lock := lk, ws := s.ws.set i new } := by
  have hil := (List.getElem?_eq_some_iff.mp hold).1
  have hmem : old ∈ s.ws := List.mem_of_getElem? hold
  obtain ⟨hk1, hk2, hk3, hk4⟩ := hlk
  have hown : holdsLock old = true → s.lock = .worker i := fun hh => (h.lockW i).mpr ⟨old, hold, hh⟩
  have hnot : holdsLock old = false → s.lock ≠ .worker i := fun hh hc => by
    obtain ⟨w, hw1, hw2⟩ := (h.lockW i).mp hc
    cases hold.symm.trans hw1
    exact nomatch hh.symm.trans hw2
  -- the move only changes whether worker `i` owns the mutex
  have hother : ∀ o, o ≠ .worker i → o ≠ .none → (lk = o ↔ s.lock = o) := fun o h1 h2 => by
    cases hn : holdsLock new <;> cases ho : holdsLock old
    · rw [hk3 hn ho]
    · rw [hk2 hn ho, hown ho]; exact ⟨fun hx => absurd hx.symm h2, fun hx => absurd hx.symm h1⟩
    · rw [hk1 hn, hk4 hn ho]; exact ⟨fun hx => absurd hx.symm h1, fun hx => absurd hx.symm h2⟩
    · rw [hk1 hn, hown ho]
  have hself : lk = .worker i ↔ holdsLock new = true := by
    refine ⟨fun hx => ?_, hk1⟩
    cases hn : holdsLock new
    · cases ho : holdsLock old
      · exact absurd (hk3 hn ho ▸ hx) (hnot ho)
      · exact nomatch (hk2 hn ho).symm.trans hx
    · rfl
  exact { h with
    lockProd := (hother .prod nofun nofun).trans h.lockProd
    lockW := fun j => by
      by_cases hij : i = j
      · subst hij
        show _ ↔ ∃ w, (s.ws.set i new)[i]? = some w ∧ _
        rw [List.getElem?_set_self hil]
        exact hself.trans ⟨fun hn => ⟨new, rfl, hn⟩, fun ⟨w, hw, hh⟩ => Option.some.inj hw ▸ hh⟩
      · show _ ↔ ∃ w, (s.ws.set i new)[j]? = some w ∧ _
        rw [List.getElem?_set_ne hij]
        exact (hother _ (fun hx => hij (Owner.worker.inj hx).symm) nofun).trans (h.lockW j)
    -- `toWait` is entered only after loading closed = false under the lock
    closedNoToWait := fun hc2 w hw => (List.mem_or_eq_of_mem_set hw).elim (h.closedNoToWait hc2 w)
      fun hx hc => nomatch (hntw (hx ▸ hc)).1.symm.trans hc2
    doneNoWait := fun hp w hw => (List.mem_or_eq_of_mem_set hw).elim (h.doneNoWait hp w)
      fun hx hc => h.closedNoToWait (h.closedIff.mpr (.inr (.inr hp))) _ hmem (hnw (hx ▸ hc))
    exitedQ := fun he => (List.mem_or_eq_of_mem_set he).elim
      (fun hx => ⟨Nat.eq_zero_of_le_zero ((h.exitedQ hx).1 ▸ hq), (h.exitedQ hx).2⟩)
      fun hx => (hnex hx.symm).symm
    chkQ := fun w hw hc => (List.mem_or_eq_of_mem_set hw).elim
      (fun hx => Nat.eq_zero_of_le_zero (h.chkQ w hx hc ▸ hq))
      fun hx => hc.elim (fun hy => hnck (hx ▸ hy)) fun hy => (hntw (hx ▸ hy)).2 }

/-- waking workers is harmless at any time: each woken worker makes the move `waiting → woken` -/
theorem Inv.wake {s : Sys} (h : Inv s) {n : Nat} {ws' : List WPc} (hw : Lts.Woke .waiting .woken n s.ws ws') :
    Inv { s with ws := ws' } :=
  hw.induct (P := fun l => Inv { s with ws := l }) h fun l i hl hi =>
    move_inv { s with ws := l } i .waiting .woken s.lock s.q hl hi ⟨nofun, nofun, fun _ _ => rfl, nofun⟩
      (Nat.le_refl _) nofun nofun nofun nofun (absurd rfl)

theorem prod_step_inv (s s' : Sys) (h : Inv s) (hs : step s .prod = some s') : Inv s' := by
  obtain ⟨fixed, q, closed, lock, ws, p⟩ := s
  obtain rfl : fixed = true := h.fixed
  -- while the producer holds the mutex no worker does
  have hnh : prodHolds p = true → ∀ w ∈ ws, holdsLock w = false := fun hp w hw =>
    Bool.eq_false_iff.mpr fun hh => by
      obtain ⟨i, hi⟩ := holder_of_mem _ h.lockW w hw hh
      exact nomatch (h.lockProd.mpr hp).symm.trans hi
  have hex : WPc.exited ∈ ws → closed = true := fun he => (h.exitedQ he).2
  simp only [step] at hs
  split at hs
  · -- `pushLock`
    split at hs <;> cases hs
    next hl =>
    exact { h with
      lockProd := ⟨fun _ => rfl, fun _ => rfl⟩
      lockW := fun i => ⟨nofun, fun hx => nomatch hl.symm.trans ((h.lockW i).mpr hx)⟩
      closedIff := ⟨(nomatch h.closedIff.mp ·), nofun⟩
      doneNoWait := nofun }
  · -- `pushDo`: push and unlock
    cases hs
    exact { h with
      lockProd := ⟨nofun, nofun⟩
      lockW := fun i => ⟨nofun, fun ⟨w, hw, hh⟩ => nomatch (hnh rfl w (List.mem_of_getElem? hw)).symm.trans hh⟩
      closedIff := ⟨(nomatch h.closedIff.mp ·), nofun⟩
      doneNoWait := nofun
      exitedQ := fun he => nomatch h.closedIff.mp (hex he)
      chkQ := fun w hw hc => by rcases hc with rfl | rfl <;> exact nomatch hnh rfl _ hw }
  · -- `notify_one`
    rename_i l
    cases hs
    obtain ⟨n, -, hw⟩ := wakeOne_woke ws
    have hnx : nextAfterNotify true l = .closeLock ∨ nextAfterNotify true l = .pushLock l := by
      unfold nextAfterNotify startClose; split <;> simp
    rcases hnx with hx | hx <;> rw [hx] <;> exact { h.wake hw with
      lockProd := ⟨(nomatch h.lockProd.mp ·), nofun⟩
      closedIff := ⟨(nomatch h.closedIff.mp ·), nofun⟩
      doneNoWait := nofun }
  · -- `closeLock`
    split at hs <;> cases hs
    next hl =>
    exact { h with
      lockProd := ⟨fun _ => rfl, fun _ => rfl⟩
      lockW := fun i => ⟨nofun, fun hx => nomatch hl.symm.trans ((h.lockW i).mpr hx)⟩
      closedIff := ⟨(nomatch h.closedIff.mp ·), nofun⟩
      doneNoWait := nofun }
  · -- `closeStore`: `closed` is stored while the producer holds the mutex, so no worker is between its load of
    -- `closed` and its wait
    cases hs
    exact { h with
      lockProd := ⟨fun _ => rfl, fun _ => h.lockProd.mpr rfl⟩
      closedIff := ⟨fun _ => .inl rfl, fun _ => rfl⟩
      closedNoToWait := fun _ w hw hc => nomatch hc ▸ hnh rfl w hw
      doneNoWait := nofun
      exitedQ := fun he => nomatch h.closedIff.mp (hex he) }
  · -- `closeUnlock`
    cases hs
    exact { h with
      lockProd := ⟨nofun, nofun⟩
      lockW := fun i => ⟨nofun, fun ⟨w, hw, hh⟩ => nomatch (hnh rfl w (List.mem_of_getElem? hw)).symm.trans hh⟩
      closedIff := ⟨fun _ => .inr (.inl rfl), fun _ => h.closedIff.mpr (.inl rfl)⟩
      doneNoWait := nofun }
  · -- `notify_all`
    cases hs
    obtain ⟨n, hw⟩ := wakeAll_woke ws
    exact { h.wake hw with
      lockProd := ⟨(nomatch h.lockProd.mp ·), nofun⟩
      closedIff := ⟨fun _ => .inr (.inr rfl), fun _ => h.closedIff.mpr (.inr (.inl rfl))⟩
      doneNoWait := fun _ => wakeAll_noWait ws }
  · cases hs

theorem worker_step_inv (s s' : Sys) (i : Nat) (h : Inv s) (hs : step s (.worker i) = some s') : Inv s' := by
  simp only [step] at hs
  split at hs
  · cases hs
  next pc hpc =>
  have hown : holdsLock pc = true → s.lock = .worker i := fun hh => (h.lockW i).mpr ⟨pc, hpc, hh⟩
  have hq0 : pc = .check → s.q = 0 := fun hx => h.chkQ _ (List.mem_of_getElem? hpc) (.inl hx)
  have hsame : s.q ≠ s.q → holdsLock pc = true := fun hx => absurd rfl hx
  cases pc <;> simp only at hs
  case idle =>
    split at hs <;> cases hs
    next hl =>
    exact move_inv s i .idle .locked (.worker i) s.q h hpc ⟨fun _ => rfl, nofun, nofun, fun _ _ => hl⟩
      (Nat.le_refl _) nofun nofun nofun nofun hsame
  case locked =>
    split at hs <;> cases hs
    · exact move_inv s i .locked .work .none (s.q - 1) h hpc ⟨nofun, fun _ _ => rfl, nofun, nofun⟩
        (Nat.sub_le _ _) nofun nofun nofun nofun (fun _ => rfl)
    · next hq =>
      exact move_inv s i .locked .check s.lock s.q h hpc ⟨fun _ => hown rfl, nofun, nofun, nofun⟩
        (Nat.le_refl _) nofun nofun (fun _ => Nat.eq_zero_of_not_pos hq) nofun hsame
  case check =>
    split at hs <;> cases hs
    · next hc =>
      exact move_inv s i .check .exited .none s.q h hpc ⟨nofun, fun _ _ => rfl, nofun, nofun⟩
        (Nat.le_refl _) nofun nofun nofun (fun _ => ⟨hc, hq0 rfl⟩) hsame
    · next hc =>
      exact move_inv s i .check .toWait s.lock s.q h hpc ⟨fun _ => hown rfl, nofun, nofun, nofun⟩
        (Nat.le_refl _) nofun (fun _ => ⟨Bool.eq_false_iff.mpr hc, hq0 rfl⟩) nofun nofun hsame
  case toWait =>
    cases hs
    exact move_inv s i .toWait .waiting .none s.q h hpc ⟨nofun, fun _ _ => rfl, nofun, nofun⟩
      (Nat.le_refl _) (fun _ => rfl) nofun nofun nofun hsame
  case waiting => cases hs
  case woken =>
    split at hs <;> cases hs
    next hl =>
    exact move_inv s i .woken .locked (.worker i) s.q h hpc ⟨fun _ => rfl, nofun, nofun, fun _ _ => hl⟩
      (Nat.le_refl _) nofun nofun nofun nofun hsame
  case work =>
    cases hs
    exact move_inv s i .work .idle s.lock s.q h hpc ⟨nofun, nofun, fun _ _ => rfl, nofun⟩
      (Nat.le_refl _) nofun nofun nofun nofun hsame
  case exited => cases hs

theorem step_inv (s s' : Sys) (t : Tid) (h : Inv s) (hs : step s t = some s') : Inv s' := by
  cases t with
  | prod => exact prod_step_inv s s' h hs
  | worker i => exact worker_step_inv s s' i h hs

/-- what evaluation leaves: the producer's first program counter, and `idle` not holding the mutex -/
theorem init_inv (n k : Nat) : Inv (init true n k) := by
  constructor <;> simp [init, startClose, List.mem_replicate, List.getElem?_replicate]
  · split <;> rfl
  · exact fun _ _ => rfl
  · split <;> simp

theorem terminal_good (s : Sys) (h : Inv s) (ht : terminal s = true) :
    s.p = .done ∧ ∀ w ∈ s.ws, w = .exited := by
  simp only [terminal, Bool.and_eq_true, List.all_eq_true, List.mem_range, Option.isNone_iff_eq_none] at ht
  obtain ⟨htp, htw⟩ := ht
  -- a worker that cannot move does not hold the mutex; if the mutex is free it is waiting or has exited
  have hstuck : ∀ i w, s.ws[i]? = some w →
      holdsLock w = false ∧ (s.lock = .none → w = .waiting ∨ w = .exited) := fun i w hw => by
    have hst := htw i (List.getElem?_eq_some_iff.mp hw).1
    simp only [step, hw] at hst
    cases w <;> simp only at hst
    case waiting => exact ⟨rfl, fun _ => .inl rfl⟩
    case exited => exact ⟨rfl, fun _ => .inr rfl⟩
    all_goals (repeat' split at hst)
    all_goals first | exact ⟨rfl, fun hl => absurd hl ‹_›⟩ | cases hst
  -- so the mutex is free: a holder, producer or worker, could move
  have hlock : s.lock = .none := by
    cases hl : s.lock with
    | none => rfl
    | prod =>
      have hp := h.lockProd.mp hl
      cases hs : s.p <;> rw [hs] at hp <;> first | (simp [step, hs] at htp; done) | cases hp
    | worker i =>
      obtain ⟨w, hw, hh⟩ := (h.lockW i).mp hl
      exact nomatch (hstuck i w hw).1.symm.trans hh
  have hpd : s.p = .done := by
    cases hp : s.p <;> simp [step, hp, hlock] at htp
    rfl
  refine ⟨hpd, fun w hw => ?_⟩
  obtain ⟨i, hi⟩ := List.getElem?_of_mem hw
  rcases (hstuck i w hi).2 hlock with rfl | rfl
  · exact absurd rfl (h.doneNoWait hpd _ hw)
  · rfl

/- `mu` strictly decreases along every enabled step of either mode; for the repaired queue `reach` makes of it that
no schedule is longer than `mu` of the initial state. -/

def rank : WPc → Nat
  | .work => 5 | .idle => 4 | .woken => 4 | .locked => 3 | .check => 2 | .toWait => 1
  | .waiting => 0 | .exited => 0

def sumRank : List WPc → Nat
  | [] => 0
  | w :: r => rank w + sumRank r

/-- remaining producer work, prepaying for the workers its notifications wake
    (`notify_one`: at most one worker, +4; `notify_all`: at most `K` workers, +4K)
    and for the items it enqueues (+3 each) -/
def prodRank (K : Nat) : PPc → Nat
  | .done => 0
  | .closeNotify => 4 * K + 1
  | .closeUnlock => 4 * K + 2
  | .closeStore => 4 * K + 3
  | .closeLock => 4 * K + 4
  | .pushNotify l => 4 * K + 5 + 10 * l + 5
  | .pushDo l => 4 * K + 5 + 10 * (l - 1) + 9
  | .pushLock l => 4 * K + 5 + 10 * (l - 1) + 10

def mu (s : Sys) : Nat := prodRank s.ws.length s.p + 3 * s.q + sumRank s.ws

theorem wakeAll_length (ws : List WPc) : (wakeAll ws).length = ws.length := by
  simp [wakeAll]

theorem sumRank_eq (ws : List WPc) : sumRank ws = (ws.map rank).sum := by
  induction ws with
  | nil => rfl
  | cons a r ih => rw [sumRank, ih, List.map_cons, List.sum_cons]

theorem sumRank_set (ws : List WPc) (i : Nat) (old new : WPc) (h : ws[i]? = some old) :
    sumRank (ws.set i new) + rank old = sumRank ws + rank new := by
  rw [sumRank_eq, sumRank_eq]; exact Lts.sum_map_set rank new h

theorem _root_.LzmaVerif.Lts.Woke.sumRank {n : Nat} {ws ws' : List WPc} (h : Lts.Woke .waiting .woken n ws ws') :
    sumRank ws' = sumRank ws + 4 * n := by
  have := h.sum rank
  rw [sumRank_eq, sumRank_eq]; simp only [rank] at this; omega

theorem prod_step_mu (s s' : Sys) (hs : step s .prod = some s') : mu s' < mu s := by
  obtain ⟨fixed, q, closed, lock, ws, p⟩ := s
  obtain ⟨n1, hn1, w1⟩ := wakeOne_woke ws
  obtain ⟨n2, w2⟩ := wakeAll_woke ws
  have := w2.le_length
  simp only [step] at hs
  repeat' split at hs
  all_goals cases hs
  all_goals simp only [mu, w1.length, w2.length, w1.sumRank, w2.sumRank, nextAfterNotify, startClose]
  all_goals repeat' split
  all_goals simp only [prodRank]
  all_goals omega

theorem mu_set {s : Sys} {i : Nat} {old new : WPc} {q' : Nat} {lk : Owner} (hold : s.ws[i]? = some old)
    (hle : 3 * q' + rank new < 3 * s.q + rank old) :
    mu { s with q := q', lock := lk, ws := s.ws.set i new } < mu s := by
  have := sumRank_set s.ws i old new hold
  simp only [mu, List.length_set]; omega

theorem worker_step_mu (s s' : Sys) (i : Nat) (hs : step s (.worker i) = some s') : mu s' < mu s := by
  simp only [step] at hs
  split at hs
  · cases hs
  next pc hpc =>
  cases pc <;> simp only at hs
  all_goals (repeat' split at hs)
  all_goals (cases hs)
  all_goals exact mu_set hpc (by simp only [rank]; omega)

/-- in both modes, without the invariant -/
theorem step_mu (s s' : Sys) (t : Tid) (hs : step s t = some s') : mu s' < mu s := by
  cases t with
  | prod => exact prod_step_mu s s' hs
  | worker i => exact worker_step_mu s s' i hs

theorem step_mu_inv (s s' : Sys) (t : Tid) (hs : step s t = some s') (_ : Inv s) : mu s' < mu s :=
  step_mu s s' t hs

theorem mu_init (fixed : Bool) (n k : Nat) : mu (init fixed n k) ≤ 10 * n + 8 * k + 5 := by
  simp only [mu, init, List.length_replicate, sumRank_eq, List.map_replicate, List.sum_replicate_nat, rank,
    startClose]
  split
  · split <;> simp only [prodRank] <;> omega
  · simp only [prodRank]; omega

theorem reach (n k : Nat) (sched : List Tid) (s : Sys) (hr : runSched (init true n k) sched = some s) :
    Inv s ∧ sched.length + mu s ≤ mu (init true n k) :=
  Lts.run_bound (fun _ => rfl) (fun _ _ _ => rfl)
    (fun s t s' h hs => ⟨step_inv s s' t h hs, step_mu s s' t hs⟩) sched _ s (init_inv n k) hr

/-- Every maximal run of the fixed queue ends with all workers exited. -/
theorem fixed_no_lost_wakeup (n k : Nat) (sched : List Tid) (s : Sys)
    (hr : runSched (init true n k) sched = some s) (ht : terminal s = true) :
    s.p = .done ∧ ∀ w ∈ s.ws, w = .exited :=
  terminal_good s (reach n k sched s hr).1 ht

/-- fair schedule or not -/
theorem fixed_terminates_bound (n k : Nat) (sched : List Tid) (s : Sys)
    (hr : runSched (init true n k) sched = some s) : sched.length ≤ 10 * n + 8 * k + 5 :=
  Nat.le_trans (Nat.le_trans (Nat.le_add_right _ _) (reach n k sched s hr).2) (mu_init true n k)

/-- non-vacuity: a worker that went to sleep before the close is woken by `notify_all`
    (issued after the unlock), re-acquires the mutex, sees the flag and exits -/
example : ∃ sched s, runSched (init true 0 1) sched = some s ∧ terminal s = true ∧
    s.p = .done ∧ s.ws = [.exited] := by
  refine ⟨[.worker 0, .worker 0, .worker 0, .worker 0, .prod, .prod, .prod, .prod,
    .worker 0, .worker 0, .worker 0], ?_⟩
  exact ⟨_, rfl, by decide, by decide, by decide⟩

end LzmaVerif.WorkQueue
