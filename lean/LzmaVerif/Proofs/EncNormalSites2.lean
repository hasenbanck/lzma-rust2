/-
  Normal encoder: the match insertion sites.  `MsFrom` is what a match loop knows about the matches it has not passed yet.
-/
import LzmaVerif.Proofs.EncNormalSites

namespace LzmaVerif.EncNormal
open LzmaVerif Mf Lzma Rc EncFast EncPrices
open LzmaVerif.Mf.Hc4 (Eqs)

def AllValid (d : Array UInt8) (dict q : Nat) (ms : List Match) : Prop :=
  ∀ m ∈ ms, ValidMatch d dict q (min 273 (d.size - q)) m

def MsFrom (d : Array UInt8) (dict q : Nat) : Nat → List Match → Prop
  | _, [] => True
  | len, m :: rest => ValidMatch d dict q (min 273 (d.size - q)) m ∧ len ≤ m.1 ∧ MsFrom d dict q (m.1 + 1) rest

section
variable {d : Array UInt8} {dict q : Nat}

theorem MsFrom.ofIncreasing : ∀ ms : List Match, AllValid d dict q ms → lensIncreasing ms = true → MsFrom d dict q 0 ms
  | [], _, _ => trivial
  | [m], hv, _ => ⟨hv m (List.mem_singleton_self m), Nat.zero_le _, trivial⟩
  | m :: m' :: rest, hv, hinc => by
    simp only [lensIncreasing, Bool.and_eq_true, decide_eq_true_eq] at hinc
    have ih := MsFrom.ofIncreasing (m' :: rest) (fun x hx => hv x (List.mem_cons_of_mem _ hx)) hinc.2
    exact ⟨hv m (List.mem_cons_self ..), Nat.zero_le _, ih.1, hinc.1, ih.2.2⟩

theorem MsFrom.mono : ∀ {ms : List Match} {len len' : Nat}, MsFrom d dict q len ms → len' ≤ len → MsFrom d dict q len' ms
  | [], _, _, _, _ => trivial
  | _ :: _, _, _, h, hl => ⟨h.1, Nat.le_trans hl h.2.1, h.2.2⟩

theorem MsFrom.dropShort : ∀ (ms : List Match) (len0 : Nat), MsFrom d dict q len0 ms → ∀ len,
    MsFrom d dict q len (dropShort len ms)
  | [], _, _, _ => trivial
  | m :: rest, _, h, len => by
    rw [EncNormal.dropShort]
    split
    · exact MsFrom.dropShort rest _ h.2.2 len
    · next hn => exact ⟨h.1, Nat.le_of_not_gt hn, h.2.2⟩

theorem MsFrom.shortenList {avail : Nat} (h2 : 2 ≤ avail) : ∀ (ms : List Match) (len0 : Nat),
    MsFrom d dict q len0 ms → len0 ≤ avail → MsFrom d dict q len0 (shortenList avail ms)
  | [], _, _, _ => trivial
  | m :: rest, len0, h, hl => by
    rw [EncNormal.shortenList]
    split
    · next hlt => exact ⟨h.1, h.2.1, MsFrom.shortenList h2 rest _ h.2.2 hlt⟩
    · next hge => exact ⟨validMatch_shorter h.1 avail h2 (Nat.not_lt.mp hge), hl, trivial⟩

theorem MsFrom.shortenMatches {ms : List Match} {avail : Nat} (h : MsFrom d dict q 0 ms) (h2 : 2 ≤ avail) :
    MsFrom d dict q 0 (shortenMatches ms avail) := by
  unfold EncNormal.shortenMatches
  split
  · exact MsFrom.shortenList h2 ms 0 h (Nat.zero_le _)
  · exact h

end

theorem shortenList_last_le (avail : Nat) : ∀ ms : List Match, ((shortenList avail ms).getLast?.getD (0, 0)).1 ≤ avail
  | [] => Nat.zero_le _
  | m :: rest => by
    rw [shortenList]
    split
    · next hlt =>
      have ih := shortenList_last_le avail rest
      rw [List.getLast?_cons, Option.getD_some]
      cases hl : (shortenList avail rest).getLast? with
      | none => exact Nat.le_of_lt hlt
      | some x => rw [hl] at ih; exact ih
    · exact Nat.le_refl _

/-- all the reset loop needs of the shortening -/
theorem shortenMatches_last_le (ms : List Match) (avail : Nat) :
    ((shortenMatches ms avail).getLast?.getD (0, 0)).1 ≤ avail := by
  unfold shortenMatches
  split
  · exact shortenList_last_le avail ms
  · next hn => exact Nat.le_of_not_gt hn

section
variable {dict p : Nat} {c0 : Coder} {avail0 cur : Nat} {cc : Coder} {lo : Nat} {a : OA}

theorem normalMatchLoop_thr (E : Env) (hpos : PosOk E.P E.d p avail0 cur E.nice) (posState nmp : Nat) :
    ∀ (fuel len : Nat) (ms : List Match) (a : OA), Thr E.P E.d dict p c0 avail0 cur (cur + 1) cc lo a →
      MsFrom E.d dict (p + cur) len ms → 2 ≤ len →
      Thr E.P E.d dict p c0 avail0 cur (cur + 1) cc lo
        (normalMatchLoop E cur (p + cur) (avail0 - cur) posState nmp fuel len ms a)
  | 0, len, ms, a, h, _, _ => by rw [normalMatchLoop]; exact h
  | fuel + 1, len, [], a, h, _, _ => by
    rw [normalMatchLoop]
    · exact h
    · omega
  | fuel + 1, len, m :: rest, a, h, hms, h2 => by
    have hreps : E.P.reps = 4 := hpos.pok.2.2.1
    obtain ⟨hvm, hlen, htl⟩ := hms
    have hX := oneOk_mtch E.P hreps E.d dict (p + cur) cc m.2 len m.1 hvm h2 hlen
    unfold normalMatchLoop
    extract_lets dist malp a1 a2
    have h1 : Thr E.P E.d dict p c0 avail0 cur (cur + 1) cc lo a1 := h.offer1 len malp _ (by omega) hX
    by_cases hne : len ≠ m.1
    · rw [if_pos hne]
      exact normalMatchLoop_thr E hpos posState nmp fuel (len + 1) (m :: rest) a1 h1 ⟨hvm, by omega, htl⟩ (by omega)
    · rw [if_neg hne]
      have h2' : Thr E.P E.d dict p c0 avail0 cur (cur + 1) cc lo a2 :=
        offerComposite_thr E hpos h1 len dist malp _ _ h2 hX (by rw [symOf_mtch E.P hreps]; rfl)
      by_cases hrest : rest = []
      · rw [if_pos hrest]
        exact h2'
      · rw [if_neg hrest]
        exact normalMatchLoop_thr E hpos posState nmp fuel (len + 1) rest a2 h2' (htl.mono (by omega)) (by omega)

theorem calcNormalMatchPrices_thr (E : Env) (hpos : PosOk E.P E.d p avail0 cur E.nice) (hav2 : 2 ≤ avail0 - cur)
    (h : Thr E.P E.d dict p c0 avail0 cur (cur + 1) cc lo a) (ms0 : List Match) (hv : AllValid E.d dict (p + cur) ms0)
    (hinc : lensIncreasing ms0 = true) (anyMatch startLen : Nat) (hs2 : 2 ≤ startLen) :
    Thr E.P E.d dict p c0 avail0 cur (cur + 1) cc lo
      (calcNormalMatchPrices E a ms0 cur (p + cur) (avail0 - cur) anyMatch startLen) := by
  have hms := (MsFrom.ofIncreasing ms0 hv hinc).shortenMatches hav2
  unfold calcNormalMatchPrices
  extract_lets ms last a1 nmp
  have hlast : last ≤ avail0 - cur := shortenMatches_last_le ms0 (avail0 - cur)
  split
  · exact h
  · exact normalMatchLoop_thr E hpos _ nmp _ startLen _ a1
      (h.extend hpos.av1 (cur + last) (by have := hpos.curLt; omega)) (hms.dropShort _ _ startLen) hs2

theorem firstMatchLoop_thr (E : Env) (hreps : E.P.reps = 4) (posState nmp : Nat) :
    ∀ (fuel len : Nat) (ms : List Match) (a : OA), Thr E.P E.d dict p c0 avail0 0 1 cc lo a →
      MsFrom E.d dict (p + 0) len ms → 2 ≤ len →
      Thr E.P E.d dict p c0 avail0 0 1 cc lo (firstMatchLoop E posState nmp fuel len ms a)
  | 0, len, ms, a, h, _, _ => by rw [firstMatchLoop]; exact h
  | fuel + 1, len, [], a, h, _, _ => by
    rw [firstMatchLoop]
    · exact h
    · omega
  | fuel + 1, len, m :: rest, a, h, hms, h2 => by
    obtain ⟨hvm, hlen, htl⟩ := hms
    unfold firstMatchLoop
    extract_lets dist price a1
    have h1 : Thr E.P E.d dict p c0 avail0 0 1 cc lo a1 := by
      have := h.offer1 len price _ (by omega) (oneOk_mtch E.P hreps E.d dict (p + 0) cc m.2 len m.1 hvm h2 hlen)
      rwa [Nat.zero_add] at this
    by_cases heq : len = m.1
    · rw [if_pos heq]
      by_cases hrest : rest = []
      · rw [if_pos hrest]
        exact h1
      · rw [if_neg hrest]
        exact firstMatchLoop_thr E hreps posState nmp fuel (len + 1) rest a1 h1 (htl.mono (by omega)) (by omega)
    · rw [if_neg heq]
      exact firstMatchLoop_thr E hreps posState nmp fuel (len + 1) (m :: rest) a1 h1 ⟨hvm, by omega, htl⟩ (by omega)

end

end LzmaVerif.EncNormal
