/-
The splitters of `Model/Split.lean` cut a sequence of write calls into `ideal lim total`: full blocks and a remainder.

One notion of a correct `write` call serves both splitters: `Cuts lim fill n r` (the blocks closed by the call, followed
by any ideal continuation from the new fill, are the ideal continuation from the old state), built from `Cuts.nil` and
`Cuts.cons`.  Each write loop satisfies it by recursion on its fuel (`lazyWrite_spec_aux`, `eagerWrite_spec_aux`), the
runs follow by induction over the calls, and everything else is read off `= ideal`.

The lazy splitter closes a full block only when the next byte arrives, so it needs two iterations per block when
`lim = 1`, and the fuel `n + 2` that `lazyRun` passes runs out: for `lim = 1` the model loses bytes on long write calls
(`xzBlocks_lim1_counterexample`).  Hence `2 ≤ lim` (what the writers guarantee: the limit is at least the dictionary
size), or `lim = 1` with calls of at most 2 bytes, which is sufficient (`writeOk_one`).  Core Lean only.
-/
import LzmaVerif.Model.Split

namespace LzmaVerif.Split


theorem ideal_zero (lim : Nat) : ideal lim 0 = [] := by
  simp [ideal]

theorem ideal_lim_add (lim a : Nat) (hl : 0 < lim) : ideal lim (lim + a) = lim :: ideal lim a := by
  unfold ideal
  rw [Nat.add_comm, Nat.add_div_right a hl, Nat.add_mod_right, List.replicate_succ]
  rfl

theorem ideal_sum (lim total : Nat) : (ideal lim total).sum = total := by
  have hdm := Nat.div_add_mod total lim
  unfold ideal
  rw [List.sum_append, List.sum_replicate_nat, Nat.mul_comm]
  split
  · rw [List.sum_singleton]
    exact hdm
  · rw [List.sum_nil]
    omega

theorem ideal_bound (lim total : Nat) (hl : 0 < lim) : ∀ b ∈ ideal lim total, 0 < b ∧ b ≤ lim := by
  intro b hb
  rcases List.mem_append.mp hb with h | h
  · rw [(List.mem_replicate.mp h).2]
    exact ⟨hl, Nat.le_refl _⟩
  · split at h
    · next hp =>
      rw [List.mem_singleton.mp h]
      exact ⟨hp, Nat.le_of_lt (Nat.mod_lt _ hl)⟩
    · cases h

theorem ideal_all_but_last_full (lim total : Nat) :
    ∀ b ∈ (ideal lim total).dropLast, b = lim := by
  intro b hb
  unfold ideal at hb
  split at hb
  · rw [List.dropLast_concat] at hb
    exact (List.mem_replicate.mp hb).2
  · rw [List.append_nil] at hb
    exact (List.mem_replicate.mp (List.dropLast_subset _ hb)).2

theorem ideal_eq_nil_iff (lim total : Nat) : ideal lim total = [] ↔ total = 0 := by
  constructor
  · intro h
    have := ideal_sum lim total
    rw [h] at this
    simpa using this.symm
  · intro h
    subst h
    exact ideal_zero lim

/-- what `finish` makes of an open block -/
theorem ideal_of_le (lim fill : Nat) (hf : fill ≤ lim) :
    ideal lim fill = if fill > 0 then [fill] else [] := by
  by_cases hfl : fill = lim
  · subst hfl
    by_cases h0 : fill > 0
    · have := ideal_lim_add fill 0 h0
      rw [Nat.add_zero, ideal_zero] at this
      rw [if_pos h0, this]
    · rw [if_neg h0, Nat.eq_zero_of_not_pos h0, ideal_zero]
  · have hlt : fill < lim := by omega
    unfold ideal
    rw [Nat.div_eq_of_lt hlt, Nat.mod_eq_of_lt hlt]
    rfl

/-- What a correct `write` call does: the closed blocks followed by any ideal continuation from the
new fill are the ideal continuation from the old state. -/
def Cuts (lim fill n : Nat) (r : List Nat × Nat) : Prop :=
  ∀ m, r.1 ++ ideal lim (r.2 + m) = ideal lim (fill + n + m)

theorem Cuts.nil (lim fill : Nat) : Cuts lim fill 0 ([], fill) := fun _ => rfl

/-- closing a block of `lim` bytes, then cutting what is left from an empty block -/
theorem Cuts.cons {lim fill n n' : Nat} {r : List Nat × Nat} (hl : 0 < lim) (h : Cuts lim 0 n' r)
    (hn : fill + n = lim + n') : Cuts lim fill n (lim :: r.1, r.2) := by
  intro m
  show lim :: (r.1 ++ ideal lim (r.2 + m)) = _
  rw [h m, hn, Nat.zero_add, Nat.add_assoc, ideal_lim_add lim _ hl]

def WriteSpec (lim fill n : Nat) (r : List Nat × Nat) : Prop :=
  r.2 ≤ lim ∧ Cuts lim fill n r

theorem lazyWrite_zero (lim fuel fill : Nat) : lazyWrite lim fuel fill 0 = ([], fill) := by
  cases fuel <;> simp [lazyWrite]

/-- by recursion on the fuel, with the potential `n + [fill ≠ 0]` (needs `lim ≥ 2`) -/
theorem lazyWrite_spec_aux (lim : Nat) (hl : 2 ≤ lim) :
    ∀ fuel fill n, fill ≤ lim → n + min fill 1 ≤ fuel → WriteSpec lim fill n (lazyWrite lim fuel fill n)
  | fuel, fill, 0, hf, _ => by
    rw [lazyWrite_zero]
    exact ⟨hf, Cuts.nil lim fill⟩
  | 0, _, n + 1, _, hfuel => by omega
  | fuel + 1, fill, n + 1, hf, hfuel => by
    have ih := lazyWrite_spec_aux lim hl fuel
    rw [lazyWrite, if_neg (Nat.succ_ne_zero n)]
    split
    · -- close the full block, continue with an empty one
      have h := ih 0 (n + 1) (Nat.zero_le _) (by omega)
      obtain rfl : fill = lim := by omega
      exact ⟨h.1, Cuts.cons (by omega) h.2 (by omega)⟩
    · -- copy into the open block: everything, or as much as fills it
      by_cases hk : n + 1 ≤ lim - fill
      · simp only [Nat.min_eq_left hk, Nat.sub_self, lazyWrite_zero]
        exact ⟨by show fill + (n + 1) ≤ lim; omega, fun m => rfl⟩
      · simp only [Nat.min_eq_right (Nat.le_of_not_le hk), show fill + (lim - fill) = lim by omega]
        have h := ih lim (n + 1 - (lim - fill)) (Nat.le_refl _) (by omega)
        refine ⟨h.1, fun m => ?_⟩
        rw [h.2 m]
        congr 1
        omega

def WriteOk (lim n : Nat) : Prop :=
  ∀ fill, fill ≤ lim → WriteSpec lim fill n (lazyWrite lim (n + 2) fill n)

theorem ideal_one (k : Nat) : ideal 1 k = List.replicate k 1 := by
  unfold ideal
  rw [Nat.div_one, Nat.mod_one, if_neg (Nat.lt_irrefl 0), List.append_nil]

/-- with `lim = 1` only the number of blocks matters -/
theorem cuts_one {fill n : Nat} {r : List Nat × Nat} (hb : ∀ b ∈ r.1, b = 1)
    (hlen : r.1.length + r.2 = fill + n) : Cuts 1 fill n r := by
  intro m
  rw [ideal_one, ideal_one, List.eq_replicate_of_mem hb, List.replicate_append_replicate]
  congr 1
  omega

/-- with `lim = 1` the fuel is still enough for write calls of length at most 2: the six runs -/
theorem writeOk_one (n : Nat) (hn : n ≤ 2) : WriteOk 1 n := by
  intro fill hf
  have hfill : fill = 0 ∨ fill = 1 := by omega
  have hn' : n = 0 ∨ n = 1 ∨ n = 2 := by omega
  rcases hfill with rfl | rfl <;> rcases hn' with rfl | rfl | rfl <;>
    exact ⟨by decide, cuts_one (by decide) (by decide)⟩

theorem lazyRun_eq_ideal (lim : Nat) :
    ∀ parts fill, fill ≤ lim → (∀ n ∈ parts, WriteOk lim n) →
      lazyRun lim parts fill = ideal lim (fill + parts.sum) := by
  intro parts
  induction parts with
  | nil =>
    intro fill hf _
    rw [List.sum_nil, Nat.add_zero, ideal_of_le lim fill hf]
    rfl
  | cons n rest ih =>
    intro fill hf hok
    have hw := hok n (List.mem_cons_self) fill hf
    have hrest : ∀ x ∈ rest, WriteOk lim x := fun x hx => hok x (List.mem_cons_of_mem _ hx)
    show (lazyWrite lim (n + 2) fill n).1 ++ lazyRun lim rest (lazyWrite lim (n + 2) fill n).2 = _
    rw [ih _ hw.1 hrest, hw.2 rest.sum, List.sum_cons, Nat.add_assoc]

/-- a condition under which the fuel `n + 2` of the model suffices (not a necessary one: `xzBlocks 1 [3]` is ideal) -/
def LazyAdmissible (lim : Nat) (parts : List Nat) : Prop :=
  2 ≤ lim ∨ (lim = 1 ∧ ∀ n ∈ parts, n ≤ 2)

theorem xzBlocks_eq_ideal_of_admissible (lim : Nat) (parts : List Nat)
    (h : LazyAdmissible lim parts) : xzBlocks lim parts = ideal lim parts.sum := by
  have hok : ∀ n ∈ parts, WriteOk lim n := by
    rcases h with h2 | ⟨rfl, hp⟩
    · exact fun n _ fill hf => lazyWrite_spec_aux lim h2 (n + 2) fill n hf (by omega)
    · exact fun n hn => writeOk_one n (hp n hn)
  rw [xzBlocks, lazyRun_eq_ideal lim parts 0 (Nat.zero_le _) hok, Nat.zero_add]

theorem xzBlocks_eq_ideal (lim : Nat) (hl : 2 ≤ lim) (parts : List Nat) :
    xzBlocks lim parts = ideal lim parts.sum :=
  xzBlocks_eq_ideal_of_admissible lim parts (Or.inl hl)

theorem xzBlocks_eq_ideal_lim1 (parts : List Nat) (hp : ∀ n ∈ parts, n ≤ 2) :
    xzBlocks 1 parts = ideal 1 parts.sum :=
  xzBlocks_eq_ideal_of_admissible 1 parts (Or.inr ⟨rfl, hp⟩)

/-- The statement with `0 < lim` is FALSE for the model when `lim = 1`: the fuel `n + 2`
runs out (one byte is lost per missing iteration pair). -/
theorem xzBlocks_lim1_counterexample :
    xzBlocks 1 [5] = [1, 1, 1, 1] ∧ ideal 1 [5].sum = [1, 1, 1, 1, 1] := by decide

theorem not_xzBlocks_eq_ideal_all_lim :
    ¬ ∀ (lim : Nat), 0 < lim → ∀ parts : List Nat, xzBlocks lim parts = ideal lim parts.sum := by
  intro h
  exact absurd (h 1 (by decide) [5]) (by decide)

theorem lzipMembers_eq_of_admissible (lim : Nat) (parts : List Nat)
    (h : LazyAdmissible lim parts) :
    lzipMembers lim parts = if parts.sum = 0 then [0] else ideal lim parts.sum := by
  have hx := xzBlocks_eq_ideal_of_admissible lim parts h
  unfold xzBlocks at hx
  unfold lzipMembers
  rw [hx]
  by_cases h0 : parts.sum = 0
  · rw [if_pos h0, h0, ideal_zero]
  · rw [if_neg h0]
    cases hi : ideal lim parts.sum with
    | nil => exact absurd ((ideal_eq_nil_iff lim _).mp hi) h0
    | cons a l => rfl

/-- `LZIPWriter`; needs `2 ≤ lim` for the same reason. -/
theorem lzipMembers_eq (lim : Nat) (hl : 2 ≤ lim) (parts : List Nat) :
    lzipMembers lim parts = if parts.sum = 0 then [0] else ideal lim parts.sum :=
  lzipMembers_eq_of_admissible lim parts (Or.inl hl)

theorem lzipMembers_eq_lim1 (parts : List Nat) (hp : ∀ n ∈ parts, n ≤ 2) :
    lzipMembers 1 parts = if parts.sum = 0 then [0] else ideal 1 parts.sum :=
  lzipMembers_eq_of_admissible 1 parts (Or.inr ⟨rfl, hp⟩)

theorem xzBlocks_partition_independent (lim : Nat) (hl : 2 ≤ lim) (p q : List Nat)
    (h : p.sum = q.sum) : xzBlocks lim p = xzBlocks lim q := by
  rw [xzBlocks_eq_ideal lim hl p, xzBlocks_eq_ideal lim hl q, h]

theorem lzipMembers_partition_independent (lim : Nat) (hl : 2 ≤ lim) (p q : List Nat)
    (h : p.sum = q.sum) : lzipMembers lim p = lzipMembers lim q := by
  rw [lzipMembers_eq lim hl p, lzipMembers_eq lim hl q, h]

theorem eagerWrite_zero (lim fuel fill : Nat) : eagerWrite lim fuel fill 0 = ([], fill) := by
  cases fuel <;> simp [eagerWrite]

/-- as for the lazy splitter, but the open unit is never left full -/
theorem eagerWrite_spec_aux (lim : Nat) (hl : 0 < lim) :
    ∀ fuel fill n, fill < lim → n ≤ fuel →
      (eagerWrite lim fuel fill n).2 < lim ∧ Cuts lim fill n (eagerWrite lim fuel fill n)
  | fuel, fill, 0, hf, _ => by
    rw [eagerWrite_zero]
    exact ⟨hf, Cuts.nil lim fill⟩
  | fuel + 1, fill, n + 1, hf, hfuel => by
    rw [eagerWrite, if_neg (Nat.succ_ne_zero n)]
    by_cases hk : n + 1 < lim - fill
    · -- the unit does not fill up
      simp only [Nat.min_eq_left (Nat.le_of_lt hk), if_neg (show ¬ fill + (n + 1) ≥ lim by omega)]
      exact ⟨by show fill + (n + 1) < lim; omega, fun m => rfl⟩
    · -- the unit fills up and is dispatched
      simp only [Nat.min_eq_right (Nat.not_lt.1 hk), show fill + (lim - fill) = lim by omega,
        if_pos (Nat.le_refl lim)]
      have h := eagerWrite_spec_aux lim hl fuel 0 (n + 1 - (lim - fill)) hl (by omega)
      exact ⟨h.1, Cuts.cons hl h.2 (by omega)⟩

theorem eagerRun_eq_ideal (lim : Nat) (hl : 0 < lim) :
    ∀ parts fill, fill < lim → eagerRun lim parts fill = ideal lim (fill + parts.sum) := by
  intro parts
  induction parts with
  | nil =>
    intro fill hf
    rw [List.sum_nil, Nat.add_zero, ideal_of_le lim fill (Nat.le_of_lt hf)]
    rfl
  | cons n rest ih =>
    intro fill hf
    have hw := eagerWrite_spec_aux lim hl (n + 2) fill n hf (by omega)
    show (eagerWrite lim (n + 2) fill n).1 ++ eagerRun lim rest (eagerWrite lim (n + 2) fill n).2 = _
    rw [ih _ hw.1, hw.2 rest.sum, List.sum_cons, Nat.add_assoc]

theorem mtUnits_eq_ideal (lim : Nat) (hl : 0 < lim) (parts : List Nat) :
    mtUnits lim parts = ideal lim parts.sum := by
  unfold mtUnits
  have := eagerRun_eq_ideal lim hl parts 0 hl
  rw [Nat.zero_add] at this
  exact this

theorem mtUnits_partition_independent (lim : Nat) (hl : 0 < lim) (p q : List Nat)
    (h : p.sum = q.sum) : mtUnits lim p = mtUnits lim q := by
  rw [mtUnits_eq_ideal lim hl p, mtUnits_eq_ideal lim hl q, h]

theorem xzBlocks_eq_mtUnits (lim : Nat) (hl : 2 ≤ lim) (parts : List Nat) :
    xzBlocks lim parts = mtUnits lim parts := by
  rw [xzBlocks_eq_ideal lim hl, mtUnits_eq_ideal lim (by omega)]

theorem xzBlocks_sum (lim : Nat) (hl : 2 ≤ lim) (parts : List Nat) :
    (xzBlocks lim parts).sum = parts.sum := by
  rw [xzBlocks_eq_ideal lim hl, ideal_sum]

theorem xzBlocks_bound (lim : Nat) (hl : 2 ≤ lim) (parts : List Nat) :
    ∀ b ∈ xzBlocks lim parts, 0 < b ∧ b ≤ lim := by
  rw [xzBlocks_eq_ideal lim hl]; exact ideal_bound lim _ (by omega)

theorem mtUnits_sum (lim : Nat) (hl : 0 < lim) (parts : List Nat) :
    (mtUnits lim parts).sum = parts.sum := by
  rw [mtUnits_eq_ideal lim hl, ideal_sum]

theorem mtUnits_bound (lim : Nat) (hl : 0 < lim) (parts : List Nat) :
    ∀ b ∈ mtUnits lim parts, 0 < b ∧ b ≤ lim := by
  rw [mtUnits_eq_ideal lim hl]; exact ideal_bound lim _ hl

example : xzBlocks 10 [25, 0, 5, 3, 17] = [10, 10, 10, 10, 10] := by decide
example : xzBlocks 10 [25, 0, 5, 3, 18] = [10, 10, 10, 10, 10, 1] := by decide
example : xzBlocks 10 [0, 0] = [] := by decide
example : lzipMembers 10 [0, 0] = [0] := by decide
example : lzipMembers 10 [7, 0, 3, 1] = [10, 1] := by decide
example : mtUnits 10 [25, 0, 5, 3, 17] = [10, 10, 10, 10, 10] := by decide
example : mtUnits 1 [5] = [1, 1, 1, 1, 1] := by decide
example : ideal 10 50 = [10, 10, 10, 10, 10] := by decide
example : xzBlocks 1 [2, 0, 1, 2] = [1, 1, 1, 1, 1] := by decide
example : xzBlocks 2 [7] = [2, 2, 2, 1] := by decide

#print axioms xzBlocks_eq_ideal
#print axioms xzBlocks_eq_ideal_lim1
#print axioms not_xzBlocks_eq_ideal_all_lim
#print axioms mtUnits_eq_ideal
#print axioms lzipMembers_eq
#print axioms ideal_sum
#print axioms ideal_bound
#print axioms ideal_all_but_last_full
#print axioms xzBlocks_partition_independent
#print axioms mtUnits_partition_independent
#print axioms xzBlocks_eq_mtUnits

end LzmaVerif.Split
