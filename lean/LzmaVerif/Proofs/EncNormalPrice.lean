/-
  Normal encoder: a literal never costs more than `9 · 128` (every entry of `PRICES` is at most 128).  This is what
  keeps `opts[cur + 1]` below `INFINITY_PRICE` while `opt_cur` advances.
-/
import LzmaVerif.Model.EncNormal

namespace LzmaVerif.EncNormal
open LzmaVerif Mf Lzma Rc EncFast EncPrices

theorem prices_all : PRICES.all (fun x => decide (x ≤ 128)) = true := by
  unfold PRICES
  rw [List.all_toArray]
  decide +kernel

theorem prices_getD_le (i : Nat) : PRICES.getD i 0 ≤ 128 := by
  rw [Array.getD_eq_getD_getElem?]
  by_cases h : i < PRICES.size
  · rw [Array.getElem?_eq_getElem h]
    exact of_decide_eq_true (Array.all_eq_true.mp prices_all i h)
  · rw [Array.getElem?_eq_none (Nat.le_of_not_lt h)]
    exact Nat.zero_le _

theorem bitPrice_le (prob : Nat) (bit : Bool) : bitPrice prob bit ≤ 128 := by
  unfold bitPrice
  exact prices_getD_le _

theorem litNormalPriceAux_le (ps : Probs) (base : Nat) :
    ∀ (n symbol price : Nat), litNormalPriceAux ps base n symbol price ≤ price + 128 * n
  | 0, _, price => Nat.le_add_right price _
  | n + 1, symbol, price => by
    simp only [litNormalPriceAux]
    refine Nat.le_trans (litNormalPriceAux_le ps base n _ _) ?_
    have h2 := bitPrice_le (ps.get (base + symbol >>> 8)) ((symbol >>> 7) % 2 == 1)
    omega

theorem litMatchedPriceAux_le (ps : Probs) (base : Nat) :
    ∀ (n symbol matchByte offset price : Nat),
      litMatchedPriceAux ps base n symbol matchByte offset price ≤ price + 128 * n
  | 0, _, _, _, price => Nat.le_add_right price _
  | n + 1, symbol, matchByte, offset, price => by
    simp only [litMatchedPriceAux]
    refine Nat.le_trans (litMatchedPriceAux_le ps base n _ _ _ _) ?_
    have h2 := bitPrice_le (ps.get (base + (offset + (matchByte <<< 1 &&& offset) + symbol >>> 8)))
      ((symbol >>> 7) % 2 == 1)
    omega

theorem litPrice_le (pr : Params) (ps : Probs) (curByte matchByte prevByte pos state : Nat) :
    litPrice pr ps curByte matchByte prevByte pos state ≤ 1152 := by
  simp only [litPrice]
  have h0 := bitPrice_le (ps.get (oIsMatch + state * 16 + pos % 2 ^ pr.pb)) false
  split
  · have := litNormalPriceAux_le ps (oLiteral + 0x300 * litIndex pr prevByte pos) 8 (curByte ||| 0x100) 0
    unfold litNormalPrice
    omega
  · have := litMatchedPriceAux_le ps (oLiteral + 0x300 * litIndex pr prevByte pos) 8 (curByte ||| 0x100) matchByte 0x100 0
    unfold litMatchedPrice
    omega

end LzmaVerif.EncNormal
