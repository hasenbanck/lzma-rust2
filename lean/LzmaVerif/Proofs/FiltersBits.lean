/-!
Bit-operation lemmas on `Nat` for the BCJ filter models, in two styles: turning `&&&`, `|||`, `<<<`, `>>>`
into `/`, `%`, `*`, `+` with numeral moduli (which `omega` understands), and following bit fields (`fld`)
through the bit operations themselves. Core Lean only.
-/
namespace LzmaVerif.Bits

theorem shl_eq (x n : Nat) : x <<< n = x * 2 ^ n := Nat.shiftLeft_eq x n
theorem shr_eq (x n : Nat) : x >>> n = x / 2 ^ n := Nat.shiftRight_eq_div_pow x n
theorem and_mask (x n : Nat) : x &&& (2 ^ n - 1) = x % 2 ^ n := Nat.and_two_pow_sub_one_eq_mod x n

theorem or_disj (a b n : Nat) (ha : a % 2 ^ n = 0) (hb : b < 2 ^ n) : a ||| b = a + b := by
  have : a = (a / 2 ^ n) <<< n := by
    rw [Nat.shiftLeft_eq]
    have := Nat.div_add_mod a (2 ^ n)
    rw [ha, Nat.add_zero, Nat.mul_comm] at this
    exact this.symm
  rw [this, Nat.shiftLeft_add_eq_or_of_lt hb]

theorem or_mid (a b H L n m : Nat) (ea : a = H + L) (hH : H % 2 ^ m = 0) (hL : L < 2 ^ n)
    (hb : b % 2 ^ n = 0) (hbL : b + L < 2 ^ m) : a ||| b = a + b := by
  subst ea
  have e1 : H + L = H ||| L := (or_disj H L m hH (by omega)).symm
  calc (H + L) ||| b = (H ||| L) ||| b := by rw [e1]
    _ = H ||| (b ||| L) := by rw [Nat.or_assoc, Nat.or_comm L b]
    _ = H ||| (b + L) := by rw [or_disj b L n hb hL]
    _ = H + (b + L) := or_disj H (b + L) m hH hbL
    _ = H + L + b := by omega

/-! `fld x lo n` is the `n`-bit field of `x` at bit `lo`.  It commutes with `|||` and `^^^`, and a field of a shifted
field is a field again or zero, so `simp` with the lemmas below follows every field through an expression without
turning `|||` into `+`. -/

def fld (x lo n : Nat) : Nat := x / 2 ^ lo % 2 ^ n

theorem fld_lt (x lo n : Nat) : fld x lo n < 2 ^ n := Nat.mod_lt _ (Nat.two_pow_pos n)

theorem fld_lt_of_le (x lo : Nat) {n m : Nat} (h : n ≤ m) : fld x lo n < 2 ^ m :=
  Nat.lt_of_lt_of_le (fld_lt x lo n) (Nat.pow_le_pow_right (by decide) h)

theorem fld_zero (x n : Nat) : fld x 0 n = x % 2 ^ n := by
  rw [fld, Nat.pow_zero, Nat.div_one]

theorem fld_of_lt {x n : Nat} (h : x < 2 ^ n) : fld x 0 n = x := by
  rw [fld_zero, Nat.mod_eq_of_lt h]

theorem fld_or (a b lo n : Nat) : fld (a ||| b) lo n = fld a lo n ||| fld b lo n := by
  simp only [fld, Nat.or_div_two_pow, Nat.or_mod_two_pow]

theorem fld_xor (a b lo n : Nat) : fld (a ^^^ b) lo n = fld a lo n ^^^ fld b lo n := by
  simp only [fld, Nat.xor_div_two_pow, Nat.xor_mod_two_pow]

theorem fld_shr (x k lo n : Nat) : fld (x >>> k) lo n = fld x (k + lo) n := by
  simp only [fld, Nat.shiftRight_eq_div_pow, Nat.div_div_eq_div_mul, Nat.pow_add]

theorem fld_shl_ge (x k lo n : Nat) (h : k ≤ lo) : fld (x <<< k) lo n = fld x (lo - k) n := by
  obtain ⟨d, rfl⟩ := Nat.exists_eq_add_of_le h
  simp only [fld, Nat.shiftLeft_eq, Nat.add_sub_cancel_left, Nat.pow_add]
  rw [← Nat.div_div_eq_div_mul, Nat.mul_div_cancel _ (Nat.two_pow_pos k)]

theorem fld_shl_lt (x k lo n : Nat) (h : lo + n ≤ k) : fld (x <<< k) lo n = 0 := by
  obtain ⟨d, rfl⟩ := Nat.exists_eq_add_of_le h
  simp only [fld, Nat.shiftLeft_eq, Nat.pow_add]
  rw [← Nat.mul_assoc, ← Nat.mul_assoc, Nat.mul_right_comm _ (2 ^ lo), Nat.mul_right_comm _ (2 ^ lo),
    Nat.mul_div_cancel _ (Nat.two_pow_pos lo), Nat.mul_right_comm, Nat.mul_mod_left]

theorem fld_fld_in (x a m lo n : Nat) (h : lo + n ≤ m) : fld (fld x a m) lo n = fld x (a + lo) n := by
  obtain ⟨d, rfl⟩ := Nat.exists_eq_add_of_le h
  simp only [fld]
  rw [Nat.pow_add (a := 2) (m := lo + n), Nat.pow_add 2 lo n, Nat.mul_assoc, Nat.mod_mul_right_div_self,
    Nat.mod_mul_right_mod, Nat.pow_add, Nat.div_div_eq_div_mul]

theorem fld_fld_out (x a m lo n : Nat) (h : m ≤ lo) : fld (fld x a m) lo n = 0 := by
  rw [fld, Nat.div_eq_of_lt (Nat.lt_of_lt_of_le (fld_lt x a m) (Nat.pow_le_pow_right (by decide) h)),
    Nat.zero_mod]

theorem fld_mod (x m lo n : Nat) (h : lo + n ≤ m) : fld (x % 2 ^ m) lo n = fld x lo n := by
  rw [← fld_zero, fld_fld_in x 0 m lo n h, Nat.zero_add]

theorem fld_congr {x y m : Nat} (e : x % 2 ^ m = y % 2 ^ m) (lo n : Nat) (h : lo + n ≤ m) :
    fld x lo n = fld y lo n := by
  rw [← fld_mod x m lo n h, e, fld_mod y m lo n h]

theorem fld_cat (x lo n hi m : Nat) (h : hi = lo + n) :
    fld x lo n ||| fld x hi m <<< n = fld x lo (n + m) := by
  subst h
  rw [Nat.or_comm, ← Nat.shiftLeft_add_eq_or_of_lt (fld_lt x lo n), Nat.shiftLeft_eq]
  simp only [fld]
  rw [Nat.pow_add 2 lo n, ← Nat.div_div_eq_div_mul, Nat.pow_add 2 n m, Nat.mod_mul, Nat.mul_comm, Nat.add_comm]

theorem fld_byte_cat (x lo hi m : Nat) (h : hi = lo + 8) : fld x lo 8 + 256 * fld x hi m = fld x lo (8 + m) := by
  rw [← fld_cat x lo 8 hi m h, Nat.or_comm, ← Nat.shiftLeft_add_eq_or_of_lt (fld_lt x lo 8), Nat.shiftLeft_eq,
    Nat.add_comm, Nat.mul_comm]

theorem shl_shl (x a b : Nat) : x <<< a <<< b = x <<< (a + b) := (Nat.shiftLeft_add x a b).symm

theorem shl_shr (x a b : Nat) (h : b ≤ a) : x <<< a >>> b = x <<< (a - b) := by
  obtain ⟨d, rfl⟩ := Nat.exists_eq_add_of_le h
  rw [Nat.add_sub_cancel_left, Nat.add_comm, Nat.shiftLeft_add, Nat.shiftLeft_shiftRight]

theorem and_ones (x n : Nat) : x &&& (2 ^ n - 1) = fld x 0 n := by
  rw [and_mask, fld_zero]

theorem and_shl (x m k n : Nat) (hm : m < 2 ^ n) : x &&& (m <<< k) = (fld x k n &&& m) <<< k := by
  apply Nat.eq_of_testBit_eq
  intro i
  simp only [fld, ← Nat.shiftRight_eq_div_pow, Nat.testBit_and, Nat.testBit_shiftLeft, Nat.testBit_mod_two_pow,
    Nat.testBit_shiftRight]
  by_cases h : i ≥ k
  · by_cases h2 : i - k < n
    · have : k + (i - k) = i := by omega
      simp [h, h2, this]
    · have : m.testBit (i - k) = false :=
        Nat.testBit_lt_two_pow (Nat.lt_of_lt_of_le hm (Nat.pow_le_pow_right (by decide) (by omega)))
      simp [this]
  · simp [h]

theorem and_ones_shl (x n k : Nat) : x &&& ((2 ^ n - 1) * 2 ^ k) = fld x k n <<< k := by
  rw [← Nat.shiftLeft_eq, and_shl x _ k n (Nat.sub_one_lt (Nat.ne_of_gt (Nat.two_pow_pos n))), and_mask,
    Nat.mod_eq_of_lt (fld_lt x k n)]

theorem and_mask_shl (x n k : Nat) : x &&& ((2 ^ n - 1) * 2 ^ k) = x / 2 ^ k % 2 ^ n * 2 ^ k := by
  rw [and_ones_shl, Nat.shiftLeft_eq, fld]

theorem xor_eq_zero {a b : Nat} : a ^^^ b = 0 ↔ a = b := by
  constructor
  · intro h
    rw [← Nat.zero_xor b, ← Nat.xor_self a, Nat.xor_assoc, h, Nat.xor_zero]
  · intro h
    rw [h, Nat.xor_self]

theorem fld_shl_lo (x k n : Nat) (h : k ≤ n) : fld (x <<< k) 0 n = fld x 0 (n - k) <<< k := by
  obtain ⟨d, rfl⟩ := Nat.exists_eq_add_of_le h
  rw [fld_zero, fld_zero, Nat.add_sub_cancel_left, Nat.shiftLeft_eq, Nat.shiftLeft_eq, Nat.pow_add, Nat.mul_comm (2 ^ k),
    Nat.mul_mod_mul_right]

theorem shr_eq_fld {x lo n : Nat} (h : x < 2 ^ (lo + n)) : x >>> lo = fld x lo n := by
  rw [fld, Nat.shiftRight_eq_div_pow, Nat.mod_eq_of_lt]
  rw [Nat.div_lt_iff_lt_mul (Nat.two_pow_pos lo), Nat.mul_comm, ← Nat.pow_add]
  exact h

theorem fld_of_small {x lo : Nat} (n : Nat) (h : x < 2 ^ lo) : fld x lo n = 0 := by
  rw [fld, Nat.div_eq_of_lt h, Nat.zero_mod]

theorem fld_fld_wide (x a m n : Nat) (h : m ≤ n) : fld (fld x a m) 0 n = fld x a m :=
  fld_of_lt (fld_lt_of_le x a h)

theorem mod256_fld (x : Nat) : x % 256 = fld x 0 8 := (fld_zero x 8).symm

theorem fld_byte_hi {x : Nat} (h : x < 256) (lo n : Nat) (hlo : 8 ≤ lo) : fld x lo n = 0 :=
  fld_of_small n (Nat.lt_of_lt_of_le h (Nat.pow_le_pow_right (n := 2) (by decide) hlo))

theorem mask_3 (x : Nat) : x &&& 3 = fld x 0 2 := and_ones x 2
theorem mask_7 (x : Nat) : x &&& 7 = fld x 0 3 := and_ones x 3
theorem mask_F (x : Nat) : x &&& 0xF = fld x 0 4 := and_ones x 4
theorem mask_FC (x : Nat) : x &&& 0xFC = fld x 2 6 <<< 2 := and_ones_shl x 6 2
theorem mask_F8 (x : Nat) : x &&& 0xF8 = fld x 3 5 <<< 3 := and_ones_shl x 5 3

theorem fld_shl_lt_two_pow (x lo n k m : Nat) (h : n + k ≤ m) : fld x lo n <<< k < 2 ^ m := by
  rw [Nat.shiftLeft_eq]
  apply Nat.lt_of_lt_of_le _ (Nat.pow_le_pow_right (by decide) h)
  rw [Nat.pow_add]
  exact (Nat.mul_lt_mul_right (Nat.two_pow_pos k)).mpr (fld_lt x lo n)

theorem or_shl_eq_iff {a b c k : Nat} (ha : a < 2 ^ k) (hc : c < 2 ^ k) : a ||| b <<< k = c ↔ a = c ∧ b = 0 := by
  constructor
  · intro h
    have h1 := congrArg (fun t => fld t 0 k) h
    have h2 := congrArg (fun t => t >>> k) h
    simp only [fld_or, fld_of_lt ha, fld_of_lt hc, fld_shl_lt b k 0 k (Nat.le_of_eq (Nat.zero_add k)),
      Nat.or_zero] at h1
    simp only [Nat.shiftRight_eq_div_pow, Nat.or_div_two_pow, Nat.div_eq_of_lt ha, Nat.div_eq_of_lt hc,
      Nat.zero_or, Nat.shiftLeft_eq, Nat.mul_div_cancel _ (Nat.two_pow_pos k)] at h2
    exact ⟨h1, h2⟩
  · rintro ⟨rfl, rfl⟩
    rw [Nat.zero_shiftLeft, Nat.or_zero]

/-- `fld_simp [h, …]` is `simp only` with `h, …`, the lemmas above that follow a bit field through `|||`, shifts
    and other fields, and the simprocs that decide their side conditions, which compare numerals. -/
macro "fld_simp" "[" ls:Lean.Parser.Tactic.simpLemma,* "]" : tactic =>
  `(tactic| simp only [$ls,*, fld_or, fld_shr, fld_shl_ge, fld_shl_lt, fld_fld_in, fld_fld_out, fld_of_small,
    shl_shl, shl_shr, Nat.or_zero, Nat.zero_or, Nat.reduceLeDiff, Nat.reduceSub, Nat.reduceAdd, Nat.reducePow,
    Nat.reduceLT])
macro "fld_simp" : tactic => `(tactic| fld_simp [fld_or])

end LzmaVerif.Bits
