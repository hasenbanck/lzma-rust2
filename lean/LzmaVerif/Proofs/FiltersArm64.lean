import LzmaVerif.Proofs.FiltersFields
/-!
ARM64 BCJ filter (`arm64_code`).  The model computes on the little-endian window word, and on words the filter is
`a64T`: `BL`, else `ADRP` with its address in range.  For `ADRP` both directions store `a64Enc`, which depends on the
address modulo `2 ^ 18` only, keeps it, and gives back a word in range (`a64Enc_congr`, `a64Enc_props`, `a64Enc_self`),
so the two directions cancel (`a64T_inv`); `Round.of_acts`.  Core Lean only.
-/
namespace LzmaVerif.Filters
open LzmaVerif.Bits

def a64BL (W : Nat) : Prop := (W >>> 26) &&& 0x3F = 0x25
def a64BLDest (enc : Bool) (p W : Nat) : Nat :=
  ((if enc then wadd W (p >>> 2) else wsub W (p >>> 2)) &&& 0x03FFFFFF) ||| 0x94000000
def a64ADRP (W : Nat) : Prop := (W >>> 24) &&& 0x9F = 0x90
def a64Addr (W : Nat) : Nat := ((W >>> 29) &&& 3) ||| ((W >>> 3) &&& 0x001FFFFC)
def a64InRange (W : Nat) : Prop := (wadd (a64Addr W) 0x00020000) &&& 0x001C0000 = 0
def a64ADRPDest (enc : Bool) (p W : Nat) : Nat :=
  let dest := 0x90000000 ||| (W &&& 0x1F)
  let addr := if enc then wadd (a64Addr W) (p >>> 12) else wsub (a64Addr W) (p >>> 12)
  let dest := dest ||| ((addr &&& 3) <<< 29)
  let dest := dest ||| ((addr &&& 0x0003FFFC) <<< 3)
  dest ||| (if addr &&& 0x00020000 ≠ 0 then 0x00E00000 else 0)

instance (W : Nat) : Decidable (a64BL W) := inferInstanceAs (Decidable ((W >>> 26) &&& 0x3F = 0x25))
instance (W : Nat) : Decidable (a64ADRP W) := inferInstanceAs (Decidable ((W >>> 24) &&& 0x9F = 0x90))
instance (W : Nat) : Decidable (a64InRange W) :=
  inferInstanceAs (Decidable ((wadd (a64Addr W) 0x00020000) &&& 0x001C0000 = 0))

def a64T (enc : Bool) (p W : Nat) : Nat :=
  if a64BL W then a64BLDest enc p W
  else if a64ADRP W ∧ a64InRange W then a64ADRPDest enc p W
  else W

/-! ### `BL`: opcode `100101` above a 26-bit word displacement -/

theorem a64BL_iff (W : Nat) : a64BL W ↔ W / 2 ^ 26 % 64 = 0x25 := by
  unfold a64BL
  rw [shr_eq, and_mask _ 6]

theorem a64BLDest_eq (enc : Bool) (p W : Nat) :
    a64BLDest enc p W = 0x94000000 + (if enc then wadd W (p >>> 2) else wsub W (p >>> 2)) % 2 ^ 26 := by
  unfold a64BLDest
  rw [and_mask _ 26, Nat.or_comm, or_disj _ _ 26 (by decide) (Nat.mod_lt _ (by decide))]

theorem a64BL_inv (p W : Nat) (hW : W < 2 ^ 32) (h : a64BL W) : a64T false p (a64T true p W) = W := by
  have e : a64T true p W = 0x94000000 + wadd W (p >>> 2) % 2 ^ 26 := by
    rw [a64T, if_pos h, a64BLDest_eq, if_pos rfl]
  rw [a64BL_iff] at h
  have h' : a64BL (0x94000000 + wadd W (p >>> 2) % 2 ^ 26) := by rw [a64BL_iff]; omega
  rw [e, a64T, if_pos h', a64BLDest_eq, if_neg (by decide),
    wsub_wadd_low (2 ^ 26) (by decide) W _ (p >>> 2) (by omega)]
  omega

/-! ### `ADRP`: `1 lo2 10000 hi19 rd5`, the page address being `hi19 : lo2` -/

def adrpW (r lo hi : Nat) : Nat := 0x90000000 + r + lo * 2 ^ 29 + hi * 32

/-- the sign extension of a 16-bit field to 19 bits -/
def sext16 (m : Nat) : Nat := m + m / 2 ^ 15 * 0x70000

/-- The `ADRP` word that keeps the register of `W` and has the sign extension of the low 18 bits of `A` for
    its address: this is what both directions store. -/
def a64Enc (W A : Nat) : Nat := adrpW (W % 32) (A % 4) (sext16 (A / 4 % 2 ^ 16))

theorem a64ADRP_iff (W : Nat) : a64ADRP W ↔ W / 2 ^ 31 % 2 = 1 ∧ W / 2 ^ 24 % 32 = 16 := by
  unfold a64ADRP
  rw [shr_eq, show (0x9F : Nat) = (2 ^ 1 - 1) * 2 ^ 7 ||| (2 ^ 5 - 1) from rfl, Nat.and_or_distrib_left, and_mask_shl,
    and_mask, or_disj _ _ 5 (by omega) (Nat.mod_lt _ (by decide))]
  omega

theorem a64Addr_eq (W : Nat) : a64Addr W = W / 2 ^ 29 % 4 + W / 32 % 2 ^ 19 * 4 := by
  unfold a64Addr
  rw [shr_eq, shr_eq, and_mask _ 2, and_mask_shl _ 19 2, Nat.or_comm, or_disj _ _ 2 (by omega) (by omega)]
  omega

theorem a64InRange_iff (W : Nat) : a64InRange W ↔ (a64Addr W + 0x20000) % 2 ^ 32 / 2 ^ 18 % 2 ^ 3 * 2 ^ 18 = 0 := by
  unfold a64InRange
  rw [and_mask_shl _ 3 18]
  rfl

theorem a64ADRPDest_eq (enc : Bool) (p W : Nat) :
    a64ADRPDest enc p W =
      a64Enc W (if enc then wadd (a64Addr W) (p >>> 12) else wsub (a64Addr W) (p >>> 12)) := by
  simp only [a64ADRPDest]
  generalize (if enc then wadd (a64Addr W) (p >>> 12) else wsub (a64Addr W) (p >>> 12)) = A
  rw [and_mask W 5, and_mask A 2, and_mask_shl A 16 2, and_mask_shl A 1 17, shl_eq, shl_eq]
  unfold a64Enc adrpW sext16
  -- bit 17 of the address is the top bit of the 16-bit field
  rw [show A / 2 ^ 17 % 2 = A / 4 % 2 ^ 16 / 2 ^ 15 by omega, show A / 2 ^ 2 = A / 4 from rfl]
  have hr : W % 32 < 32 := Nat.mod_lt _ (by decide)
  have hf : A % 4 < 4 := Nat.mod_lt _ (by decide)
  have hm : A / 4 % 2 ^ 16 < 2 ^ 16 := Nat.mod_lt _ (by decide)
  generalize W % 32 = r at *
  generalize A % 4 = f at *
  generalize A / 4 % 2 ^ 16 = m at *
  rw [or_disj 0x90000000 r 5 (by decide) hr,
    or_mid (0x90000000 + r) (f * 2 ^ 29) 0x80000000 (0x10000000 + r) 29 31
      (by omega) (by decide) (by omega) (Nat.mul_mod_left _ _) (by omega),
    or_mid (0x90000000 + r + f * 2 ^ 29) (m * 2 ^ 2 * 2 ^ 3) (0x90000000 + f * 2 ^ 29) r 5 21
      (by omega) (by omega) hr (by omega) (by omega)]
  have hs : m / 2 ^ 15 = 0 ∨ m / 2 ^ 15 = 1 := by omega
  rcases hs with hs | hs
  · rw [hs, if_neg (by decide), Nat.or_zero]
    omega
  · rw [hs, if_pos (by decide),
      or_mid _ 0x00E00000 (0x90000000 + f * 2 ^ 29) (r + m * 2 ^ 2 * 2 ^ 3) 21 24
        (by omega) (by omega) (by omega) (by decide) (by omega)]
    omega

theorem adrpW_props (r lo hi : Nat) (hr : r < 32) (hlo : lo < 4) (hhi : hi < 2 ^ 19) :
    adrpW r lo hi < 2 ^ 32 ∧ ¬ a64BL (adrpW r lo hi) ∧ a64ADRP (adrpW r lo hi) ∧ adrpW r lo hi % 32 = r ∧
      a64Addr (adrpW r lo hi) = lo + hi * 4 := by
  rw [a64BL_iff, a64ADRP_iff, a64Addr_eq]
  unfold adrpW
  refine ⟨?_, ?_, ?_, ?_, ?_⟩ <;> omega

theorem adrpW_self (W : Nat) (hW : W < 2 ^ 32) (h : a64ADRP W) :
    adrpW (W % 32) (W / 2 ^ 29 % 4) (W / 32 % 2 ^ 19) = W := by
  rw [a64ADRP_iff] at h
  unfold adrpW
  omega

/-- an address `hi : lo` is in range if `hi` is the sign extension of its low 16 bits -/
theorem inRange_iff (lo hi : Nat) (hlo : lo < 4) (hhi : hi < 2 ^ 19) :
    (lo + hi * 4 + 0x20000) % 2 ^ 32 / 2 ^ 18 % 2 ^ 3 * 2 ^ 18 = 0 ↔ sext16 (hi % 2 ^ 16) = hi := by
  unfold sext16
  have hs : hi % 2 ^ 16 / 2 ^ 15 = 0 ∨ hi % 2 ^ 16 / 2 ^ 15 = 1 := by omega
  rcases hs with hs | hs
  · rw [hs]
    omega
  · rw [hs]
    omega

theorem sext16_mod (m : Nat) (hm : m < 2 ^ 16) : sext16 m < 2 ^ 19 ∧ sext16 m % 2 ^ 16 = m := by
  unfold sext16
  omega

theorem a64Enc_props (W A : Nat) :
    a64Enc W A < 2 ^ 32 ∧ ¬ a64BL (a64Enc W A) ∧ a64ADRP (a64Enc W A) ∧ a64InRange (a64Enc W A) ∧
      a64Enc W A % 32 = W % 32 ∧ a64Addr (a64Enc W A) % 2 ^ 18 = A % 2 ^ 18 := by
  have hlo : A % 4 < 4 := Nat.mod_lt _ (by decide)
  obtain ⟨hs, hs'⟩ := sext16_mod (A / 4 % 2 ^ 16) (Nat.mod_lt _ (by decide))
  obtain ⟨p1, p2, p3, p4, p5⟩ := adrpW_props (W % 32) (A % 4) _ (Nat.mod_lt _ (by decide)) hlo hs
  refine ⟨p1, p2, p3, ?_, p4, ?_⟩
  · rw [a64InRange_iff, a64Enc, p5, inRange_iff _ _ hlo hs, hs']
  · rw [a64Enc, p5]
    omega

theorem a64Enc_congr (W W' A A' : Nat) (hW : W % 32 = W' % 32) (hA : A % 2 ^ 18 = A' % 2 ^ 18) :
    a64Enc W A = a64Enc W' A' := by
  rw [a64Enc, a64Enc, hW, show A % 4 = A' % 4 by omega, show A / 4 % 2 ^ 16 = A' / 4 % 2 ^ 16 by omega]

theorem a64Enc_self (W : Nat) (hW : W < 2 ^ 32) (h1 : a64ADRP W) (h2 : a64InRange W) :
    a64Enc W (a64Addr W) = W := by
  have hlo : W / 2 ^ 29 % 4 < 4 := Nat.mod_lt _ (by decide)
  rw [a64InRange_iff, a64Addr_eq, inRange_iff _ _ hlo (Nat.mod_lt _ (by decide))] at h2
  have e : ∀ lo hi, lo < 4 → (lo + hi * 4) % 4 = lo ∧ (lo + hi * 4) / 4 % 2 ^ 16 = hi % 2 ^ 16 :=
    fun lo hi h => by omega
  obtain ⟨e1, e2⟩ := e _ (W / 32 % 2 ^ 19) hlo
  rw [a64Enc, a64Addr_eq, e1, e2, h2]
  exact adrpW_self W hW h1

theorem a64ADRP_inv (p W : Nat) (hW : W < 2 ^ 32) (hBL : ¬ a64BL W) (h : a64ADRP W) (hR : a64InRange W) :
    a64T false p (a64T true p W) = W := by
  have e : a64T true p W = a64Enc W (wadd (a64Addr W) (p >>> 12)) := by
    rw [a64T, if_neg hBL, if_pos ⟨h, hR⟩, a64ADRPDest_eq, if_pos rfl]
  obtain ⟨_, n2, n3, n4, n5, n6⟩ := a64Enc_props W (wadd (a64Addr W) (p >>> 12))
  rw [e, a64T, if_neg n2, if_pos ⟨n3, n4⟩, a64ADRPDest_eq, if_neg (by decide),
    a64Enc_congr _ W _ (a64Addr W) n5 (wsub_wadd_low (2 ^ 18) (by decide) _ _ _ n6)]
  exact a64Enc_self W hW h hR

theorem a64T_inv (p W : Nat) (hW : W < 2 ^ 32) : a64T false p (a64T true p W) = W := by
  by_cases hBL : a64BL W
  · exact a64BL_inv p W hW hBL
  · by_cases hAD : a64ADRP W ∧ a64InRange W
    · exact a64ADRP_inv p W hW hBL hAD.1 hAD.2
    · have e : ∀ enc, a64T enc p W = W := fun enc => by rw [a64T, if_neg hBL, if_neg hAD]
      rw [e, e]

theorem a64T_lt (enc : Bool) (p W : Nat) (hW : W < 2 ^ 32) : a64T enc p W < 2 ^ 32 := by
  unfold a64T
  split
  · rw [a64BLDest_eq]
    omega
  · split
    · rw [a64ADRPDest_eq]
      exact (a64Enc_props _ _).1
    · exact hW

theorem a64_excl (W : Nat) (h : a64BL W) : ¬ a64ADRP W := by
  rw [a64BL_iff] at h
  rw [a64ADRP_iff]
  omega

def arm64Out (enc : Bool) (st : St) (i b0 b1 b2 b3 : Nat) : Nat × Nat × Nat × Nat :=
  le4 (a64T enc (posAt st i) (w4 b0 b1 b2 b3))

def arm64Step (enc : Bool) (st : St) : Nat → Buf → Buf :=
  winStep (fun b0 b1 b2 b3 => a64BL (w4 b0 b1 b2 b3) ∨ a64ADRP (w4 b0 b1 b2 b3) ∧ a64InRange (w4 b0 b1 b2 b3))
    (arm64Out enc st)

/-- `arm64_code` stores the high byte first -/
def put4r (b : Buf) (i d : Nat) : Buf :=
  sb (sb (sb (sb b (i + 3) (d >>> 24)) (i + 2) (d >>> 16)) (i + 1) (d >>> 8)) i d

theorem put4r_eq (b : Buf) (i d : Nat) : put4r b i d = put4 b i (le4 d) := by
  rw [put4r, put4, le4, sb_comm _ _ _ (show i + 3 ≠ i + 2 by omega), sb_comm _ _ _ (show i + 3 ≠ i + 1 by omega),
    sb_comm _ _ _ (show i + 3 ≠ i by omega), sb_comm _ _ _ (show i + 2 ≠ i + 1 by omega),
    sb_comm _ _ _ (show i + 2 ≠ i by omega), sb_comm _ _ _ (show i + 1 ≠ i by omega)]

/-- The body of `arm64Loop`: both patterns are tested on the original word, and the second write goes on top
    of the first. -/
def arm64Body (enc : Bool) (st : St) (i : Nat) (b : Buf) : Buf :=
  let W := w4 (gb b i) (gb b (i + 1)) (gb b (i + 2)) (gb b (i + 3))
  let b1 := if a64BL W then put4r b i (a64BLDest enc (posAt st i) W) else b
  if a64ADRP W then if a64InRange W then put4r b1 i (a64ADRPDest enc (posAt st i) W) else b1 else b1

/-- As the patterns exclude each other the body is one step on the window. -/
theorem arm64Body_eq (enc : Bool) (st : St) (i : Nat) (b : Buf) : arm64Body enc st i b = arm64Step enc st i b := by
  unfold arm64Body arm64Step winStep arm64Out a64T
  simp only [put4r_eq]
  by_cases hBL : a64BL (w4 (gb b i) (gb b (i + 1)) (gb b (i + 2)) (gb b (i + 3)))
  · rw [if_neg (a64_excl _ hBL), if_pos (Or.inl hBL), if_pos hBL, if_pos hBL]
  · by_cases hAD : a64ADRP (w4 (gb b i) (gb b (i + 1)) (gb b (i + 2)) (gb b (i + 3)))
    · by_cases hR : a64InRange (w4 (gb b i) (gb b (i + 1)) (gb b (i + 2)) (gb b (i + 3)))
      · rw [if_pos hAD, if_pos hR, if_pos (Or.inr ⟨hAD, hR⟩), if_neg hBL, if_neg hBL, if_pos ⟨hAD, hR⟩]
      · rw [if_pos hAD, if_neg hR, if_neg hBL, if_neg (fun h => h.elim hBL (fun h => hR h.2))]
    · rw [if_neg hAD, if_neg hBL, if_neg (fun h => h.elim hBL (fun h => hAD h.1))]

theorem arm64Loop_eq_scan (enc : Bool) (st : St) : ∀ fuel i b,
    arm64Loop enc st fuel i b = scan 4 (fun i b => (arm64Step enc st i b, 4)) fuel i b :=
  eq_scan _ (fun _ _ => rfl) (fun n i b => by
    rw [arm64Loop]
    exact ite_congr rfl (fun _ => rfl) (fun _ => congrArg (arm64Loop enc st n (i + 4)) (arm64Body_eq enc st i b)))

theorem arm64Step_bytes (enc : Bool) (st : St) (i : Nat) (b : Buf) (h : BBytes b) :
    BBytes (arm64Step enc st i b) :=
  winStep_bytes i b h

theorem arm64_acts (enc : Bool) (st : St) (i : Nat) :
    ActsAs w4 (fun b0 b1 b2 b3 => a64BL (w4 b0 b1 b2 b3) ∨ a64ADRP (w4 b0 b1 b2 b3) ∧ a64InRange (w4 b0 b1 b2 b3))
      (arm64Out enc st i) (a64T enc (posAt st i)) where
  pos := fun b0 b1 b2 b3 h0 h1 h2 h3 _ =>
    (wdOut_le4 _).trans (Nat.mod_eq_of_lt (a64T_lt _ _ _ (w4_le.lt _ _ _ _ h0 h1 h2 h3)))
  neg := fun b0 b1 b2 b3 _ _ _ _ hr => by
    rw [a64T, if_neg (fun h => hr (Or.inl h)), if_neg (fun h => hr (Or.inr h))]

theorem arm64_stepOK (st : St) :
    StepOK 4 (fun _ => True) (fun _ _ => 0) (fun i b => (arm64Step true st i b, 4))
      (fun i b => (arm64Step false st i b, 4)) :=
  winStep_stepOK (O := fun enc => arm64Out enc st) (fun _ _ => trivial)
    (fun i _ => Round.of_acts w4_le (arm64_acts true st i) (arm64_acts false st i) (fun W hW => a64T_inv _ W hW))

/-- the alignment hypothesis is not needed by the proof -/
theorem arm64_inv (start : Nat) (_hs : start % 4 = 0) (xs : List Nat) (h : Bytes xs) :
    oneShot .arm64 false start (oneShot .arm64 true start xs) = xs := by
  simp only [oneShot, code, arm64Loop_eq_scan]
  exact scan_inv_list (arm64_stepOK _) trivial xs h

end LzmaVerif.Filters
