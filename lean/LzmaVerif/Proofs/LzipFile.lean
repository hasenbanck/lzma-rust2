import LzmaVerif.Model.LzipFile
import LzmaVerif.Proofs.ChecksBasic
/-!
LZIP container (C02, C04, C12, C16): round trip / concatenation, rejection of damaged input, acceptance ⇒ verified members.

An accepted iteration of the member loop: `MemberAt k inp m inp'` (the input starts with a member the reader
accepts with `k` bytes of cap left; `m` the record kept, `inp'` what follows the trailer), `MemberAt.loop` (the loop goes on
behind it) and `members_cases` (no further member, or a `MemberAt`, or the iteration answers by itself).
`MemberAt.of_memberOk` and `MemberAt.bytes` relate it to the writer's layout `memberBytes` in the two directions: the round
trip is an induction through the first, acceptance (`members_accept`) through the second.

The writer side (`MemberOk`, `fileBytes`, `fileData`) takes triples `(dictByte, lzma, data)`; the reader keeps records
`Member`, newest first.  `fileRecs` converts and reverses; `reassemble` is `fileBytes` on records.  `total` in `members` is
the length of the whole file and serves only the consumed count.
-/
namespace LzmaVerif.LzipFile
open LzmaVerif Lzma Checks

def Bytes (xs : List Nat) : Prop := ∀ x ∈ xs, x < 256

theorem Bytes.append {a b : List Nat} (ha : Bytes a) (hb : Bytes b) : Bytes (a ++ b) := by
  intro x hx
  rcases List.mem_append.1 hx with h | h
  · exact ha x h
  · exact hb x h

theorem Bytes.of_append {a b : List Nat} (h : Bytes (a ++ b)) : Bytes a ∧ Bytes b :=
  ⟨fun x hx => h x (List.mem_append_left _ hx), fun x hx => h x (List.mem_append_right _ hx)⟩

theorem Bytes.take {a : List Nat} (h : Bytes a) (n : Nat) : Bytes (a.take n) :=
  fun x hx => h x (List.mem_of_mem_take hx)

theorem Bytes.drop {a : List Nat} (h : Bytes a) (n : Nat) : Bytes (a.drop n) :=
  fun x hx => h x (List.mem_of_mem_drop hx)

theorem le_zero (v : Nat) : le 0 v = [] := rfl

theorem ofLe_lt (bs : List Nat) (hb : Bytes bs) : ofLe bs < 256 ^ bs.length := Checks.ofLe_lt bs hb

/-- the body of `members` behind an intact magic (`members_succ`) -/
def afterMagic (fuel : Nat) (inp1 : List Nat) (total : Nat) (acc : List Nat) (n : List Member) (cap : Nat) : Out :=
  match inp1 with
  | [] => .err .eof
  | ver :: inp2 =>
    if ver ≠ Consts.LZIP_VERSION then .err .invalidData else
    match inp2 with
    | [] => .err .eof
    | db :: inp3 =>
      match Lzip.decodeDict db with
      | none => .err .invalidData
      | some dict =>
        let dictBuf := lzmaReaderDictBuf dict none 0
        match decodeRaw lzipParams dictBuf #[] none inp3 (cap - acc.length) with
        | .capped => .capped
        | .err e => .err e
        | .ok out consumed _ =>
          let inp4 := inp3.drop consumed
          if inp4.length < 20 then .err .eof else
          let crc := ofLe (inp4.take 4)
          let dsize := ofLe ((inp4.drop 4).take 8)
          let msize := ofLe ((inp4.drop 12).take 8)
          let data := out.toList
          if crc ≠ crc32 data then .err .invalidData
          else if dsize ≠ data.length then .err .invalidData
          else if msize ≠ 6 + consumed + 20 then .err .invalidData
          else members fuel false (inp4.drop 20) total (acc ++ data)
            ({ dictByte := db, lzma := inp3.take consumed, data } :: n) cap

theorem members_succ (fuel : Nat) (first : Bool) (inp : List Nat) (total : Nat) (acc : List Nat)
    (n : List Member) (cap : Nat) :
    members (fuel + 1) first inp total acc n cap =
      if (inp.take 4).isEmpty then .ok acc (total - (inp.drop 4).length) n
      else if inp.take 4 ≠ Consts.LZIP_MAGIC then
        (if first then .err .invalidData
         else if (inp.take 4).isPrefixOf Consts.LZIP_MAGIC then .err .eof
         else .ok acc (total - (inp.drop 4).length) n)
      else afterMagic fuel (inp.drop 4) total acc n cap := by
  rfl

theorem members_magic (fuel : Nat) (first : Bool) (inp1 : List Nat) (total : Nat) (acc : List Nat)
    (n : List Member) (cap : Nat) :
    members (fuel + 1) first (Consts.LZIP_MAGIC ++ inp1) total acc n cap = afterMagic fuel inp1 total acc n cap := by
  rw [members_succ]
  have h1 : (Consts.LZIP_MAGIC ++ inp1).take 4 = Consts.LZIP_MAGIC := List.take_left' rfl
  have h2 : (Consts.LZIP_MAGIC ++ inp1).drop 4 = inp1 := List.drop_left' rfl
  rw [h1, h2]
  rfl

/-- what the LZMA codec has to provide for one member (discharged by `EMember.payloadOk`, `Proofs/EndToEnd.lean`): the raw
    LZMA stream `lzma` (with end marker) followed by ANY bytes decodes to `data`, consuming exactly `lzma` -/
def PayloadOk (dictBuf : Nat) (lzma data : List Nat) : Prop :=
  ∀ (rest : List Nat) (cap : Nat), data.length ≤ cap →
    ∃ parse, decodeRaw lzipParams dictBuf #[] none (lzma ++ rest) cap = .ok data.toArray lzma.length parse

def MemberOk (m : Nat × List Nat × List Nat) : Prop :=
  ∃ dict, Lzip.decodeDict m.1 = some dict ∧ PayloadOk (lzmaReaderDictBuf dict none 0) m.2.1 m.2.2 ∧
    Bytes m.2.2 ∧ m.2.2.length < 2^64 ∧ m.2.1.length + 26 < 2^64

def trailerBytes (lzma data : List Nat) : List Nat :=
  le 4 (crc32 data) ++ (le 8 data.length ++ le 8 (6 + lzma.length + 20))

theorem trailerBytes_length (lzma data : List Nat) : (trailerBytes lzma data).length = 20 := by
  simp [trailerBytes, le_length]

theorem memberBytes_eq (db : Nat) (lzma data : List Nat) :
    memberBytes db lzma data = Consts.LZIP_MAGIC ++ (Consts.LZIP_VERSION :: db :: (lzma ++ trailerBytes lzma data)) := by
  simp [memberBytes, trailerBytes]

/-- the premises are the tests the loop body makes behind the magic -/
inductive MemberAt (k : Nat) : List Nat → Member → List Nat → Prop
  | mk {db dict c : Nat} {inp3 : List Nat} {out : Array Nat} {parse : List Sym}
      (hd : Lzip.decodeDict db = some dict)
      (hdec : decodeRaw lzipParams (lzmaReaderDictBuf dict none 0) #[] none inp3 k = .ok out c parse)
      (hlen : 20 ≤ (inp3.drop c).length)
      (hcrc : ofLe ((inp3.drop c).take 4) = crc32 out.toList)
      (hds : ofLe (((inp3.drop c).drop 4).take 8) = out.toList.length)
      (hms : ofLe (((inp3.drop c).drop 12).take 8) = 6 + c + 20) :
      MemberAt k (Consts.LZIP_MAGIC ++ Consts.LZIP_VERSION :: db :: inp3)
        { dictByte := db, lzma := inp3.take c, data := out.toList } ((inp3.drop c).drop 20)

theorem MemberAt.loop {inp : List Nat} {m : Member} {inp' : List Nat} {acc : List Nat} {cap : Nat}
    (h : MemberAt (cap - acc.length) inp m inp') (fuel : Nat) (first : Bool) (total : Nat) (n : List Member) :
    members (fuel + 1) first inp total acc n cap = members fuel false inp' total (acc ++ m.data) (m :: n) cap := by
  cases h with
  | mk hd hdec hlen hcrc hds hms =>
    rw [members_magic]
    simp only [afterMagic, ne_eq, not_true_eq_false, if_false, hd, hdec, hcrc, hds, hms, Nat.not_lt.mpr hlen]

theorem MemberAt.of_memberOk {db : Nat} {lzma data : List Nat} (hm : MemberOk (db, lzma, data)) (rest : List Nat)
    {k : Nat} (hk : data.length ≤ k) :
    MemberAt k (memberBytes db lzma data ++ rest) { dictByte := db, lzma := lzma, data := data } rest := by
  obtain ⟨dict, hd, hp, hb, hl1, hl2⟩ := hm
  simp only at hd hp hb hl1 hl2
  obtain ⟨parse, hp⟩ := hp (trailerBytes lzma data ++ rest) k hk
  have v1 : ofLe (le 4 (crc32 data)) = crc32 data :=
    ofLe_le 4 _ (Nat.lt_of_lt_of_le (crc32_lt data hb) (by decide))
  have v2 : ofLe (le 8 data.length) = data.length :=
    ofLe_le 8 _ (Nat.lt_of_lt_of_le hl1 (by decide))
  have v3 : ofLe (le 8 (6 + lzma.length + 20)) = 6 + lzma.length + 20 :=
    ofLe_le 8 _ (Nat.lt_of_lt_of_le (show 6 + lzma.length + 20 < 2 ^ 64 by omega) (by decide))
  -- the premises are the positions of the three fields in the 20 trailer bytes
  have := MemberAt.mk (k := k) hd hp (by simp [trailerBytes, le_length]; omega)
    (by simp [trailerBytes, le_length, v1]) (by simp [trailerBytes, le_length, v2])
    (by simp [trailerBytes, List.drop_append, le_length, le_drop, v3])
  rw [memberBytes_eq, List.append_assoc, List.cons_append, List.cons_append, List.append_assoc]
  simpa [trailerBytes, List.drop_append, le_length, le_drop] using this

theorem members_step (fuel : Nat) (first : Bool) (db : Nat) (lzma data rest : List Nat) (total : Nat)
    (acc : List Nat) (n : List Member) (cap : Nat) (hm : MemberOk (db, lzma, data))
    (hcap : acc.length + data.length ≤ cap) :
    members (fuel + 1) first (memberBytes db lzma data ++ rest) total acc n cap =
      members fuel false rest total (acc ++ data) ({ dictByte := db, lzma := lzma, data := data } :: n) cap :=
  (MemberAt.of_memberOk hm rest (by omega)).loop fuel first total n

def fileBytes (ms : List (Nat × List Nat × List Nat)) : List Nat :=
  (ms.map fun m => memberBytes m.1 m.2.1 m.2.2).flatten

def fileData (ms : List (Nat × List Nat × List Nat)) : List Nat := (ms.map (·.2.2)).flatten

def fileRecs (ms : List (Nat × List Nat × List Nat)) : List Member :=
  (ms.map fun m => ({ dictByte := m.1, lzma := m.2.1, data := m.2.2 } : Member)).reverse

theorem fileBytes_cons (m : Nat × List Nat × List Nat) (ms : List (Nat × List Nat × List Nat)) :
    fileBytes (m :: ms) = memberBytes m.1 m.2.1 m.2.2 ++ fileBytes ms := by simp [fileBytes]

theorem fileData_cons (m : Nat × List Nat × List Nat) (ms : List (Nat × List Nat × List Nat)) :
    fileData (m :: ms) = m.2.2 ++ fileData ms := by simp [fileData]

theorem memberBytes_length (db : Nat) (lzma data : List Nat) :
    (memberBytes db lzma data).length = lzma.length + 26 := by
  simp [memberBytes, le_length, Consts.LZIP_MAGIC]

/-- the writer's layout consists of bytes (so `decode_accept` applies to written files) -/
theorem memberBytes_bytes (db : Nat) (lzma data : List Nat) (hdb : db < 256) (hl : Bytes lzma) :
    Bytes (memberBytes db lzma data) := by
  unfold memberBytes
  refine Bytes.append (Bytes.append (Bytes.append (Bytes.append (Bytes.append ?_ ?_) hl) (le_bytes _ _))
    (le_bytes _ _)) (le_bytes _ _)
  · unfold Bytes Consts.LZIP_MAGIC; decide
  · intro x hx
    simp only [List.mem_cons, List.not_mem_nil, or_false] at hx
    rcases hx with rfl | rfl
    · decide
    · exact hdb

theorem fileBytes_length_ge (ms : List (Nat × List Nat × List Nat)) : 26 * ms.length ≤ (fileBytes ms).length := by
  induction ms with
  | nil => simp
  | cons m ms ih =>
    rw [fileBytes_cons, List.length_append, memberBytes_length, List.length_cons]; omega

theorem members_prefix (ms : List (Nat × List Nat × List Nat)) (hm : ∀ m ∈ ms, MemberOk m)
    (fuel : Nat) (first : Bool) (tail : List Nat) (total : Nat) (acc : List Nat) (n : List Member) (cap : Nat)
    (hcap : acc.length + (fileData ms).length ≤ cap) :
    members (fuel + ms.length) first (fileBytes ms ++ tail) total acc n cap =
      members fuel (first && ms.isEmpty) tail total (acc ++ fileData ms) (fileRecs ms ++ n) cap := by
  induction ms generalizing first acc n with
  | nil => simp [fileBytes, fileData, fileRecs]
  | cons m ms ih =>
    obtain ⟨db, lzma, data⟩ := m
    have hr : fileRecs ((db, lzma, data) :: ms) ++ n =
        fileRecs ms ++ ({ dictByte := db, lzma := lzma, data := data } :: n) := by simp [fileRecs]
    rw [fileData_cons, List.length_append] at hcap
    simp only at hcap
    rw [fileData_cons, fileBytes_cons, hr, List.length_cons, ← Nat.add_assoc, List.append_assoc,
      members_step _ _ _ _ _ _ _ _ _ _ (hm _ (List.mem_cons_self ..)) (by omega),
      ih (fun m h => hm m (List.mem_cons_of_mem _ h)) false (acc ++ data) _
        (by rw [List.length_append]; omega)]
    simp

theorem isPrefixOf_magic_of_length {x : List Nat} (hl : x.length = 4) (hx : x ≠ Consts.LZIP_MAGIC) :
    x.isPrefixOf Consts.LZIP_MAGIC = false := by
  cases h : x.isPrefixOf Consts.LZIP_MAGIC with
  | false => rfl
  | true => exact absurd ((List.isPrefixOf_iff_prefix.mp h).eq_of_length hl) hx

/-- trailing data that the reader ignores: it does not start with the magic (`t.take 4 ≠ LZIP_MAGIC`, stated separately)
    and is not a non-empty proper prefix of the magic at the end of the input (that is a truncated member: `UnexpectedEof`) -/
def TrailingOk (t : List Nat) : Prop := t = [] ∨ (t.take 4).isPrefixOf Consts.LZIP_MAGIC = false

instance (t : List Nat) : Decidable (TrailingOk t) := by unfold TrailingOk; infer_instance

theorem trailingOk_nil : TrailingOk [] := Or.inl rfl

theorem trailingOk_long {t : List Nat} (hl : 4 ≤ t.length) (ht : t.take 4 ≠ Consts.LZIP_MAGIC) : TrailingOk t :=
  Or.inr (isPrefixOf_magic_of_length (by rw [List.length_take]; omega) ht)

theorem members_stop (fuel : Nat) (inp : List Nat) (total : Nat) (acc : List Nat) (n : List Member) (cap : Nat)
    (ht : inp.take 4 ≠ Consts.LZIP_MAGIC) (ht2 : TrailingOk inp) :
    members (fuel + 1) false inp total acc n cap = .ok acc (total - (inp.drop 4).length) n := by
  rw [members_succ]
  rcases ht2 with rfl | h
  · rfl
  · simp only [ne_eq, ht, not_false_eq_true, if_true, Bool.false_eq_true, if_false, h, ite_self]

theorem take4_isEmpty {inp : List Nat} (hne : inp ≠ []) : (inp.take 4).isEmpty = false := by
  cases inp with
  | nil => exact absurd rfl hne
  | cons a t => rfl

theorem members_magic_fragment (fuel : Nat) (inp : List Nat) (total : Nat) (acc : List Nat) (n : List Member)
    (cap : Nat) (hne : inp ≠ []) (ht : inp.take 4 ≠ Consts.LZIP_MAGIC)
    (hp : (inp.take 4).isPrefixOf Consts.LZIP_MAGIC = true) :
    members (fuel + 1) false inp total acc n cap = .err .eof := by
  rw [members_succ]
  simp only [take4_isEmpty hne, Bool.false_eq_true, if_false, ne_eq, ht, not_false_eq_true, if_true, hp]

theorem decode_members (ms : List (Nat × List Nat × List Nat)) (hm : ∀ m ∈ ms, MemberOk m)
    (tail : List Nat) (cap : Nat) (hcap : (fileData ms).length ≤ cap) :
    decode (fileBytes ms ++ tail) cap =
      members ((fileBytes ms ++ tail).length - ms.length + 2) ms.isEmpty tail (fileBytes ms ++ tail).length
        (fileData ms) (fileRecs ms) cap := by
  have hlen := fileBytes_length_ge ms
  have hfuel : (fileBytes ms ++ tail).length + 2 =
      ((fileBytes ms ++ tail).length - ms.length + 2) + ms.length := by
    rw [List.length_append]; omega
  unfold decode
  rw [hfuel, members_prefix ms hm _ _ _ _ _ _ _ (by simpa using hcap)]
  simp only [Bool.true_and, List.nil_append, List.append_nil]

/-- round trip with the member records made explicit (and without the unused `Bytes lzma` hypothesis) -/
theorem lzip_roundtrip_recs (ms : List (Nat × List Nat × List Nat)) (hne : ms ≠ []) (hm : ∀ m ∈ ms, MemberOk m)
    (trailing : List Nat) (ht : trailing.take 4 ≠ Consts.LZIP_MAGIC) (ht2 : TrailingOk trailing)
    (cap : Nat) (hcap : (fileData ms).length ≤ cap) :
    decode (fileBytes ms ++ trailing) cap =
      .ok (fileData ms) ((fileBytes ms).length + min 4 trailing.length) (fileRecs ms) := by
  rw [decode_members ms hm _ _ hcap, List.isEmpty_eq_false_iff.mpr hne, members_stop _ _ _ _ _ _ ht ht2]
  simp only [List.length_append, List.length_drop]
  congr 1
  omega

theorem lzip_roundtrip_recs_nil (ms : List (Nat × List Nat × List Nat)) (hne : ms ≠ []) (hm : ∀ m ∈ ms, MemberOk m)
    (cap : Nat) (hcap : (fileData ms).length ≤ cap) :
    decode (fileBytes ms) cap = .ok (fileData ms) (fileBytes ms).length (fileRecs ms) := by
  have h := lzip_roundtrip_recs ms hne hm [] (by decide) trailingOk_nil cap hcap
  simpa using h

/-- **LZIP round trip / concatenation (C02, C12, C16)**: any sequence of members, each written with a dictionary byte
    the reader accepts and a payload the codec round-trips, followed by trailing bytes that do NOT start with the magic
    (or by nothing), decodes to the concatenation of the members' data. The reader consumes all members plus at most the
    4 bytes it has to look at to see that no further member follows. -/
theorem lzip_roundtrip (ms : List (Nat × List Nat × List Nat))     -- (dictByte, lzma stream, data)
    (hne : ms ≠ [])
    (hm : ∀ m ∈ ms, ∃ dict, Lzip.decodeDict m.1 = some dict ∧ PayloadOk (lzmaReaderDictBuf dict none 0) m.2.1 m.2.2 ∧
                     Bytes m.2.1 ∧ Bytes m.2.2 ∧ m.2.2.length < 2^64 ∧ m.2.1.length + 26 < 2^64)
    (trailing : List Nat) (ht : trailing.take 4 ≠ Consts.LZIP_MAGIC) (ht2 : TrailingOk trailing)
    (cap : Nat) (hcap : ((ms.map (·.2.2)).flatten).length ≤ cap) :
    ∃ recs, LzipFile.decode ((ms.map fun m => memberBytes m.1 m.2.1 m.2.2).flatten ++ trailing) cap
      = .ok (ms.map (·.2.2)).flatten (((ms.map fun m => memberBytes m.1 m.2.1 m.2.2).flatten).length + min 4 trailing.length) recs := by
  have hm' : ∀ m ∈ ms, MemberOk m := by
    intro m h
    obtain ⟨dict, h1, h2, _, h3, h4, h5⟩ := hm m h
    exact ⟨dict, h1, h2, h3, h4, h5⟩
  exact ⟨fileRecs ms, lzip_roundtrip_recs ms hne hm' trailing ht ht2 cap hcap⟩

/-- C04: non-LZIP input is an error, not an empty file -/
theorem decode_not_lzip (inp : List Nat) (cap : Nat) (hne : inp ≠ []) (hmagic : inp.take 4 ≠ Consts.LZIP_MAGIC) :
    decode inp cap = .err .invalidData := by
  unfold decode
  rw [members_succ]
  simp only [take4_isEmpty hne, Bool.false_eq_true, if_false, ne_eq, hmagic, not_false_eq_true, if_true]

/-- the behaviour on empty input (the model's and the code's): an empty file -/
theorem decode_empty (cap : Nat) : decode [] cap = .ok [] 0 [] := rfl

theorem afterMagic_nil (fuel total : Nat) (acc : List Nat) (n : List Member) (cap : Nat) :
    afterMagic fuel [] total acc n cap = .err .eof := rfl

theorem afterMagic_version (fuel : Nat) (v : Nat) (rest : List Nat) (total : Nat) (acc : List Nat) (n : List Member)
    (cap : Nat) (hv : v ≠ 1) : afterMagic fuel (v :: rest) total acc n cap = .err .invalidData := by
  simp only [afterMagic, Consts.LZIP_VERSION, ne_eq, hv, not_false_eq_true, if_true]

theorem afterMagic_nodict (fuel total : Nat) (acc : List Nat) (n : List Member) (cap : Nat) :
    afterMagic fuel [1] total acc n cap = .err .eof := rfl

theorem afterMagic_dict (fuel : Nat) (db : Nat) (rest : List Nat) (total : Nat) (acc : List Nat) (n : List Member)
    (cap : Nat) (hd : Lzip.decodeDict db = none) :
    afterMagic fuel (1 :: db :: rest) total acc n cap = .err .invalidData := by
  simp only [afterMagic, Consts.LZIP_VERSION, ne_eq, not_true_eq_false, if_false, hd]

/-- **The header of a member, the first or a later one**: after any sequence of valid members and an intact magic the
    reader is in `afterMagic`, so a damaged or truncated header is the error `afterMagic` gives, never a silent stop -/
theorem decode_header_err (ms : List (Nat × List Nat × List Nat)) (hm : ∀ m ∈ ms, MemberOk m) (hdr : List Nat)
    (e : Err) (cap : Nat) (hcap : (fileData ms).length ≤ cap)
    (h : ∀ fuel total acc n, afterMagic fuel hdr total acc n cap = .err e) :
    decode (fileBytes ms ++ (Consts.LZIP_MAGIC ++ hdr)) cap = .err e := by
  rw [decode_members ms hm _ _ hcap, members_magic]
  exact h _ _ _ _

theorem decode_bad_version (v : Nat) (rest : List Nat) (cap : Nat) (hv : v ≠ 1) :
    decode (Consts.LZIP_MAGIC ++ v :: rest) cap = .err .invalidData :=
  decode_header_err [] (by simp) _ _ cap (Nat.zero_le _) fun _ _ _ _ => afterMagic_version _ _ _ _ _ _ _ hv

theorem decode_bad_dict (db : Nat) (rest : List Nat) (cap : Nat) (hd : Lzip.decodeDict db = none) :
    decode (Consts.LZIP_MAGIC ++ [1, db] ++ rest) cap = .err .invalidData :=
  decode_header_err [] (by simp) (1 :: db :: rest) _ cap (Nat.zero_le _) fun _ _ _ _ =>
    afterMagic_dict _ _ _ _ _ _ _ hd

theorem decode_truncated_header (hdr : List Nat) (cap : Nat) (hh : hdr = [] ∨ hdr = [1]) :
    decode (Consts.LZIP_MAGIC ++ hdr) cap = .err .eof := by
  rcases hh with rfl | rfl <;> exact decode_header_err [] (by simp) _ _ cap (Nat.zero_le _) fun _ _ _ _ => rfl

theorem decode_short_header (hdr : List Nat) (cap : Nat) (hl : hdr.length < 2) :
    decode (Consts.LZIP_MAGIC ++ hdr) cap = .err .eof ∨ decode (Consts.LZIP_MAGIC ++ hdr) cap = .err .invalidData := by
  match hdr, hl with
  | [], _ => exact Or.inl (decode_truncated_header [] cap (Or.inl rfl))
  | [v], _ =>
    by_cases hv : v = 1
    · subst hv; exact Or.inl (decode_truncated_header [1] cap (Or.inr rfl))
    · exact Or.inr (decode_bad_version v [] cap hv)

theorem decode_later_bad_version (ms : List (Nat × List Nat × List Nat)) (hne : ms ≠ []) (hm : ∀ m ∈ ms, MemberOk m)
    (v : Nat) (rest : List Nat) (hv : v ≠ 1) (cap : Nat) (hcap : (fileData ms).length ≤ cap) :
    decode (fileBytes ms ++ (Consts.LZIP_MAGIC ++ v :: rest)) cap = .err .invalidData :=
  decode_header_err ms hm _ _ cap hcap fun _ _ _ _ => afterMagic_version _ _ _ _ _ _ _ hv

theorem decode_later_bad_dict (ms : List (Nat × List Nat × List Nat)) (hne : ms ≠ []) (hm : ∀ m ∈ ms, MemberOk m)
    (db : Nat) (rest : List Nat) (hd : Lzip.decodeDict db = none) (cap : Nat) (hcap : (fileData ms).length ≤ cap) :
    decode (fileBytes ms ++ (Consts.LZIP_MAGIC ++ [1, db] ++ rest)) cap = .err .invalidData :=
  decode_header_err ms hm (1 :: db :: rest) _ cap hcap fun _ _ _ _ => afterMagic_dict _ _ _ _ _ _ _ hd

theorem decode_later_truncated_header (ms : List (Nat × List Nat × List Nat)) (hne : ms ≠ [])
    (hm : ∀ m ∈ ms, MemberOk m) (hdr : List Nat) (hh : hdr = [] ∨ hdr = [1]) (cap : Nat)
    (hcap : (fileData ms).length ≤ cap) :
    decode (fileBytes ms ++ (Consts.LZIP_MAGIC ++ hdr)) cap = .err .eof := by
  rcases hh with rfl | rfl <;> exact decode_header_err ms hm _ _ cap hcap fun _ _ _ _ => rfl

/-- The iteration that gave the answers `a`, `b` for two amounts of fuel answered by itself: the same for both, not `.ok`,
and `.capped` only because the member's raw LZMA stream answered `.capped`. -/
def Stops (acc : List Nat) (cap : Nat) (a b : Out) : Prop :=
  a = b ∧ (∀ d c r, a ≠ .ok d c r) ∧
    (a = .capped → ∃ dictBuf inp3, decodeRaw lzipParams dictBuf #[] none inp3 (cap - acc.length) = .capped)

theorem Stops.err {acc : List Nat} {cap : Nat} (e : Err) : Stops acc cap (.err e) (.err e) := ⟨rfl, nofun, nofun⟩

theorem afterMagic_cases (f f' : Nat) (inp1 : List Nat) (total : Nat) (acc : List Nat) (n : List Member) (cap : Nat) :
    (∃ m inp', MemberAt (cap - acc.length) (Consts.LZIP_MAGIC ++ inp1) m inp') ∨
      Stops acc cap (afterMagic f inp1 total acc n cap) (afterMagic f' inp1 total acc n cap) := by
  unfold afterMagic
  cases inp1 with
  | nil => exact .inr (.err _)
  | cons ver inp2 =>
  dsimp only
  by_cases hv : ver ≠ Consts.LZIP_VERSION
  · rw [if_pos hv, if_pos hv]; exact .inr (.err _)
  rw [if_neg hv, if_neg hv]
  obtain rfl : ver = Consts.LZIP_VERSION := Decidable.not_not.mp hv
  cases inp2 with
  | nil => exact .inr (.err _)
  | cons db inp3 =>
  dsimp only
  split
  · exact .inr (.err _)
  next dict hd =>
  split
  · next hdec => exact .inr ⟨rfl, nofun, fun _ => ⟨_, _, hdec⟩⟩
  · exact .inr (.err _)
  next out c parse hdec =>
  split
  · exact .inr (.err _)
  next hlen =>
  split
  · exact .inr (.err _)
  next hcrc =>
  split
  · exact .inr (.err _)
  next hds =>
  split
  · exact .inr (.err _)
  next hms =>
  exact .inl ⟨_, _, .mk hd hdec (Nat.le_of_not_lt hlen) (Decidable.not_not.mp hcrc) (Decidable.not_not.mp hds)
    (Decidable.not_not.mp hms)⟩

/-- **One iteration of the member loop**, for two amounts of fuel: no further member (empty input, or after a member neither
the magic nor a fragment of it), or a member, or the iteration answers by itself. -/
theorem members_cases (f f' : Nat) (first : Bool) (inp : List Nat) (total : Nat) (acc : List Nat) (n : List Member)
    (cap : Nat) :
    (inp.take 4 ≠ Consts.LZIP_MAGIC ∧ TrailingOk inp ∧ (first = true → inp = []) ∧
      members (f + 1) first inp total acc n cap = .ok acc (total - (inp.drop 4).length) n ∧
      members (f' + 1) first inp total acc n cap = .ok acc (total - (inp.drop 4).length) n) ∨
    (∃ m inp', MemberAt (cap - acc.length) inp m inp') ∨
    Stops acc cap (members (f + 1) first inp total acc n cap) (members (f' + 1) first inp total acc n cap) := by
  rw [members_succ, members_succ]
  by_cases hemp : (inp.take 4).isEmpty = true
  · rw [if_pos hemp, if_pos hemp]
    obtain rfl : inp = [] := by
      cases inp with
      | nil => rfl
      | cons a t => cases hemp
    exact .inl ⟨by decide, .inl rfl, fun _ => rfl, rfl, rfl⟩
  rw [if_neg hemp, if_neg hemp]
  by_cases hmag : inp.take 4 ≠ Consts.LZIP_MAGIC
  · rw [if_pos hmag, if_pos hmag]
    cases first with
    | true => exact .inr (.inr (.err _))
    | false =>
      by_cases hpre : (inp.take 4).isPrefixOf Consts.LZIP_MAGIC = true
      · rw [if_neg Bool.false_ne_true, if_pos hpre]
        exact .inr (.inr (.err _))
      · rw [if_neg Bool.false_ne_true, if_neg hpre]
        exact .inl ⟨hmag, .inr (Bool.eq_false_iff.mpr hpre), nofun, rfl, rfl⟩
  · rw [if_neg hmag, if_neg hmag]
    rcases afterMagic_cases f f' (inp.drop 4) total acc n cap with h | h
    · rw [← Decidable.not_not.mp hmag, List.take_append_drop] at h
      exact .inr (.inl h)
    · exact .inr (.inr h)

/-- a member takes at least 26 bytes: magic, version, dictionary byte, trailer -/
theorem MemberAt.length {k : Nat} {inp : List Nat} {m : Member} {inp' : List Nat} (h : MemberAt k inp m inp') :
    inp'.length + 26 ≤ inp.length := by
  cases h with
  | mk hd hdec hlen hcrc hds hms =>
    simp only [List.length_drop, List.length_cons, List.length_append, Consts.LZIP_MAGIC] at *
    omega

theorem trailer_split (x : List Nat) (hb : Bytes x) (hl : 20 ≤ x.length) :
    x = le 4 (ofLe (x.take 4)) ++ le 8 (ofLe ((x.drop 4).take 8)) ++ le 8 (ofLe ((x.drop 12).take 8)) ++ x.drop 20 := by
  rw [le_ofLe 4 _ (hb.take 4) (by rw [List.length_take]; omega),
    le_ofLe 8 _ ((hb.drop 4).take 8) (by rw [List.length_take, List.length_drop]; omega),
    le_ofLe 8 _ ((hb.drop 12).take 8) (by rw [List.length_take, List.length_drop]; omega)]
  have e1 : x.drop 12 = (x.drop 4).drop 8 := by rw [List.drop_drop]
  have e2 : x.drop 20 = ((x.drop 4).drop 8).drop 8 := by rw [List.drop_drop, List.drop_drop]
  rw [e2, e1, List.append_assoc, List.append_assoc, List.take_append_drop, List.take_append_drop,
    List.take_append_drop]

theorem reassemble_cons (m : Member) (ms : List Member) :
    reassemble (m :: ms) = memberBytes m.dictByte m.lzma m.data ++ reassemble ms := by
  simp [reassemble]

/-- an accepted member's header byte is valid and its LZMA stream (followed by whatever followed it in the input)
    decoded to its data, consuming exactly the recorded stream -/
def MemberDecodes (m : Member) : Prop :=
  ∃ dict rest cap parse, Lzip.decodeDict m.dictByte = some dict ∧
    decodeRaw lzipParams (lzmaReaderDictBuf dict none 0) #[] none (m.lzma ++ rest) cap
      = .ok m.data.toArray m.lzma.length parse

/-- conversely to `MemberAt.of_memberOk`: a member the reader accepts in a byte input is laid out as the writer does it -/
theorem MemberAt.bytes {k : Nat} {inp : List Nat} {m : Member} {inp' : List Nat} (h : MemberAt k inp m inp')
    (hb : Bytes inp) : inp = memberBytes m.dictByte m.lzma m.data ++ inp' ∧ Bytes inp' ∧ MemberDecodes m := by
  cases h with
  | @mk db dict c inp3 out parse hd hdec hlen hcrc hds hms =>
    have hb3 : Bytes inp3 := fun x hx =>
      (Bytes.of_append hb).2 x (List.mem_cons_of_mem _ (List.mem_cons_of_mem _ hx))
    have hb4 : Bytes (inp3.drop c) := hb3.drop c
    have hc : c ≤ inp3.length := by rw [List.length_drop] at hlen; omega
    have hlz : (inp3.take c).length = c := by rw [List.length_take]; omega
    refine ⟨?_, hb4.drop 20, dict, inp3.drop c, k, parse, hd, ?_⟩
    · conv => lhs; rw [← List.take_append_drop c inp3, trailer_split (inp3.drop c) hb4 hlen, hcrc, hds, hms]
      simp [memberBytes, hlz]
    · simp only [List.take_append_drop, hlz, Array.toArray_toList]
      exact hdec

theorem members_accept (fuel : Nat) (first : Bool) (inp : List Nat) (total : Nat) (acc : List Nat) (n : List Member)
    (cap : Nat) (data : List Nat) (consumed : Nat) (recs : List Member) (hb : Bytes inp)
    (h : members fuel first inp total acc n cap = .ok data consumed recs) :
    ∃ new tail, recs = new ++ n ∧ data = acc ++ (new.reverse.map (·.data)).flatten ∧
      inp = reassemble new.reverse ++ tail ∧ tail.take 4 ≠ Consts.LZIP_MAGIC ∧ TrailingOk tail ∧
      consumed = total - (tail.drop 4).length ∧ (first = true → new = [] → inp = []) ∧
      ∀ m ∈ new, MemberDecodes m := by
  induction fuel generalizing first inp acc n with
  | zero => cases h
  | succ fuel ih =>
    rcases members_cases fuel fuel first inp total acc n cap with ⟨hmag, htl, hfirst, e, _⟩ | ⟨m, inp', hm⟩ | ⟨_, hno, _⟩
    · cases e.symm.trans h
      exact ⟨[], inp, rfl, by simp, by simp [reassemble], hmag, htl, rfl, fun hf _ => hfirst hf, by simp⟩
    · obtain ⟨hin, hb', hdec⟩ := hm.bytes hb
      obtain ⟨new, tail, hr, hdat, hin', htl, htl2, hcons, _, hdecs⟩ :=
        ih false inp' (acc ++ m.data) (m :: n) hb' ((hm.loop fuel first total n).symm.trans h)
      refine ⟨new ++ [m], tail, by rw [hr]; simp, by rw [hdat]; simp, ?_, htl, htl2, hcons,
        fun _ hnew => absurd hnew (by simp), fun x hx => ?_⟩
      · rw [List.reverse_append, List.reverse_singleton, List.singleton_append, reassemble_cons, List.append_assoc,
          ← hin', ← hin]
      · rcases List.mem_append.1 hx with hx | hx
        · exact hdecs x hx
        · rw [List.mem_singleton.1 hx]
          exact hdec
    · exact absurd h (hno _ _ _)

/-- **C04: acceptance implies verified members.**  An accepted byte input IS the writer's layout of the recorded members
    followed by a tail without magic; `consumed` covers them plus the ≤ 4 bytes looked at; only the empty input is accepted
    without a member; every recorded stream decoded to its data. -/
theorem decode_accept (inp : List Nat) (cap : Nat) (data : List Nat) (consumed : Nat) (recs : List Member)
    (hb : Bytes inp) (h : decode inp cap = .ok data consumed recs) :
    data = (recs.reverse.map (·.data)).flatten ∧
    ∃ tail, inp = reassemble recs.reverse ++ tail ∧ tail.take 4 ≠ Consts.LZIP_MAGIC ∧
      consumed = (reassemble recs.reverse).length + min 4 tail.length ∧
      (recs = [] → inp = []) ∧ ∀ m ∈ recs, MemberDecodes m := by
  unfold decode at h
  obtain ⟨new, tail, hr, hdat, hin, htl, _, hcons, hemp, hdecs⟩ := members_accept _ _ _ _ _ _ _ _ _ _ hb h
  rw [List.append_nil] at hr
  subst hr
  refine ⟨by simpa using hdat, tail, hin, htl, ?_, hemp rfl, hdecs⟩
  rw [hcons]
  conv => lhs; rw [hin]
  rw [List.length_append, List.length_drop]
  omega

theorem decode_accept_trailing (inp : List Nat) (cap : Nat) (data : List Nat) (consumed : Nat) (recs : List Member)
    (hb : Bytes inp) (h : decode inp cap = .ok data consumed recs) :
    ∃ tail, inp = reassemble recs.reverse ++ tail ∧ tail.take 4 ≠ Consts.LZIP_MAGIC ∧ TrailingOk tail := by
  unfold decode at h
  obtain ⟨new, tail, hr, _, hin, htl, htl2, _⟩ := members_accept _ _ _ _ _ _ _ _ _ _ hb h
  rw [List.append_nil] at hr
  subst hr
  exact ⟨tail, hin, htl, htl2⟩

theorem reassemble_append (a b : List Member) : reassemble (a ++ b) = reassemble a ++ reassemble b := by
  simp [reassemble]

/-- the trailer check spelled out: every accepted member sits in the input as header, stream, CRC-32 of the decoded
    data, decoded size and member size -/
theorem decode_accept_trailer (inp : List Nat) (cap : Nat) (data : List Nat) (consumed : Nat) (recs : List Member)
    (hb : Bytes inp) (h : decode inp cap = .ok data consumed recs) (m : Member) (hm : m ∈ recs) :
    ∃ pre post, inp = pre ++ (Consts.LZIP_MAGIC ++ [Consts.LZIP_VERSION, m.dictByte] ++ m.lzma ++
      le 4 (crc32 m.data) ++ le 8 m.data.length ++ le 8 (6 + m.lzma.length + 20)) ++ post := by
  obtain ⟨_, tail, hin, _⟩ := decode_accept inp cap data consumed recs hb h
  obtain ⟨s, t, hst⟩ := List.append_of_mem (List.mem_reverse.2 hm)
  refine ⟨reassemble s, reassemble t ++ tail, ?_⟩
  rw [hin, hst, reassemble_append, reassemble_cons]
  simp [memberBytes]

section NonVacuity

/-- raw LZMA stream (lc=3, lp=0, pb=2, with end marker) of the two bytes "Hi", produced by liblzma -/
def exLzma : List Nat := [0, 36, 26, 92, 255, 255, 255, 255, 240, 0, 0, 0]
def exFile : List Nat := memberBytes 12 exLzma [72, 105] ++ memberBytes 12 exLzma [72, 105] ++ [1, 2, 3]

theorem exMember_ok_of (h : PayloadOk 4096 exLzma [72, 105]) : MemberOk (12, exLzma, [72, 105]) :=
  ⟨4096, by decide, h, by unfold Bytes; decide, by simp, by simp [exLzma]⟩

/-- every hypothesis of `lzip_roundtrip` other than the codec's `PayloadOk` is met by a concrete two-member file with
    trailing garbage, and the conclusion is the concrete expected result (`PayloadOk` itself: `exLzma_payloadOk` in
    `Proofs/TruncLzip.lean`) -/
theorem exFile_decodes_of (h : PayloadOk 4096 exLzma [72, 105]) :
    ∃ recs, decode exFile 4 = .ok [72, 105, 72, 105] 79 recs := by
  have := lzip_roundtrip [(12, exLzma, [72, 105]), (12, exLzma, [72, 105])] (by simp)
    (by
      intro m hmem
      simp only [List.mem_cons, List.not_mem_nil, or_false, or_self] at hmem
      subst hmem
      obtain ⟨dict, hd, hp, hb, hl⟩ := exMember_ok_of h
      exact ⟨dict, hd, hp, by unfold Bytes exLzma; decide, hb, hl⟩)
    [1, 2, 3] (by decide) (by decide) 4 (by simp)
  simpa [exFile, memberBytes, exLzma, le, Consts.LZIP_MAGIC] using this

example (h : PayloadOk 4096 exLzma [72, 105]) :
    ∃ recs, decode exFile 4 = .ok [72, 105, 72, 105] 79 recs :=
  exFile_decodes_of h

example : decode [76, 90, 73, 80, 0, 12, 0] 0 = .err .invalidData := decode_bad_version 0 [12, 0] 0 (by decide)
example : decode [76, 90, 73, 80, 1, 11, 0] 0 = .err .invalidData := decode_bad_dict 11 [0] 0 (by decide)
example : decode [31, 139, 8] 0 = .err .invalidData := decode_not_lzip _ _ (by simp) (by decide)

end NonVacuity

#print axioms members_prefix
#print axioms lzip_roundtrip_recs
#print axioms lzip_roundtrip
#print axioms decode_not_lzip
#print axioms decode_empty
#print axioms decode_bad_version
#print axioms decode_bad_dict
#print axioms decode_truncated_header
#print axioms decode_short_header
#print axioms decode_later_bad_version
#print axioms decode_later_bad_dict
#print axioms decode_later_truncated_header
#print axioms members_accept
#print axioms decode_accept
#print axioms decode_accept_trailing
#print axioms lzip_roundtrip_recs_nil
#print axioms members_magic_fragment
#print axioms decode_accept_trailer

end LzmaVerif.LzipFile
