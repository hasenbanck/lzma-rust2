/-
  Normal encoder: one run of `get_next_symbol`'s optimiser path (`nextCore`) and the outer symbol loop.  The early exits
  of `nextCore` are valid unconditionally; the remaining branch is `optimise`.  The probabilities, price tables and the
  contents of `opts[]` are universally quantified in `nextCore_ok` and `loop_valid`.
-/
import LzmaVerif.Proofs.EncNormalOpt

namespace LzmaVerif.EncNormal
open LzmaVerif Mf Lzma Rc EncFast EncPrices
open LzmaVerif.Mf.Hc4 (Eqs)
open LzmaVerif.Lzma2W (histOf)

theorem nextCore_ok {σ : Type} {F : Finder σ} {d : Array UInt8} {dict : Nat}
    (FS : FinderSound F d dict 273) (hFinc : ∀ s, FS.R s → lensIncreasing (F.find d s).1 = true)
    (P : NormalParams) (hP : P.ok) (pr : Params) (nice : Nat) (hn2 : 2 ≤ nice) (hn273 : nice ≤ 273) (hopts : nice ≤ P.opts)
    (ps : Probs) (pt : PriceSt) {p : Nat} (c : Coder) {opts : Opts} {mf : σ} {ms : List Match}
    (hp : p < d.size) (hos : opts.size = P.opts) (hR : FS.R mf) (hpos : FS.pos mf = p + 1)
    (hms : AllValid d dict p ms) (hinc : lensIncreasing ms = true) :
    StepOk FS P.opts p c (nextCore F { P := P, pr := pr, nice := nice, d := d, ps := ps, pt := pt } p c opts mf ms) := by
  have ⟨hmin, hmax, hreps, hopts2, _⟩ := hP
  have h1 : ∀ (s : Sym) (o : Opts) (q : PriceSt), o.size = P.opts → SymAt d dict p c s 1 →
      StepOk FS P.opts p c ⟨[(s, 1)], o, q, mf, ms, 0⟩ :=
    fun s o q ho hs => ⟨Nat.le_refl 1, ⟨Nat.le_refl 1, hp, hs, trivial⟩, ho, hR, hpos, Or.inl rfl⟩
  have hk : ∀ (s : Sym) (len : Nat), 2 ≤ len → p + len ≤ d.size → SymAt d dict p c s len →
      StepOk FS P.opts p c ⟨[(s, len)], opts, pt, F.skip d (len - 1) mf, ms, 0⟩ := by
    intro s len h2 hle hs
    have hl1 : 1 ≤ len := Nat.le_of_succ_le h2
    refine ⟨hl1, ⟨hl1, hle, hs, trivial⟩, hos, FS.skip_R _ _ hR, ?_, Or.inl rfl⟩
    rw [FS.skip_pos _ _ hR, hpos, Nat.add_assoc, Nat.add_sub_cancel' hl1]
    rfl
  unfold nextCore
  simp only [hmin, hmax]
  by_cases hav : min (d.size - p) 273 < 2
  · rw [if_pos hav]
    exact h1 _ _ _ hos (Or.inl ⟨rfl, rfl⟩)
  · rw [if_neg hav]
    have hlens := repLens_ok P hmin hreps d p (min (d.size - p) 273) c
    generalize repLens P d p (min (d.size - p) 273) c = lens at hlens
    have hbest := hlens.2 _ (repBest_lt lens hlens.1)
    by_cases hnice : lens.getD (repBest lens) 0 ≥ nice
    · rw [if_pos hnice]
      rcases hbest with h0 | hok
      · omega
      · have hl := hok.2.2.1
        exact hk _ _ hok.2.1 (by omega) (Or.inr (Or.inr (Or.inl ⟨_, rfl, hok⟩)))
    · rw [if_neg hnice]
      by_cases hm : ms ≠ [] ∧ mainLenOf ms ≥ nice
      · rw [if_pos hm]
        have hv := hms _ (lastMatch_mem ms hm.1)
        rw [mainLenOf_ne ms hm.1]
        exact hk _ _ hv.1 hv.2.2.1 (Or.inr (Or.inr (Or.inr ⟨_, rfl, hv⟩)))
      · rw [if_neg hm]
        split
        · exact h1 _ _ _ hos (Or.inl ⟨rfl, rfl⟩)
        · obtain ⟨hc1, hsz⟩ :=
            initOpt1_ok { P := P, pr := pr, nice := nice, d := d, ps := ps, pt := pt } p c opts (by omega)
          rw [hos] at hsz
          generalize initOpt1 { P := P, pr := pr, nice := nice, d := d, ps := ps, pt := pt } p c opts = opts1
            at hc1 hsz ⊢
          split
          · obtain ⟨_, _, hb, _⟩ := hc1
            rcases hb with hb | ⟨hb, hbyte⟩
            · exact h1 _ _ _ hsz (Or.inl ⟨hb ▸ symOf_lit P d p 1, rfl⟩)
            · exact h1 _ _ _ hsz (Or.inr (Or.inl ⟨hb ▸ symOf_short P hreps d p, rfl, hbyte⟩))
          · next hoe =>
            -- `opt_end` is the longest candidate from position 0: inside the data, and below `nice_len` because no
            -- early exit was taken
            have hml : mainLenOf ms ≤ d.size - p ∧ mainLenOf ms < nice := by
              by_cases hne : ms = []
              · subst hne
                exact ⟨Nat.zero_le _, Nat.lt_of_lt_of_le Nat.zero_lt_two hn2⟩
              · have hv := hms _ (lastMatch_mem ms hne)
                rw [mainLenOf_ne ms hne]
                exact ⟨Nat.le_trans hv.2.1 (Nat.min_le_right _ _), Nat.lt_of_not_le fun h => hm ⟨hne, mainLenOf_ne ms hne ▸ h⟩⟩
            have hbl : lens.getD (repBest lens) 0 ≤ d.size - p := by
              rcases hbest with h0 | ⟨_, _, hl, _⟩
              · rw [h0]; exact Nat.zero_le _
              · exact Nat.le_trans hl (Nat.min_le_left _ _)
            exact optimise_ok { P := P, pr := pr, nice := nice, d := d, ps := ps, pt := pt } FS hFinc hP hn2 hn273
              hopts _ hp hsz hR hpos hms hinc hlens (Nat.le_of_not_lt hoe) (Nat.max_le.mpr ⟨hml.1, hbl⟩)
              (Nat.max_lt.mpr ⟨hml.2, Nat.lt_of_not_le hnice⟩) hc1

/-- the symbols emitted so far (`acc`, newest first) lead `parseRun` from `(c0, h0)` to the present coder state and the
    first `p` bytes; every step appends its chain -/
theorem loop_valid {σ : Type} {F : Finder σ} {d : Array UInt8} {dict : Nat}
    (FS : FinderSound F d dict 273) (hFinc : ∀ s, FS.R s → lensIncreasing (F.find d s).1 = true) (P : NormalParams)
    (hP : P.ok) (pr : Params) (nice dictBuf : Nat) (hn2 : 2 ≤ nice) (hn273 : nice ≤ 273) (hopts : nice ≤ P.opts)
    (hdb : min dict d.size ≤ dictBuf) (h32 : dict ≤ 2 ^ 32) (c0 : Coder) (h0 : Hist) :
    ∀ (fuel p : Nat) (c : Coder) (ps : Probs) (pt : PriceSt) (opts : Opts) (mf : σ) (ms : List Match) (ra : Nat)
      (acc : List Sym),
      d.size - p ≤ fuel → p ≤ d.size → RepsLt c p → RepsLt c dict → opts.size = P.opts →
      FS.R mf → FS.pos mf = p + ra →
      (ra = 0 ∨ (ra = 1 ∧ (∀ m ∈ ms, ValidMatch d dict p (min 273 (d.size - p)) m) ∧ lensIncreasing ms = true)) →
      (∀ rest, parseRun dictBuf (acc.reverse ++ rest) c0 h0 = parseRun dictBuf rest c (histOf d p)) →
      ∃ c', parseRun dictBuf (loop F P pr nice d fuel p c ps pt opts mf ms ra acc) c0 h0 = some (c', histOf d d.size)
  | 0, p, c, ps, pt, opts, mf, ms, ra, acc, hf, hple, _, _, _, _, _, _, hacc => by
    exact ⟨c, Nat.le_antisymm hple (Nat.le_of_sub_eq_zero (Nat.le_zero.mp hf)) ▸ parseRun_of_cont hacc⟩
  | fuel + 1, p, c, ps, pt, opts, mf, ms, ra, acc, hf, hple, hrp, hrd, hos, hR, hpos, hra, hacc => by
    rw [loop]
    by_cases hp : p < d.size
    · rw [if_pos hp]
      simp only
      generalize hfm : (if ra = 0 then F.find d mf else (ms, mf)) = fm
      have hfm' : FS.R fm.2 ∧ FS.pos fm.2 = p + 1 ∧ (∀ m ∈ fm.1, ValidMatch d dict p (min 273 (d.size - p)) m) ∧
          lensIncreasing fm.1 = true := by
        subst hfm
        rcases hra with rfl | ⟨rfl, hms, hinc⟩
        · obtain ⟨hR', hpos', hv⟩ := FS.find_at hR hpos
          exact ⟨hR', hpos', hv, hFinc _ hR⟩
        · exact ⟨hR, hpos, hms, hinc⟩
      obtain ⟨hR1, hpos1, hms1, hinc1⟩ := hfm'
      have hs := nextCore_ok FS hFinc P hP pr nice hn2 hn273 hopts ps pt c hp hos hR1 hpos1 hms1 hinc1
      generalize nextCore F { P := P, pr := pr, nice := nice, d := d, ps := ps, pt := pt } p c opts fm.2 fm.1 = st at hs
      obtain ⟨hprog, hchain, hsz, hmR, hmPos, hmRa⟩ := hs
      obtain ⟨ps', pt', he⟩ := encodeSyms_eq pr d st.syms p c ps st.pt
      obtain ⟨hrun, hrp1, hrd1, hq1⟩ := chain_run dictBuf hdb h32 st.syms p c hchain hrp hrd hple
      rw [he acc]
      refine loop_valid FS hFinc P hP pr nice dictBuf hn2 hn273 hopts hdb h32 c0 h0 fuel (p + chainLen st.syms) _ _ _ st.opts st.mf
        st.ms st.ra _ (fuel_step hf hprog) hq1 hrp1 hrd1 hsz hmR hmPos hmRa fun rest => ?_
      rw [List.reverse_append, List.reverse_reverse, List.append_assoc, hacc, hrun]
    · rw [if_neg hp]
      exact ⟨c, Nat.le_antisymm hple (Nat.not_lt.mp hp) ▸ parseRun_of_cont hacc⟩

/-- of `OPTS` only `nice_len ≤ OPTS` is needed: the optimiser starts with `opt_end < nice_len`, and later candidates are cut
    to `OPTS - 1 - opt_cur` -/
theorem normalParse_valid {σ : Type} {F : Finder σ} {d : Array UInt8} {dict : Nat}
    (FS : FinderSound F d dict 273) (hFinc : ∀ s, FS.R s → lensIncreasing (F.find d s).1 = true) (P : NormalParams)
    (hP : P.ok) (pr : Params) (dictOpt nice dictBuf : Nat) (hn2 : 2 ≤ nice) (hn273 : nice ≤ 273) (hopts : nice ≤ P.opts)
    (hd1 : 1 ≤ dict) (hdb : min dict d.size ≤ dictBuf) (h32 : dict ≤ 2 ^ 32) :
    ∃ c' h', parseRun dictBuf (normalParse F P pr dictOpt nice d) Coder.init (#[] : Hist) = some (c', h') ∧
      h' = d.map (fun b => b.toNat) := by
  unfold normalParse
  split
  · next h0 =>
    exact ⟨Coder.init, #[], rfl, (h0 ▸ histOf_full d : histOf d 0 = _)⟩
  · next h0 =>
    obtain ⟨c', hp⟩ := loop_valid FS hFinc P hP pr nice dictBuf hn2 hn273 hopts hdb h32
      Coder.init #[] d.size 1
      (Coder.init.apply (.lit (byteAt d 0))) _ _ (Array.replicate P.opts {}) (F.skip d 1 F.init) [] 0 [.lit (byteAt d 0)]
      (by omega) (by omega)
      (RepsLt.init_lit _ 1 (Nat.le_refl 1)) (RepsLt.init_lit _ dict hd1) Array.size_replicate
      (FS.skip_R _ _ FS.init_R) (by rw [FS.skip_pos _ _ FS.init_R, FS.init_pos]) (Or.inl rfl)
      (fun rest => parseRun_lit dictBuf _ rest _ _ (byteAt_lt d 0))
    exact ⟨c', _, hp, histOf_full d⟩

end LzmaVerif.EncNormal
