/-
  Normal encoder: `optimise` (the part of `get_next_symbol` from `update_prices()` to `convert_opts()`) is `StepOk`.
-/
import LzmaVerif.Proofs.EncNormalMain
import LzmaVerif.Proofs.EncNormalConv

namespace LzmaVerif.EncNormal
open LzmaVerif Mf Lzma Rc EncFast EncPrices
open LzmaVerif.Mf.Hc4 (Eqs)

/-- the array the optimiser starts from: `opts[0].c = c`, `opts[1]` as `initOpt1` left it, `opts[2 ..= opt_end]` reset -/
theorem initial_thr {P : NormalParams} (hmin : P.matchLenMin = 2) (hreps : P.reps = 4) {d : Array UInt8} {dict p : Nat}
    {c : Coder} {opts : Opts} {avail0 optEnd : Nat} (hp : p < d.size) (hos : opts.size = P.opts) (hoe : optEnd ≤ avail0)
    (hav1 : avail0 < P.opts) (h2 : 2 ≤ optEnd) (hc1 : Cand1 d p c (oat opts 1)) :
    Thr P d dict p c avail0 0 1 c optEnd
      { opts := resetFrom P (optEnd + 1 - P.matchLenMin) (P.matchLenMin - 1) (opts.modify 0 fun o => { o with c := c }),
        optEnd := optEnd } := by
  obtain ⟨ho0, hp1, hb, hpr⟩ := hc1
  have hc0 : (oat (opts.modify 0 fun o => { o with c := c }) 0).c = c := by rw [oat_modify_self _ _ _ (by omega)]
  have ho1 : oat (opts.modify 0 fun o => { o with c := c }) 1 = oat opts 1 := oat_modify_ne _ _ _ _ (by omega)
  have h1 : Thr P d dict p c avail0 0 1 c 1 { opts := opts.modify 0 fun o => { o with c := c }, optEnd := 1 } := by
    refine ⟨⟨by rw [Array.size_modify]; exact hos, by show 1 ≤ avail0; omega, hc0, fun i h1 hi => by omega,
      fun i hi hie => ?_, fun i h1 hi1 hie => ?_⟩, hc0, Nat.le_refl _, Nat.zero_le _, Nat.le_refl _⟩
    · obtain rfl : i = 1 := Nat.le_antisymm hie hi
      refine Or.inr (FromCur.candOk (fromCur_set1 (cur := 0) (len := 1) (by rw [ho1]; exact hp1) (by rw [ho1]; exact ho0) ?_))
      rw [hc0, ho1]
      rcases hb with hb | ⟨hb, hbyte⟩
      · rw [hb]; exact oneOk_lit P d dict (p + 0) c hp
      · rw [hb]; exact oneOk_short P hreps d dict (p + 0) c hp hbyte
    · obtain rfl : i = 1 := Nat.le_antisymm hi1 h1
      show (oat _ 1).price ≤ 1152 * 1
      rw [ho1]
      omega
  have h2' := h1.extend hav1 optEnd hoe
  unfold OA.extend at h2'
  rw [if_pos (by show 1 < optEnd; omega)] at h2'
  rw [hmin, show optEnd + 1 - 2 = optEnd - 1 by omega]
  exact ⟨h2'.1, h2'.2.1, Nat.le_refl optEnd, h2'.2.2.2⟩

theorem loopOut_stepOk {σ : Type} {F : Finder σ} {d : Array UInt8} {dict : Nat} {FS : FinderSound F d dict 273}
    {P : NormalParams} {p : Nat} {c : Coder} {avail0 : Nat} (hav1 : avail0 < P.opts)
    {r : Nat × LoopSt σ × Bool} (h : LoopOut FS P p c avail0 r) (pt : PriceSt) :
    StepOk FS P.opts p c ⟨pending P d p (convertOpts P r.2.1.a.opts r.1) r.1 P.opts 0, convertOpts P r.2.1.a.opts r.1, pt,
      r.2.1.mf, r.2.1.ms, if r.2.2 then 1 else 0⟩ := by
  obtain ⟨hr1, hrle, ⟨b, hrinv⟩, hrcand, hrR, hrpos, hrms⟩ := h
  have hshape : ∀ i, 1 ≤ i → i ≤ r.1 → Shape (oat r.2.1.a.opts i) i := by
    intro i h1 hi
    by_cases hir : i = r.1
    · subst hir; exact hrcand.1
    · exact (hrinv.fin i h1 (by omega)).1.1
  obtain ⟨hpend, hcsize⟩ :=
    convertOpts_spec P d p r.2.1.a.opts r.1 hrinv.size hr1 (Nat.lt_of_le_of_lt hrle hav1) hshape
  have hchain := chainOf_last hrinv r.1 (r.1 - 1) hr1 (by omega) hrcand
  rw [Nat.sub_add_cancel hr1] at hchain
  refine ⟨?_, ?_, ?_, hrR, ?_, ?_⟩
  · rw [hpend, hchain.2]; exact hr1
  · rw [hpend]; exact hchain.1
  · rw [hcsize]; exact hrinv.size
  · rw [hpend, hchain.2]; exact hrpos
  · rw [hpend, hchain.2]
    cases hb : r.2.2
    · exact Or.inl rfl
    · exact Or.inr ⟨rfl, hrms hb⟩

/-- Of `opt_end` the optimiser needs that it is at least `MATCH_LEN_MIN`, inside the data and below `nice_len` (hence
    below `OPTS`); of `main_len` nothing: it only bounds the first match loop. -/
theorem optimise_ok {σ : Type} {F : Finder σ} (E : Env) {dict : Nat} (FS : FinderSound F E.d dict 273)
    (hFinc : ∀ s, FS.R s → lensIncreasing (F.find E.d s).1 = true)
    (hP : E.P.ok) (hn2 : 2 ≤ E.nice) (hn273 : E.nice ≤ 273) (hopts : E.nice ≤ E.P.opts)
    {p : Nat} {c : Coder} {opts : Opts} {mf : σ} {ms : List Match} {lens : List Nat} (mainLen : Nat) {optEnd : Nat}
    (hp : p < E.d.size) (hos : opts.size = E.P.opts) (hR : FS.R mf) (hpos : FS.pos mf = p + 1)
    (hms : AllValid E.d dict p ms) (hmsinc : lensIncreasing ms = true)
    (hlens : LensOk E.d p (min (E.d.size - p) 273) c lens)
    (h2 : 2 ≤ optEnd) (hoed : optEnd ≤ E.d.size - p) (hoen : optEnd < E.nice) (hc1 : Cand1 E.d p c (oat opts 1)) :
    StepOk FS E.P.opts p c (optimise F E p c opts mf ms lens mainLen optEnd) := by
  have hreps : E.P.reps = 4 := hP.2.2.1
  unfold optimise
  extract_lets P' d' posState anyMatch anyRep pt' E' opts0 optsR a0 a1 len nmp a2 avail0 r cur st optsC
  have havd : avail0 = min (E.d.size - p) (E.P.opts - 1) := rfl
  have hopts2 := hP.2.2.2.1
  have hav0 : p + avail0 ≤ E.d.size := by omega
  have hav1 : avail0 < E.P.opts := by omega
  have hthr0 : Thr E.P E.d dict p c avail0 0 1 c optEnd a0 := initial_thr hP.1 hreps hp hos (by omega) hav1 h2 hc1
  have hthr1 : Thr E.P E.d dict p c avail0 0 1 c optEnd a1 :=
    firstRepPrices_thr E' hP.1 hreps hthr0 c _ _ lens hlens
  have hthr2 : Thr E.P E.d dict p c avail0 0 1 c optEnd a2 := by
    simp only [a2]
    split
    · exact firstMatchLoop_thr E' hreps _ _ _ len _ a1 hthr1 ((MsFrom.ofIncreasing ms hms hmsinc).dropShort _ _ len)
        (Nat.le_trans (Nat.le_of_eq hP.1.symm) (Nat.le_max_right _ _))
    · exact hthr1
  exact loopOut_stepOk hav1 (mainLoop_ok (F := F) E' (dict := dict) FS hFinc hP hn2 hn273 p c
    avail0 hav0 hav1 E.P.opts 0 { a := a2, mf := mf, ms := ms } hthr2.1 (Nat.lt_of_lt_of_le (by omega) hthr2.2.2.1) hR
    (by rw [hpos]) (by omega)) pt'

end LzmaVerif.EncNormal
