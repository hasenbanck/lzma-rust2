import LzmaVerif.Proofs.MTDefs
/-
Worker steps preserve the invariant: one generic lemma `move_inv` for "worker `i` goes from `old` to
`new`, changing queue / channel / error store / shutdown flag / active counter", instantiated for
each worker program counter.
-/
namespace LzmaVerif.MT

theorem Failing_move (s : Sys) (i : Nat) (old new : WPc) (e' : Bool)
    (hold : s.ws[i]? = some old) (hF : Failing s)
    (hfail : midFail old = true → midFail new = true ∨ e' = true)
    (herr : s.errStored = true → e' = true) :
    FailingOf (s.ws.set i new) e' s.pc := by
  rcases hF with ⟨w, hw, hm⟩ | he | hp | hp
  · by_cases hwo : w = old
    · subst hwo
      rcases hfail hm with h | h
      · exact Or.inl ⟨new, mem_set_self _ _ _ _ hold, h⟩
      · exact Or.inr (Or.inl h)
    · exact Or.inl ⟨w, Lts.mem_set_of_ne _ hold hw hwo, hm⟩
  · exact Or.inr (Or.inl (herr he))
  · exact Or.inr (Or.inr (Or.inl hp))
  · exact Or.inr (Or.inr (Or.inr hp))

theorem move_inv (s : Sys) (i : Nat) (old new : WPc) (q' : List Nat) (c' : List Msg)
    (e' sh' : Bool) (a' : Nat)
    (h : Inv s) (hold : s.ws[i]? = some old)
    -- units are not duplicated …
    (hcnt : ∀ x, q'.count x + hv x new + c'.count (.result x)
              ≤ s.queue.count x + hv x old + s.chan.count (.result x))
    -- … and only a failing unit disappears
    (hcons : ∀ x, q'.count x + hv x new + c'.count (.result x)
                = s.queue.count x + hv x old + s.chan.count (.result x)
              ∨ (s.cfg.units.getD x .ok ≠ .ok ∧ midFail new = true))
    (hfail : midFail old = true → midFail new = true ∨ e' = true)
    (herr : s.errStored = true → e' = true)
    (hsend : ∀ x, new = .send x → s.cfg.units.getD x .ok = .ok)
    (hchanOk : ∀ x, .result x ∈ c' → .result x ∈ s.chan ∨ old = .send x)
    (hchanMono : ∀ m ∈ s.chan, m ∈ c')
    (hshut : s.shutdown = true → sh' = true)
    (hshutNew : sh' = true → s.shutdown = true ∨ e' = true)
    (herrNew : e' = true → s.errStored = true ∨ new = .failWake ∨ .wake ∈ c')
    (hfw : old = .failWake → .wake ∈ c')
    (hexit : new = .exited ∨ new = .failWake → sh' = true)
    (hwait : new = .waiting → s.closed = false ∧ q' = []) :
    Inv { s with queue := q', chan := c', errStored := e', shutdown := sh', active := a',
                 ws := s.ws.set i new } := by
  have hmemOld : old ∈ s.ws := List.mem_of_getElem? hold
  have hmemNew : new ∈ s.ws.set i new := mem_set_self _ _ _ _ hold
  have hsum := fun x => sumW_set (hv x) s.ws i old new hold
  have hcnt' : ∀ x, cntOf q' (s.ws.set i new) c' s.ooo x ≤ cnt s x := fun x => by
    have := hsum x; have := hcnt x
    simp only [cnt, cntOf]; omega
  exact { h with
    wsBound := Nat.le_trans (Nat.le_of_eq List.length_set) h.wsBound
    cntLe := fun x => Nat.le_trans (hcnt' x) (h.cntLe x)
    cntRange := fun x hx => h.cntRange x (Nat.lt_of_lt_of_le hx (hcnt' x))
    cons := fun x hx1 hx2 => by
      rcases h.cons x hx1 hx2 with h1 | ⟨hno, hF⟩
      · rcases hcons x with he | ⟨hno, hm⟩
        · left
          have := hsum x
          simp only [cnt, cntOf] at h1 ⊢; omega
        · exact .inr ⟨hno, .inl ⟨new, hmemNew, hm⟩⟩
      · exact .inr ⟨hno, Failing_move s i old new e' hold hF hfail herr⟩
    okSent := fun x hx => by
      rcases hx with hx | hx | hx
      · rcases List.mem_or_eq_of_mem_set hx with hx | hx
        · exact h.okSent x (.inl hx)
        · exact hsend x hx.symm
      · rcases hchanOk x hx with hx | hx
        · exact h.okSent x (.inr (.inl hx))
        · subst hx; exact h.okSent x (.inl hmemOld)
      · exact h.okSent x (.inr (.inr hx))
    shutErr := fun hs => (hshutNew hs).elim (fun h1 => (h.shutErr h1).imp_left herr) .inl
    errWake := fun he => by
      rcases herrNew he with h1 | h1 | h1
      · rcases h.errWake h1 with h2 | h2 | h2
        · exact .inl h2
        · exact .inr (.inl (hchanMono _ h2))
        · by_cases ho : old = .failWake
          · exact .inr (.inl (hfw ho))
          · exact .inr (.inr (Lts.mem_set_of_ne _ hold h2 (Ne.symm ho)))
      · subst h1; exact .inr (.inr hmemNew)
      · exact .inr (.inl h1)
    noExit := fun hs w hw => by
      have hnsh : sh' ≠ true := fun hc => nomatch hs.symm.trans hc
      rcases List.mem_or_eq_of_mem_set hw with hw | hw
      · exact h.noExit (Bool.eq_false_iff.mpr fun hc => hnsh (hshut hc)) w hw
      · subst hw
        exact ⟨fun hc => hnsh (hexit (.inl hc)), fun hc => hnsh (hexit (.inr hc))⟩
    dropShut := fun hp => hshut (h.dropShut hp)
    closedNoWait := fun hc w hw => by
      rcases List.mem_or_eq_of_mem_set hw with hw | hw
      · exact h.closedNoWait hc w hw
      · subst hw
        intro hc2
        rw [(hwait hc2).1] at hc; cases hc
    qAlive := fun _ hq => .inl ⟨new, hmemNew, fun hc => hq (hwait hc).2⟩
    emptyActive := fun hc => absurd hc (List.ne_nil_of_mem hmemNew) }

/-- `move_inv` with the side conditions a move meets when it leaves the shared data alone as defaults:
    a call names the conditions its move really has to establish -/
theorem Inv.move {s : Sys} (h : Inv s) {i : Nat} {old : WPc} (hold : s.ws[i]? = some old) (new : WPc)
    {q' : List Nat} {c' : List Msg} {e' sh' : Bool} {a' : Nat}
    (hunit : ∀ x, q'.count x + hv x new + c'.count (.result x)
          = s.queue.count x + hv x old + s.chan.count (.result x) ∨
        (s.cfg.units.getD x .ok ≠ .ok ∧ midFail new = true ∧ q'.count x + hv x new + c'.count (.result x)
          ≤ s.queue.count x + hv x old + s.chan.count (.result x)) := by exact fun _ => .inl rfl)
    (hfail : midFail old = true → midFail new = true ∨ e' = true := by nofun)
    (herr : s.errStored = true → e' = true := by exact id)
    (hsend : ∀ x, new = .send x → s.cfg.units.getD x .ok = .ok := by nofun)
    (hchanOk : ∀ x, .result x ∈ c' → .result x ∈ s.chan ∨ old = .send x := by exact fun _ => .inl)
    (hchanMono : ∀ m ∈ s.chan, m ∈ c' := by exact fun _ => id)
    (hshut : s.shutdown = true → sh' = true := by exact id)
    (hshutNew : sh' = true → s.shutdown = true ∨ e' = true := by exact .inl)
    (herrNew : e' = true → s.errStored = true ∨ new = .failWake ∨ .wake ∈ c' := by exact .inl)
    (hfw : old = .failWake → .wake ∈ c' := by nofun)
    (hexit : new = .exited ∨ new = .failWake → sh' = true := by nofun)
    (hwait : new = .waiting → s.closed = false ∧ q' = [] := by nofun) :
    Inv { s with queue := q', chan := c', errStored := e', shutdown := sh', active := a',
                 ws := s.ws.set i new } :=
  move_inv s i old new q' c' e' sh' a' h hold (fun x => (hunit x).elim Nat.le_of_eq (·.2.2))
    (fun x => (hunit x).imp_right fun hx => ⟨hx.1, hx.2.1⟩) hfail herr hsend hchanOk hchanMono hshut
    hshutNew herrNew hfw hexit hwait

theorem worker_step_inv (s s' : Sys) (i : Nat) (h : Inv s) (hs : step s (.worker i) = some s') : Inv s' := by
  simp only [step, workerStep] at hs
  split at hs
  · cases hs
  next pc hpc =>
  have hwake : ∀ x, (s.chan ++ [Msg.wake]).count (Msg.result x) = s.chan.count (.result x) := fun x => by
    rw [List.count_append, List.count_singleton]; rfl
  have hwakeOk : ∀ x, .result x ∈ s.chan ++ [.wake] → .result x ∈ s.chan ∨ pc = .send x := fun x hx =>
    .inl ((List.mem_append.mp hx).resolve_right fun hy => nomatch List.mem_singleton.mp hy)
  have hwakeIn : Msg.wake ∈ s.chan ++ [.wake] := List.mem_append_right _ (List.mem_singleton_self _)
  cases pc <;> simp only at hs
  case chkShutdown =>
    split at hs <;> cases hs
    · next hsh => exact h.move hpc .exited (hexit := fun _ => hsh)
    · exact h.move hpc .steal
  case steal =>
    split at hs
    · next seq rest hq =>
      cases hs
      exact h.move hpc (.got seq) (hunit := fun x => .inl (by
        simp only [hq, List.count_cons, beq_iff_eq, hv]; omega))
    · next hq =>
      split at hs <;> cases hs
      · next hcl => exact h.move hpc .exited (hexit := fun _ => h.dropShut (h.closedIff.mp hcl))
      · next hcl => exact h.move hpc .waiting (hwait := fun _ => ⟨Bool.eq_false_iff.mpr hcl, hq⟩)
  case waiting => cases hs
  case got seq =>
    cases hs
    exact h.move hpc (.work seq)
  case work seq =>
    split at hs <;> cases hs
    · next hok => exact h.move hpc (.send seq) (hsend := fun x hx => WPc.send.inj hx ▸ hok)
    -- a unit that fails leaves the count, and the worker is `midFail` from then on
    all_goals
      next hok =>
      refine h.move hpc _ (hunit := fun x => ?_)
      by_cases hx : seq = x
      · exact .inr ⟨hx ▸ by rw [hok]; nofun, rfl, Nat.add_le_add_right (Nat.add_le_add_left (Nat.zero_le _) _) _⟩
      · exact .inl (by simp only [hv, if_neg hx])
  case send seq =>
    cases hs
    exact h.move hpc .decr
      (hunit := fun x => .inl (by
        simp only [List.count_append, List.count_singleton, beq_iff_eq, Msg.result.injEq, hv]; omega))
      (hchanOk := fun x hx => (List.mem_append.mp hx).imp_right fun hy => by cases List.mem_singleton.mp hy; rfl)
      (hchanMono := fun _ => List.mem_append_left _)
  case decr =>
    cases hs
    exact h.move hpc .chkShutdown
  case failDecr =>
    cases hs
    exact h.move hpc .failSet (hfail := fun _ => .inl rfl)
  case failSet =>
    cases hs
    exact h.move hpc .failWake (hfail := fun _ => .inr rfl) (herr := fun _ => rfl) (hshut := fun _ => rfl)
      (hshutNew := fun _ => .inr rfl) (herrNew := fun _ => .inr (.inl rfl)) (hexit := fun _ => rfl)
  case failWake =>
    cases hs
    have hsh : s.shutdown = true := by
      cases hc : s.shutdown with
      | true => rfl
      | false => exact absurd rfl (h.noExit hc _ (List.mem_of_getElem? hpc)).2
    exact h.move hpc .exited (hunit := fun x => .inl (by rw [hwake]; rfl)) (hchanOk := hwakeOk)
      (hchanMono := fun _ => List.mem_append_left _) (hfw := fun _ => hwakeIn) (hexit := fun _ => hsh)
  case panicked =>
    cases hs
    exact h.move hpc .exited (hunit := fun x => .inl (by rw [hwake]; rfl)) (hfail := fun _ => .inr rfl)
      (herr := fun _ => rfl) (hchanOk := hwakeOk) (hchanMono := fun _ => List.mem_append_left _)
      (hshut := fun _ => rfl) (hshutNew := fun _ => .inr rfl) (herrNew := fun _ => .inr (.inr hwakeIn))
      (hexit := fun _ => rfl)
  case exited => cases hs

end LzmaVerif.MT
