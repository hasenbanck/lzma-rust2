import LzmaVerif.Model.Xz
import LzmaVerif.Proofs.BcjStream
/-! The block filters of the model preserve the length of the data (needed for the output-cap checks of the
container reader). -/
namespace LzmaVerif.Filters

theorem run_length (f : Delta → Nat → Nat × Delta) : ∀ (xs : List Nat) (d : Delta), (Delta.run f d xs).1.length = xs.length := by
  intro xs
  induction xs with
  | nil => intro d; rfl
  | cons x xs ih => intro d; simp [Delta.run, ih]

theorem oneShot_length (a : Arch) (enc : Bool) (start : Nat) (xs : List Nat) :
    (oneShot a enc start xs).length = xs.length :=
  (BcjStream.bcj_restartable a enc).len (St.init a start) xs

theorem deltaEncode_length (d : Nat) (xs : List Nat) : (deltaEncode d xs).length = xs.length := run_length _ _ _
theorem deltaDecode_length (d : Nat) (xs : List Nat) : (deltaDecode d xs).length = xs.length := run_length _ _ _

end LzmaVerif.Filters

namespace LzmaVerif.Xz
open LzmaVerif

theorem applyFilters_length : ∀ (fs : List Filter) (d : List Nat), (applyFilters fs d).length = d.length := by
  intro fs
  induction fs with
  | nil => intro d; rfl
  | cons f fs ih =>
    intro d
    cases f with
    | delta dist => simp only [applyFilters, ih, Filters.deltaEncode_length]
    | bcj a s => simp only [applyFilters, ih, Filters.oneShot_length]
    | lzma2 _ => simp only [applyFilters, ih]

theorem unfilter_length : ∀ (fs : List Filter) (d : List Nat), (unfilter fs d).length = d.length := by
  intro fs
  induction fs with
  | nil => intro d; rfl
  | cons f fs ih =>
    intro d
    cases f with
    | delta dist => simp only [unfilter, ih, Filters.deltaDecode_length]
    | bcj a s => simp only [unfilter, ih, Filters.oneShot_length]
    | lzma2 _ => simp only [unfilter, ih]

end LzmaVerif.Xz
