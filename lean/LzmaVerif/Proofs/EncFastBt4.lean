/-
  Fast encoder: the BT4 model is a sound match finder in the sense of `FinderSound`
  (invariant `Bt4.Good` of the reachable states, logical position in step, `Bt4.find_bst`).
-/
import LzmaVerif.Proofs.EncFastStep
import LzmaVerif.Proofs.Bt4BstInv

namespace LzmaVerif.EncFast
open LzmaVerif Mf Lzma

theorem bt4_skip_pos (B : Bt4.Bt4Params) (c : Bt4.Cfg) (d : Array UInt8) :
    ∀ (n : Nat) (s : Bt4.St), (Bt4.skip B c d n s).pos = s.pos + n
  | 0, s => rfl
  | n + 1, s => by
    rw [Bt4.skip, bt4_skip_pos B c d n, Bt4.skipOne_pos]; omega

def bt4Sound (B : Bt4.Bt4Params) (dict nice depth : Nat) (d : Array UInt8)
    (hA : Bt4.HypA B { dict := dict, niceLen := nice, mlmax := 273, depth := depth } d) :
    FinderSound (bt4Finder B { dict := dict, niceLen := nice, mlmax := 273, depth := depth }) d dict 273 where
  R := Bt4.Good B { dict := dict, niceLen := nice, mlmax := 273, depth := depth } d
  pos := fun s => s.pos
  init_R := Bt4.init_good hA false
  init_pos := rfl
  find_R := fun _ h => h.find hA
  find_pos := fun s _ => Bt4.find_pos ..
  find_valid := fun _ h => (Bt4.find_bst hA h.inv h.bst).2
  skip_R := fun _ n h => h.skip hA n
  skip_pos := fun s n _ => bt4_skip_pos _ _ d n s

end LzmaVerif.EncFast
