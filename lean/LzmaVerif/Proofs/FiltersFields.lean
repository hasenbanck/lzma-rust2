import LzmaVerif.Proofs.FiltersBase
import LzmaVerif.Proofs.FiltersBits
/-!
A fixed-window filter (ARM, Thumb, PowerPC, SPARC, ARM64) looks at four bytes, decides from them alone whether they
hold a branch instruction, and if so
replaces them (`winStep`): take the address field, add (encoder) or subtract (decoder) the position, put it back.
"The decoder step undoes the encoder step" comes down to `Round`, a statement about windows of bytes: what the
encoder stores is recognised again, and the decoder's output for it is the original window.  Where the filter moves
bits of the bytes about (ARM, Thumb, PowerPC) `Round` is shown on the bytes; where it assembles the window into a
32-bit word first (ARM64, SPARC: `w4`, `w4be`) it follows from a transform of words whose two directions cancel
(`ActsAs`, `Round.of_acts`).  In both cases the address field comes back by `wsub_wadd_low` or `shiftBy_inv` (adding
and subtracting the position cancel in the low bits).

A further filter of this kind: define the recognition `R` and the stored bytes `O enc st i` on four bytes and show the
loop a `scan` of `winStep R (O enc st)` (`eq_scan`); prove `Round R (O true st i) (O false st i)` at every aligned `i`,
on the bytes or by `ActsAs` for both directions and `Round.of_acts`; `winStep_stepOK` gives `StepOK`, and
`scan_inv_list` the round trip.  For the streaming side see `winStep_localStep` in `BcjStream.lean`.

Core Lean only.
-/
namespace LzmaVerif.Filters

/-- Subtracting `p` undoes adding `p` modulo a power of two `d`, even if only the sum modulo `d` was kept. -/
theorem wsub_wadd_low (d : Nat) (hd : d ∣ 2 ^ 32) (a a' p : Nat) (h : a' % d = wadd a p % d) :
    wsub a' p % d = a % d := by
  have hp : (p + (2 ^ 32 - p % 2 ^ 32)) % d = 0 := by
    have : p + (2 ^ 32 - p % 2 ^ 32) = 2 ^ 32 * (p / 2 ^ 32 + 1) := by omega
    rw [this]
    exact Nat.mod_eq_zero_of_dvd (Nat.dvd_trans hd (Nat.dvd_mul_right _ _))
  have e : a' + 2 ^ 32 - p % 2 ^ 32 = a' + (2 ^ 32 - p % 2 ^ 32) := by omega
  unfold wadd at h
  rw [Nat.mod_mod_of_dvd _ hd] at h
  unfold wsub
  rw [Nat.mod_mod_of_dvd _ hd, e, Nat.add_mod, h, ← Nat.add_mod, Nat.add_assoc, Nat.add_mod, hp,
    Nat.add_zero, Nat.mod_mod]

theorem wsub_wadd (s p : Nat) (hs : s < 2 ^ 32) : wsub (wadd s p) p = s := by
  have h := wsub_wadd_low (2 ^ 32) (Nat.dvd_refl _) s (wadd s p) p rfl
  rwa [Nat.mod_eq_of_lt (wsub_lt _ _), Nat.mod_eq_of_lt hs] at h

/-- the address `x`, in units of `s` bytes, moved by the position `p`: forwards by the encoder, back by the decoder -/
def shiftBy (s : Nat) (enc : Bool) (p x : Nat) : Nat :=
  (if enc then wadd (u32 (x * s)) p else wsub (u32 (x * s)) p) / s

theorem shiftBy_inv (s m : Nat) (hs : 0 < s) (hsm : s * m ∣ 2 ^ 32) (p : Nat) (hp : p % s = 0) (x x' : Nat)
    (h : x' % m = shiftBy s true p x % m) : shiftBy s false p x' % m = x % m := by
  rw [shiftBy, if_pos rfl] at h
  rw [shiftBy, if_neg (by decide)]
  have hs32 : s ∣ 2 ^ 32 := Nat.dvd_trans (Nat.dvd_mul_right s m) hsm
  have f1 : ∀ y, u32 (y * s) % (s * m) = y % m * s := fun y => by
    rw [u32, Nat.mod_mod_of_dvd _ hsm, Nat.mul_comm s m, Nat.mul_mod_mul_right]
  have f2 : wadd (u32 (x * s)) p % s = 0 := by
    rw [wadd, u32, Nat.mod_mod_of_dvd _ hs32, Nat.add_mod, Nat.mod_mod_of_dvd _ hs32, Nat.mul_mod_left, hp]
    exact Nat.zero_mod s
  have h1 : u32 (x' * s) % (s * m) = wadd (u32 (x * s)) p % (s * m) := by
    rw [f1, h, Nat.mod_mul, f2, Nat.zero_add, Nat.mul_comm]
  have l := wsub_wadd_low (s * m) hsm _ _ p h1
  rw [f1] at l
  rw [← Nat.mod_mul_right_div_self, l, Nat.mul_div_cancel _ hs]

theorem or_fields (a b c d k1 k2 k3 : Nat) (h21 : k2 ≤ k1) (h32 : k3 ≤ k2)
    (hb : b * 2 ^ k2 < 2 ^ k1) (hc : c * 2 ^ k3 < 2 ^ k2) (hd : d < 2 ^ k3) :
    (a <<< k1) ||| (b <<< k2) ||| (c <<< k3) ||| d = a * 2 ^ k1 + b * 2 ^ k2 + c * 2 ^ k3 + d := by
  have d2 : 2 ^ k2 ∣ a * 2 ^ k1 + b * 2 ^ k2 :=
    Nat.dvd_add (Nat.dvd_trans (Nat.pow_dvd_pow 2 h21) (Nat.dvd_mul_left _ _)) (Nat.dvd_mul_left _ _)
  have d3 : 2 ^ k3 ∣ a * 2 ^ k1 + b * 2 ^ k2 + c * 2 ^ k3 :=
    Nat.dvd_add (Nat.dvd_trans (Nat.pow_dvd_pow 2 h32) d2) (Nat.dvd_mul_left _ _)
  rw [Bits.shl_eq, Bits.shl_eq, Bits.shl_eq, Bits.or_disj _ _ k1 (Nat.mul_mod_left _ _) hb,
    Bits.or_disj _ _ k2 (Nat.mod_eq_zero_of_dvd d2) hc, Bits.or_disj _ _ k3 (Nat.mod_eq_zero_of_dvd d3) hd]

theorem posAt_aligned (st : St) (i m : Nat) (hm : m ∣ 2 ^ 32) (hp : st.pos % m = 0) (hi : i % m = 0) :
    posAt st i % m = 0 := by
  rw [posAt, u32, Nat.mod_mod_of_dvd _ hm, Nat.add_mod, hp, hi]
  exact Nat.zero_mod m

theorem sb_comm (b : Buf) {i j : Nat} (v w : Nat) (h : i ≠ j) : sb (sb b i v) j w = sb (sb b j w) i v :=
  Array.setIfInBounds_comm _ _ h

def put4 (b : Buf) (i : Nat) (c : Nat × Nat × Nat × Nat) : Buf :=
  sb (sb (sb (sb b i c.1) (i + 1) c.2.1) (i + 2) c.2.2.1) (i + 3) c.2.2.2

theorem put4_size (b : Buf) (i : Nat) (c : Nat × Nat × Nat × Nat) : (put4 b i c).size = b.size := by
  simp only [put4, size_sb]

theorem put4_frame (b : Buf) (i : Nat) (c : Nat × Nat × Nat × Nat) (k : Nat) (hk : k < i ∨ i + 4 ≤ k) :
    gb (put4 b i c) k = gb b k := by
  unfold put4
  rw [gb_sb_ne _ _ _ _ (by omega), gb_sb_ne _ _ _ _ (by omega), gb_sb_ne _ _ _ _ (by omega),
    gb_sb_ne _ _ _ _ (by omega)]

theorem put4_bytes (b : Buf) (i : Nat) (c : Nat × Nat × Nat × Nat) (h : BBytes b) : BBytes (put4 b i c) :=
  BBytes_sb _ _ _ (BBytes_sb _ _ _ (BBytes_sb _ _ _ (BBytes_sb _ _ _ h)))

theorem Agree.put4 {i w : Nat} {b b' : Buf} (h : Agree i w b b') (j : Nat) (c : Nat × Nat × Nat × Nat) :
    Agree i w (put4 b j c) (put4 b' j c) :=
  (((h.sb _ _).sb _ _).sb _ _).sb _ _

theorem put4_get (b : Buf) (i : Nat) (c : Nat × Nat × Nat × Nat) (hw : i + 4 ≤ b.size) :
    gb (put4 b i c) i = c.1 % 256 ∧ gb (put4 b i c) (i + 1) = c.2.1 % 256 ∧
    gb (put4 b i c) (i + 2) = c.2.2.1 % 256 ∧ gb (put4 b i c) (i + 3) = c.2.2.2 % 256 := by
  unfold put4
  refine ⟨?_, ?_, ?_, ?_⟩
  · rw [gb_sb_ne _ _ _ _ (by omega), gb_sb_ne _ _ _ _ (by omega), gb_sb_ne _ _ _ _ (by omega),
      gb_sb_eq _ _ _ (by omega)]
  · rw [gb_sb_ne _ _ _ _ (by omega), gb_sb_ne _ _ _ _ (by omega),
      gb_sb_eq _ _ _ (by rw [size_sb]; omega)]
  · rw [gb_sb_ne _ _ _ _ (by omega), gb_sb_eq _ _ _ (by rw [size_sb, size_sb]; omega)]
  · rw [gb_sb_eq _ _ _ (by rw [size_sb, size_sb, size_sb]; omega)]

theorem put4_put4_back (b : Buf) (i : Nat) (c d : Nat × Nat × Nat × Nat) (hw : i + 4 ≤ b.size) {E : Buf}
    (hE : put4 b i c = E)
    (h : d.1 % 256 = gb b i ∧ d.2.1 % 256 = gb b (i + 1) ∧ d.2.2.1 % 256 = gb b (i + 2) ∧ d.2.2.2 % 256 = gb b (i + 3)) :
    put4 E i d = b := by
  subst hE
  obtain ⟨e0, e1, e2, e3⟩ := put4_get (put4 b i c) i d (by rw [put4_size]; exact hw)
  apply buf_ext _ _ (by rw [put4_size, put4_size])
  intro k _
  by_cases hk : k < i ∨ i + 4 ≤ k
  · rw [put4_frame _ _ _ _ hk, put4_frame _ _ _ _ hk]
  · have : k = i ∨ k = i + 1 ∨ k = i + 2 ∨ k = i + 3 := by omega
    rcases this with rfl | rfl | rfl | rfl
    · rw [e0, h.1]
    · rw [e1, h.2.1]
    · rw [e2, h.2.2.1]
    · rw [e3, h.2.2.2]

/-- If the four bytes at `i` are recognised (`R`) they are replaced by `O` of them (and of `i`, for the position). -/
def winStep (R : Nat → Nat → Nat → Nat → Prop) [∀ b0 b1 b2 b3, Decidable (R b0 b1 b2 b3)]
    (O : Nat → Nat → Nat → Nat → Nat → Nat × Nat × Nat × Nat) (i : Nat) (b : Buf) : Buf :=
  if R (gb b i) (gb b (i + 1)) (gb b (i + 2)) (gb b (i + 3)) then
    put4 b i (O i (gb b i) (gb b (i + 1)) (gb b (i + 2)) (gb b (i + 3)))
  else b

section
variable {R : Nat → Nat → Nat → Nat → Prop} [∀ b0 b1 b2 b3, Decidable (R b0 b1 b2 b3)]
  {O : Nat → Nat → Nat → Nat → Nat → Nat × Nat × Nat × Nat}

theorem winStep_pos (i : Nat) (b : Buf) (h : R (gb b i) (gb b (i + 1)) (gb b (i + 2)) (gb b (i + 3))) :
    winStep R O i b = put4 b i (O i (gb b i) (gb b (i + 1)) (gb b (i + 2)) (gb b (i + 3))) :=
  if_pos h

theorem winStep_neg (i : Nat) (b : Buf) (h : ¬ R (gb b i) (gb b (i + 1)) (gb b (i + 2)) (gb b (i + 3))) :
    winStep R O i b = b :=
  if_neg h

theorem winStep_size (i : Nat) (b : Buf) : (winStep R O i b).size = b.size := by
  unfold winStep
  split
  · exact put4_size _ _ _
  · rfl

theorem winStep_frame (i : Nat) (b : Buf) (k : Nat) (hk : k < i ∨ i + 4 ≤ k) :
    gb (winStep R O i b) k = gb b k := by
  unfold winStep
  split
  · exact put4_frame _ _ _ _ hk
  · rfl

theorem winStep_bytes (i : Nat) (b : Buf) (h : BBytes b) : BBytes (winStep R O i b) := by
  unfold winStep
  split
  · exact put4_bytes _ _ _ h
  · exact h

theorem winStep_agree (i : Nat) (b b' : Buf) (h : Agree i 4 b b') :
    Agree i 4 (winStep R O i b) (winStep R O i b') := by
  unfold winStep
  rw [h.2 i (by omega) (by omega), h.2 (i + 1) (by omega) (by omega), h.2 (i + 2) (by omega) (by omega),
    h.2 (i + 3) (by omega) (by omega)]
  split
  · exact h.put4 _ _
  · exact h

end

def w4 (b0 b1 b2 b3 : Nat) : Nat := b0 + 256 * b1 + 65536 * b2 + 16777216 * b3

/-- a byte order: `wd` reads four bytes as a 32-bit word, and no two windows of bytes as the same -/
structure WinWord (wd : Nat → Nat → Nat → Nat → Nat) : Prop where
  lt : ∀ b0 b1 b2 b3, b0 < 256 → b1 < 256 → b2 < 256 → b3 < 256 → wd b0 b1 b2 b3 < 2 ^ 32
  inj : ∀ a0 a1 a2 a3 b0 b1 b2 b3, a0 < 256 → a1 < 256 → a2 < 256 → a3 < 256 →
    b0 < 256 → b1 < 256 → b2 < 256 → b3 < 256 → wd a0 a1 a2 a3 = wd b0 b1 b2 b3 →
    a0 = b0 ∧ a1 = b1 ∧ a2 = b2 ∧ a3 = b3

theorem w4_le : WinWord w4 where
  lt := fun b0 b1 b2 b3 _ _ _ _ => by unfold w4; omega
  inj := fun a0 a1 a2 a3 b0 b1 b2 b3 _ _ _ _ _ _ _ _ h => by unfold w4 at h; omega

def w4be (b0 b1 b2 b3 : Nat) : Nat := w4 b3 b2 b1 b0

theorem w4_be : WinWord w4be where
  lt := fun b0 b1 b2 b3 h0 h1 h2 h3 => w4_le.lt b3 b2 b1 b0 h3 h2 h1 h0
  inj := fun a0 a1 a2 a3 b0 b1 b2 b3 ha0 ha1 ha2 ha3 hb0 hb1 hb2 hb3 h =>
    have ⟨e3, e2, e1, e0⟩ := w4_le.inj a3 a2 a1 a0 b3 b2 b1 b0 ha3 ha2 ha1 ha0 hb3 hb2 hb1 hb0 h
    ⟨e0, e1, e2, e3⟩

def wdAt (wd : Nat → Nat → Nat → Nat → Nat) (b : Buf) (i : Nat) : Nat :=
  wd (gb b i) (gb b (i + 1)) (gb b (i + 2)) (gb b (i + 3))

theorem wdAt_congr (wd : Nat → Nat → Nat → Nat → Nat) (b b' : Buf) (i : Nat)
    (h : ∀ k, i ≤ k → k < i + 4 → gb b' k = gb b k) : wdAt wd b' i = wdAt wd b i := by
  unfold wdAt
  rw [h i (by omega) (by omega), h (i + 1) (by omega) (by omega), h (i + 2) (by omega) (by omega),
    h (i + 3) (by omega) (by omega)]

theorem Agree.wdAt {i w : Nat} {b b' : Buf} (h : Agree i w b b') (wd : Nat → Nat → Nat → Nat → Nat) (o : Nat)
    (h1 : i ≤ o) (h2 : o + 4 ≤ i + w) : wdAt wd b' o = wdAt wd b o :=
  wdAt_congr wd b b' o (fun k k1 k2 => h.2 k (by omega) (by omega))

/-- the window word of four values stored by `sb` -/
def wdOut (wd : Nat → Nat → Nat → Nat → Nat) (c : Nat × Nat × Nat × Nat) : Nat :=
  wd (c.1 % 256) (c.2.1 % 256) (c.2.2.1 % 256) (c.2.2.2 % 256)

theorem wdAt_put4 (wd : Nat → Nat → Nat → Nat → Nat) (b : Buf) (i : Nat) (c : Nat × Nat × Nat × Nat)
    (hw : i + 4 ≤ b.size) : wdAt wd (put4 b i c) i = wdOut wd c := by
  obtain ⟨g0, g1, g2, g3⟩ := put4_get b i c hw
  rw [wdAt, g0, g1, g2, g3, wdOut]

/-- the four values `put4` is given to store a word low byte first, and high byte first -/
def le4 (v : Nat) : Nat × Nat × Nat × Nat := (v, v >>> 8, v >>> 16, v >>> 24)
def be4 (v : Nat) : Nat × Nat × Nat × Nat := (v >>> 24, v >>> 16, v >>> 8, v)

theorem wdOut_le4 (v : Nat) : wdOut w4 (le4 v) = v % 2 ^ 32 := by
  simp only [wdOut, le4, w4, Bits.shr_eq]
  omega

theorem wdOut_be4 (v : Nat) : wdOut w4be (be4 v) = v % 2 ^ 32 := wdOut_le4 v

theorem le4_w4 (b0 b1 b2 b3 : Nat) (h0 : b0 < 256) (h1 : b1 < 256) (h2 : b2 < 256) (h3 : b3 < 256) :
    (le4 (w4 b0 b1 b2 b3)).1 % 256 = b0 ∧ (le4 (w4 b0 b1 b2 b3)).2.1 % 256 = b1 ∧
      (le4 (w4 b0 b1 b2 b3)).2.2.1 % 256 = b2 ∧ (le4 (w4 b0 b1 b2 b3)).2.2.2 % 256 = b3 :=
  w4_le.inj _ _ _ _ _ _ _ _ (Nat.mod_lt _ (by decide)) (Nat.mod_lt _ (by decide)) (Nat.mod_lt _ (by decide))
    (Nat.mod_lt _ (by decide)) h0 h1 h2 h3
    ((wdOut_le4 _).trans (Nat.mod_eq_of_lt (w4_le.lt _ _ _ _ h0 h1 h2 h3)))

/-- On windows of bytes, replacing a recognised window by `O` of it maps the window word by `T`. -/
structure ActsAs (wd : Nat → Nat → Nat → Nat → Nat) (R : Nat → Nat → Nat → Nat → Prop)
    (O : Nat → Nat → Nat → Nat → Nat × Nat × Nat × Nat) (T : Nat → Nat) : Prop where
  pos : ∀ b0 b1 b2 b3, b0 < 256 → b1 < 256 → b2 < 256 → b3 < 256 → R b0 b1 b2 b3 →
    wdOut wd (O b0 b1 b2 b3) = T (wd b0 b1 b2 b3)
  neg : ∀ b0 b1 b2 b3, b0 < 256 → b1 < 256 → b2 < 256 → b3 < 256 → ¬ R b0 b1 b2 b3 →
    T (wd b0 b1 b2 b3) = wd b0 b1 b2 b3

/-- On recognised windows of bytes, what `Oe` stores is recognised again and `Od` of it gives the bytes back. -/
structure Round (R : Nat → Nat → Nat → Nat → Prop) (Oe Od : Nat → Nat → Nat → Nat → Nat × Nat × Nat × Nat) : Prop where
  recog : ∀ b0 b1 b2 b3, b0 < 256 → b1 < 256 → b2 < 256 → b3 < 256 → R b0 b1 b2 b3 →
    R ((Oe b0 b1 b2 b3).1 % 256) ((Oe b0 b1 b2 b3).2.1 % 256) ((Oe b0 b1 b2 b3).2.2.1 % 256)
      ((Oe b0 b1 b2 b3).2.2.2 % 256)
  -- the decoder's output is named `d` only so that its term is not written out four times
  back : ∀ b0 b1 b2 b3, b0 < 256 → b1 < 256 → b2 < 256 → b3 < 256 → R b0 b1 b2 b3 →
    ∀ d, d = Od ((Oe b0 b1 b2 b3).1 % 256) ((Oe b0 b1 b2 b3).2.1 % 256) ((Oe b0 b1 b2 b3).2.2.1 % 256)
      ((Oe b0 b1 b2 b3).2.2.2 % 256) →
    d.1 % 256 = b0 ∧ d.2.1 % 256 = b1 ∧ d.2.2.1 % 256 = b2 ∧ d.2.2.2 % 256 = b3

section
variable {R : Nat → Nat → Nat → Nat → Prop} [∀ b0 b1 b2 b3, Decidable (R b0 b1 b2 b3)]
  {O : Bool → Nat → Nat → Nat → Nat → Nat → Nat × Nat × Nat × Nat} {V : Nat → Prop}

theorem winStep_inv (i : Nat) (h : Round R (O true i) (O false i)) (b : Buf) (hB : BBytes b)
    (hw : i + 4 ≤ b.size) : winStep R (O false) i (winStep R (O true) i b) = b := by
  by_cases hr : R (gb b i) (gb b (i + 1)) (gb b (i + 2)) (gb b (i + 3))
  · rw [winStep_pos i b hr]
    obtain ⟨g0, g1, g2, g3⟩ := put4_get b i (O true i (gb b i) (gb b (i + 1)) (gb b (i + 2)) (gb b (i + 3))) hw
    have hr' := h.recog _ _ _ _ (hB _) (hB _) (hB _) (hB _) hr
    obtain ⟨d0, d1, d2, d3⟩ := h.back _ _ _ _ (hB _) (hB _) (hB _) (hB _) hr _ rfl
    rw [← g0, ← g1, ← g2, ← g3] at hr' d0 d1 d2 d3
    rw [winStep_pos i _ hr']
    exact put4_put4_back b i _ _ hw rfl ⟨d0, d1, d2, d3⟩
  · rw [winStep_neg i b hr, winStep_neg i b hr]

/-- `V`: the indices the scan visits (the alignment of the filter); `Round` is asked at these only. -/
theorem winStep_stepOK (adv_V : ∀ i, V i → V (i + 4)) (h : ∀ i, V i → Round R (O true i) (O false i)) :
    StepOK 4 V (fun _ _ => 0) (fun i b => (winStep R (O true) i b, 4))
      (fun i b => (winStep R (O false) i b, 4)) :=
  StepOK.fixed 4 V _ _ winStep_size winStep_size adv_V winStep_frame winStep_frame winStep_bytes
    (fun i b b' h _ => winStep_agree i b b' h)
    (fun i b hV => winStep_inv i (h i hV) b)

end

/-- For a filter that computes on the window word: if both directions map the word by `Te`, `Td` and `Td` undoes
    `Te`, the bytes come back. -/
theorem Round.of_acts {wd : Nat → Nat → Nat → Nat → Nat} {R : Nat → Nat → Nat → Nat → Prop}
    [∀ b0 b1 b2 b3, Decidable (R b0 b1 b2 b3)]
    {Oe Od : Nat → Nat → Nat → Nat → Nat × Nat × Nat × Nat} {Te Td : Nat → Nat} (hwd : WinWord wd)
    (he : ActsAs wd R Oe Te) (hd : ActsAs wd R Od Td) (hinv : ∀ W, W < 2 ^ 32 → Td (Te W) = W) : Round R Oe Od := by
  have m : ∀ x : Nat, x % 256 < 256 := fun x => Nat.mod_lt _ (by decide)
  have key : ∀ b0 b1 b2 b3, b0 < 256 → b1 < 256 → b2 < 256 → b3 < 256 → R b0 b1 b2 b3 →
      R ((Oe b0 b1 b2 b3).1 % 256) ((Oe b0 b1 b2 b3).2.1 % 256) ((Oe b0 b1 b2 b3).2.2.1 % 256)
        ((Oe b0 b1 b2 b3).2.2.2 % 256) := by
    intro b0 b1 b2 b3 h0 h1 h2 h3 hr
    refine Decidable.byContradiction fun hn => hn ?_
    -- a window that is not recognised is left alone by `Td`, so `Te` did not change the word, nor the bytes
    have e := (hd.neg _ _ _ _ (m _) (m _) (m _) (m _) hn).symm.trans
      ((congrArg Td (he.pos b0 b1 b2 b3 h0 h1 h2 h3 hr)).trans (hinv _ (hwd.lt _ _ _ _ h0 h1 h2 h3)))
    obtain ⟨e0, e1, e2, e3⟩ := hwd.inj _ _ _ _ _ _ _ _ (m _) (m _) (m _) (m _) h0 h1 h2 h3 e
    rw [e0, e1, e2, e3]
    exact hr
  refine ⟨key, ?_⟩
  intro b0 b1 b2 b3 h0 h1 h2 h3 hr d hd'
  subst hd'
  exact hwd.inj _ _ _ _ _ _ _ _ (m _) (m _) (m _) (m _) h0 h1 h2 h3
    ((hd.pos _ _ _ _ (m _) (m _) (m _) (m _) (key b0 b1 b2 b3 h0 h1 h2 h3 hr)).trans
      ((congrArg Td (he.pos b0 b1 b2 b3 h0 h1 h2 h3 hr)).trans (hinv _ (hwd.lt _ _ _ _ h0 h1 h2 h3))))

end LzmaVerif.Filters
