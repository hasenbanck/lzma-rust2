import LzmaVerif.Proofs.TotalLzma
import LzmaVerif.Proofs.LzipFile
import LzmaVerif.Proofs.DecodeRaw
/-!
P2 of C06 (head of `Proofs/Total.lean`) for the raw LZMA decoder and the LZIP member loop, the latter by induction over
what one iteration does (`LzipFile.members_cases`).
-/

namespace LzmaVerif.Total

section RawLzipPart
open LzmaVerif Lzma Prog Rc LzipFile Checks

def rawRun (pr : Params) (dictBuf : Nat) (preset : Array Nat) (cap : Nat) (d0 : Dec) : LoopRes :=
  ((loopProg pr dictBuf (cap + 1) none Coder.init (presetUsedOf preset dictBuf) [] 0).decRun
    (Array.replicate (numProbs pr.lc pr.lp) PROB_INIT) d0).1

/-- **P2 (LZMA).**  `decodeRaw` answers `.capped` only when no size is declared, and then the symbol loop really
produced MORE than `cap` bytes. -/
theorem decodeRaw_capped (pr : Params) (dictBuf : Nat) (preset : Array Nat) (size : Option Nat)
    (input : List Nat) (cap : Nat) (h : decodeRaw pr dictBuf preset size input cap = .capped) :
    size = none ∧ ∃ d0, Dec.init input = some d0 ∧ (rawRun pr dictBuf preset cap d0).stop = .fuel ∧
      cap < (rawRun pr dictBuf preset cap d0).emitted ∧
      (rawRun pr dictBuf preset cap d0).hist.size =
        (presetUsedOf preset dictBuf).size + (rawRun pr dictBuf preset cap d0).emitted := by
  unfold decodeRaw at h
  split at h
  · cases h
  split at h
  · cases h
  split at h
  · cases h
  next d0 hinit =>
  have hstop := rawFinish_capped h
  -- the fuel in `hstop` is still a `match` on `size`; it is reduced here, because a unifier that meets it
  -- unfolds `loopProg (cap + 1)` and the whole symbol program before it finds the two sides equal
  cases size with
  | some n =>
    dsimp only at hstop
    exact absurd hstop (loop_no_fuel_stop pr dictBuf n (n + 1) (Nat.lt_succ_self _) _ _ _ _ _ _)
  | none =>
    dsimp only at hstop
    unfold rawRun
    exact ⟨rfl, d0, hinit, hstop, loop_fuel_means_cap pr dictBuf cap _ _ _ d0 hstop⟩

theorem decodeRaw_sized_not_capped (pr : Params) (dictBuf : Nat) (preset : Array Nat) (n : Nat)
    (input : List Nat) (cap : Nat) : decodeRaw pr dictBuf preset (some n) input cap ≠ .capped := by
  intro h
  have := (decodeRaw_capped pr dictBuf preset (some n) input cap h).1
  cases this

/-- **P2 (LZIP, fuel).**  Every member consumes at least 26 bytes. -/
theorem members_fuel_indep : ∀ (fuel fuel' : Nat) (first : Bool) (inp : List Nat) (total : Nat) (acc : List Nat)
    (n : List Member) (cap : Nat), inp.length < fuel → inp.length < fuel' →
    members fuel first inp total acc n cap = members fuel' first inp total acc n cap := by
  intro fuel
  induction fuel with
  | zero => intro _ _ _ _ _ _ _ h; omega
  | succ f ih =>
    intro fuel' first inp total acc n cap h h'
    obtain ⟨f', rfl⟩ : ∃ f', fuel' = f' + 1 := ⟨fuel' - 1, by omega⟩
    rcases members_cases f f' first inp total acc n cap with ⟨_, _, _, e, e'⟩ | ⟨m, inp', hm⟩ | ⟨e, _⟩
    · exact e.trans e'.symm
    · have := hm.length
      rw [hm.loop, hm.loop]
      exact ih f' false inp' total _ _ cap (by omega) (by omega)
    · exact e

theorem members_count : ∀ (fuel : Nat) (first : Bool) (inp : List Nat) (total : Nat) (acc : List Nat)
    (n : List Member) (cap : Nat) (data : List Nat) (consumed : Nat) (recs : List Member),
    members fuel first inp total acc n cap = .ok data consumed recs →
    n.length ≤ recs.length ∧ 26 * (recs.length - n.length) ≤ inp.length
  | 0, _, _, _, _, _, _, _, _, _, h => nomatch h
  | f + 1, first, inp, total, acc, n, cap, data, consumed, recs, h => by
    rcases members_cases f f first inp total acc n cap with ⟨_, _, _, e, _⟩ | ⟨m, inp', hm⟩ | ⟨_, hno, _⟩
    · cases e.symm.trans h
      omega
    · have := hm.length
      have := members_count f false inp' total _ (m :: n) cap data consumed recs ((hm.loop f first total n).symm.trans h)
      rw [List.length_cons] at this
      omega
    · exact absurd h (hno _ _ _)

/-- **P2 (LZIP, cap).**  `.capped` is never fuel exhaustion: some member's raw LZMA stream, started with `acc'` bytes
already produced, itself answered `.capped`. -/
theorem members_capped : ∀ (fuel : Nat) (first : Bool) (inp : List Nat) (total : Nat) (acc : List Nat)
    (n : List Member) (cap : Nat), inp.length < fuel → members fuel first inp total acc n cap = .capped →
    ∃ (acc' : List Nat) (dictBuf : Nat) (inp3 : List Nat), acc.length ≤ acc'.length ∧
      decodeRaw lzipParams dictBuf #[] none inp3 (cap - acc'.length) = .capped
  | 0, _, _, _, _, _, _, h, _ => by omega
  | f + 1, first, inp, total, acc, n, cap, hf, h => by
    rcases members_cases f f first inp total acc n cap with ⟨_, _, _, e, _⟩ | ⟨m, inp', hm⟩ | ⟨_, _, hc⟩
    · cases e.symm.trans h
    · have := hm.length
      obtain ⟨acc'', dictBuf, inp3, h1, h2⟩ :=
        members_capped f false inp' total _ (m :: n) cap (by omega) ((hm.loop f first total n).symm.trans h)
      exact ⟨acc'', dictBuf, inp3, by rw [List.length_append] at h1; omega, h2⟩
    · obtain ⟨dictBuf, inp3, hd⟩ := hc h
      exact ⟨acc, dictBuf, inp3, Nat.le_refl _, hd⟩

theorem lzip_decode_capped (inp : List Nat) (cap : Nat) (h : LzipFile.decode inp cap = .capped) :
    ∃ (acc' : List Nat) (dictBuf : Nat) (inp3 : List Nat) (d0 : Dec), Dec.init inp3 = some d0 ∧
      cap < acc'.length + (rawRun lzipParams dictBuf #[] (cap - acc'.length) d0).emitted := by
  obtain ⟨acc', dictBuf, inp3, _, hd⟩ := members_capped _ _ _ _ _ _ _ (by omega) h
  obtain ⟨_, d0, hinit, _, hcap, _⟩ := decodeRaw_capped _ _ _ _ _ _ hd
  exact ⟨acc', dictBuf, inp3, d0, hinit, by omega⟩

theorem decode_members_count (inp : List Nat) (cap : Nat) (data : List Nat) (consumed : Nat) (recs : List Member)
    (h : LzipFile.decode inp cap = .ok data consumed recs) : 26 * recs.length ≤ inp.length := by
  have := (members_count _ _ _ _ _ _ _ _ _ _ h).2
  simpa using this

end RawLzipPart

end LzmaVerif.Total
