/-
  (B1) (`bt4_inv_reachable`; (B1)-(B5) are the theorems of `Props/C01Bt4.lean`): the invariant of the reachable BT4
  states.  `find` at a non-pending position is `findTail` on the state after `move_pos` and the hash stage
  (`find_tail`); the later files go through its two branches there and start from what holds of that state (`Step`).
  `Model/Bt4Renorm.lean` is imported for `findAfter` / `skipOneAfter` (an operation after its `move_pos`).
-/
import LzmaVerif.Model.Bt4Renorm
import LzmaVerif.Proofs.Bt4Base
namespace LzmaVerif.Mf.Bt4

/-- `size` is what makes the omission of `normalize` from the step function sound (`InvG.noNorm`) -/
structure Hyp (P : Bt4Params) (c : Cfg) (data : Array UInt8) : Prop where
  ok : P.ok
  dict : 1 ≤ c.dict
  size : data.size + c.dict + 2 < 2 ^ 31
  nice : 3 ≤ c.niceLen
  mlmax : 3 ≤ c.mlmax

/-- the first position that stays pending; earlier ones are inserted into the tables -/
def pendFrom (P : Bt4Params) (c : Cfg) (data : Array UInt8) : Nat :=
  data.size + 1 - min c.niceLen P.minAvailFinishing

/-- number of positions inserted so far -/
def nIns (P : Bt4Params) (c : Cfg) (data : Array UInt8) (pos : Nat) : Nat := min pos (pendFrom P c data)

/-- the invariant with the bounds on the entries of the hash tables (`hiH`) and of the tree (`hiT`) as parameters.
    From `Inv` = `InvG lz lz`: `move_pos` makes `lzPos = lz + 1` (`inv_moved`); the hash stage writes `lz + 1` into the
    hash tables only (`hashStage_inv`: `InvG (lz + 1) lz`); the walk writes 0, tree entries and the candidate, read from
    hash4 before that (`skipTree_inv`, `findTail_inv`); weakening the tree bound gives `Inv` again (`InvG.toInv`) -/
structure InvG (P : Bt4Params) (c : Cfg) (data : Array UInt8) (hiH hiT : Nat) (s : St) : Prop where
  h2size : s.h2.size = P.hash.hash2Size
  h3size : s.h3.size = P.hash.hash3Size
  h4size : s.h4.size = hash4Size P.hash c.dict
  treesize : s.tree.size = cyclicSize P c * P.treeFactor
  cyc : s.cyclicPos < cyclicSize P c
  lz : s.lzPos = nIns P c data s.pos + cyclicSize P c
  h2ok : TblOk (cyclicSize P c) hiH s.h2
  h3ok : TblOk (cyclicSize P c) hiH s.h3
  h4ok : TblOk (cyclicSize P c) hiH s.h4
  treeok : TblOk (cyclicSize P c) hiT s.tree
  h2slot : ∀ i, s.h2.getD i 0 ≠ 0 →
    (hashesAt P c data (s.h2.getD i 0 - cyclicSize P c - 1)).h2 = i
  h3slot : ∀ i, s.h3.getD i 0 ≠ 0 →
    (hashesAt P c data (s.h3.getD i 0 - cyclicSize P c - 1)).h3 = i

/-- (B1) the invariant between operations: `InvG` with both bounds `= lz_pos` -/
def Inv (P : Bt4Params) (c : Cfg) (data : Array UInt8) (s : St) : Prop := InvG P c data s.lzPos s.lzPos s

theorem cs_eq {P : Bt4Params} (hok : P.ok) (c : Cfg) : cyclicSize P c = c.dict + 1 := by
  unfold cyclicSize; rw [ok_extra hok]

theorem init_inv {P : Bt4Params} {c : Cfg} {data : Array UInt8} (hH : Hyp P c data) (lg : Bool) :
    Inv P c data (init P c lg) where
  h2size := by simp [init]
  h3size := by simp [init]
  h4size := by simp [init]
  treesize := by simp [init]
  cyc := by
    show cyclicSize P c - 1 < cyclicSize P c
    rw [cs_eq hH.ok]; omega
  lz := by simp [init, nIns]
  h2ok := TblOk.replicate _ _ _
  h3ok := TblOk.replicate _ _ _
  h4ok := TblOk.replicate _ _ _
  treeok := TblOk.replicate _ _ _
  h2slot := by intro i h; exact absurd (getD_replicate _ _) h
  h3slot := by intro i h; exact absurd (getD_replicate _ _) h

theorem minAvail_pos {P : Bt4Params} (hok : P.ok) : 3 ≤ P.minAvailFinishing := by
  have h1 := ok_floor hok
  have h2 := ok_floor_lt hok
  omega

/-- the normalisation at `lz_pos = 0x7FFFFFFF` is never reached -/
theorem InvG.noNorm {P : Bt4Params} {c : Cfg} {data : Array UInt8} {a b : Nat} {s : St} (hH : Hyp P c data)
    (h : InvG P c data a b s) : s.lzPos < 0x7FFFFFFF := by
  have h1 := h.lz
  have h2 := hH.size
  have h3 := cs_eq hH.ok c
  have hn := hH.nice
  have hm := minAvail_pos hH.ok
  unfold nIns pendFrom at h1
  omega

variable {P : Bt4Params} {c : Cfg} {data : Array UInt8}

def pending (P : Bt4Params) (c : Cfg) (data : Array UInt8) (pos : Nat) : Prop :=
  data.size - pos < c.niceLen ∧ data.size - pos < P.minAvailFinishing

instance (P : Bt4Params) (c : Cfg) (data : Array UInt8) (pos : Nat) : Decidable (pending P c data pos) := by
  unfold pending; exact inferInstance

/-- the state after a successful `move_pos` -/
def moved (P : Bt4Params) (c : Cfg) (s : St) : St :=
  { s with cyclicPos := if s.cyclicPos + 1 = cyclicSize P c then 0 else s.cyclicPos + 1,
           lzPos := s.lzPos + 1, pos := s.pos + 1 }

theorem movePos_eq (P : Bt4Params) (c : Cfg) (n : Nat) (s : St) :
    movePos P c n s =
      if (n - s.pos < c.niceLen ∧ n - s.pos < P.minAvailFinishing) ∨ n - s.pos = 0 then ({ s with pos := s.pos + 1 }, 0)
      else (moved P c s, n - s.pos) := by
  obtain ⟨h2, h3, h4, tree, cyclicPos, lzPos, pos, log⟩ := s
  by_cases h1 : n - pos < c.niceLen ∧ n - pos < P.minAvailFinishing
  · rw [if_pos (Or.inl h1)]
    simp only [movePos, h1, and_self, if_true, ne_eq, not_true_eq_false, if_false]
  · by_cases h0 : n - pos = 0
    · rw [if_pos (Or.inr h0)]
      simp only [movePos, h0, ite_self, ne_eq, not_true_eq_false, if_false]
    · rw [if_neg (fun h => h.elim h1 h0)]
      simp only [movePos, h1, if_false, ne_eq, h0, not_false_eq_true, if_true, moved]

theorem movePos_cases (hH : Hyp P c data) (s : St) :
    (pending P c data s.pos ∧ movePos P c data.size s = ({ s with pos := s.pos + 1 }, 0)) ∨
    (¬ pending P c data s.pos ∧ 3 ≤ data.size - s.pos ∧
      movePos P c data.size s = (moved P c s, data.size - s.pos)) := by
  have hn := hH.nice
  have hm := minAvail_pos hH.ok
  rw [movePos_eq]
  by_cases hp : pending P c data s.pos
  · exact Or.inl ⟨hp, if_pos (Or.inl hp)⟩
  · have h3 : 3 ≤ data.size - s.pos := by unfold pending at hp; omega
    exact Or.inr ⟨hp, h3, if_neg (fun h => h.elim hp (by omega))⟩

theorem nIns_pending (hH : Hyp P c data) {pos : Nat}
    (h : pending P c data pos) : nIns P c data (pos + 1) = nIns P c data pos := by
  have hn := hH.nice
  have hm := minAvail_pos hH.ok
  unfold pending at h
  unfold nIns pendFrom
  omega

theorem nIns_not_pending (hH : Hyp P c data) {pos : Nat}
    (h : ¬ pending P c data pos) : nIns P c data (pos + 1) = pos + 1 ∧ nIns P c data pos = pos := by
  have hn := hH.nice
  have hm := minAvail_pos hH.ok
  unfold pending at h
  unfold nIns pendFrom
  omega

theorem inv_pending (hH : Hyp P c data) {s : St}
    (hI : Inv P c data s) (hp : pending P c data s.pos) : Inv P c data { s with pos := s.pos + 1 } :=
  { hI with lz := by show s.lzPos = _; rw [hI.lz, nIns_pending hH hp] }

theorem inv_moved (hH : Hyp P c data) {s : St}
    (hI : Inv P c data s) (hp : ¬ pending P c data s.pos) :
    InvG P c data s.lzPos s.lzPos (moved P c s) ∧ (moved P c s).lzPos = s.pos + cyclicSize P c + 1 := by
  have hn := nIns_not_pending hH hp
  have hlz := hI.lz
  refine ⟨{ hI with cyc := ?_, lz := ?_ }, ?_⟩
  · show (if s.cyclicPos + 1 = cyclicSize P c then 0 else s.cyclicPos + 1) < cyclicSize P c
    have := hI.cyc
    split <;> omega
  · show s.lzPos + 1 = nIns P c data (s.pos + 1) + cyclicSize P c
    omega
  · show s.lzPos + 1 = _
    omega

theorem terminate_tree {cs hi : Nat} (tree : Array Nat) (ptr0 ptr1 : Nat) (lg : Log) (h : TblOk cs hi tree) :
    TblOk cs hi (terminate tree ptr0 ptr1 lg).1 ∧ (terminate tree ptr0 ptr1 lg).1.size = tree.size :=
  ⟨(h.set _ _ (EntryOk.zero _ _)).set _ _ (EntryOk.zero _ _), by simp only [terminate, Array.size_setIfInBounds]⟩

theorem relink_tree {cs hi : Nat} (tree : Array Nat) (ptr0 ptr1 pair : Nat) (lg : Log) (h : TblOk cs hi tree) :
    TblOk cs hi (relink tree ptr0 ptr1 pair lg).1 ∧ (relink tree ptr0 ptr1 pair lg).1.size = tree.size :=
  ⟨((h.set ptr1 _ (h pair)).set ptr0 _ ((h.set ptr1 _ (h pair)) (pair + 1))),
    by simp only [relink, Array.size_setIfInBounds]⟩

theorem walk_tree {σ : Type} (P : Bt4Params) (data : Array UInt8) (k : Ctx) (probe : Probe σ) {cs hi : Nat}
    (depth : Nat) (tree : Array Nat) (ptr0 ptr1 len0 len1 cur : Nat) (st : σ) (lg : Log) :
    TblOk cs hi tree → EntryOk cs hi cur →
    TblOk cs hi (walk P data k probe depth tree ptr0 ptr1 len0 len1 cur st lg).1 ∧
    (walk P data k probe depth tree ptr0 ptr1 len0 len1 cur st lg).1.size = tree.size := by
  -- the cases of `fun_induction walk` are the branches of `walk` in order: depth used up; candidate too old;
  -- replaced; hung into `ptr1`; into `ptr0` (the last two with the hypothesis for the rest of the walk)
  fun_induction walk P data k probe depth tree ptr0 ptr1 len0 len1 cur st lg with
  | case1 tree ptr0 ptr1 _ _ _ st lg => intro h _; exact terminate_tree tree ptr0 ptr1 lg h
  | case2 depth tree ptr0 ptr1 _ _ _ st lg => intro h _; exact terminate_tree tree ptr0 ptr1 lg h
  | case3 depth tree ptr0 ptr1 len0 len1 cur st lg delta hstop pair r => intro h _; exact relink_tree tree ptr0 ptr1 pair r.2.2.2 h
  | case4 depth tree ptr0 ptr1 len0 len1 cur st lg delta hstop pair r hnice lg1 hlt tree1 ih =>
    intro h hc
    have ht : TblOk cs hi tree1 := h.set ptr1 cur hc
    obtain ⟨a, b⟩ := ih ht (ht _)
    exact ⟨a, by rw [b]; exact Array.size_setIfInBounds ..⟩
  | case5 depth tree ptr0 ptr1 len0 len1 cur st lg delta hstop pair r hnice lg1 hlt tree1 ih =>
    intro h hc
    have ht : TblOk cs hi tree1 := h.set ptr0 cur hc
    obtain ⟨a, b⟩ := ih ht (ht _)
    exact ⟨a, by rw [b]; exact Array.size_setIfInBounds ..⟩

theorem hashStage_st (P : Bt4Params) (c : Cfg) (data : Array UInt8) (s : St) :
    (hashStage P c data s).st =
      { s with h2 := s.h2.setIfInBounds (hashesAt P c data (s.pos - 1)).h2 s.lzPos,
               h3 := s.h3.setIfInBounds (hashesAt P c data (s.pos - 1)).h3 s.lzPos,
               h4 := s.h4.setIfInBounds (hashesAt P c data (s.pos - 1)).h4 s.lzPos,
               log := (((logHashReads s.log (s.pos - 1)).push (.h2 (hashesAt P c data (s.pos - 1)).h2)).push
                  (.h3 (hashesAt P c data (s.pos - 1)).h3)).push (.h4 (hashesAt P c data (s.pos - 1)).h4) } := by
  cases s; rfl

theorem hashStage_inv {hi : Nat} {s : St}
    (hI : InvG P c data hi hi s) (hlz : s.lzPos = hi + 1) (hp : s.lzPos = (s.pos - 1) + cyclicSize P c + 1) :
    InvG P c data (hi + 1) hi (hashStage P c data s).st := by
  have hv : EntryOk (cyclicSize P c) (hi + 1) s.lzPos := Or.inr ⟨by omega, by omega⟩
  have hq : s.lzPos - cyclicSize P c - 1 = s.pos - 1 := by omega
  -- a slot holds the new position, whose hash value is the slot, or what it held before
  have hslot : ∀ (t : Array Nat) (f : Hashes → Nat),
      (∀ i, t.getD i 0 ≠ 0 → f (hashesAt P c data (t.getD i 0 - cyclicSize P c - 1)) = i) →
      ∀ i, (t.setIfInBounds (f (hashesAt P c data (s.pos - 1))) s.lzPos).getD i 0 ≠ 0 →
        f (hashesAt P c data ((t.setIfInBounds (f (hashesAt P c data (s.pos - 1))) s.lzPos).getD i 0 -
          cyclicSize P c - 1)) = i := by
    intro t f h i
    rw [getD_set]
    split
    · rename_i hh; intro _; rw [hq]; exact hh.1
    · exact h i
  rw [hashStage_st]
  exact { hI with
    h2size := (Array.size_setIfInBounds ..).trans hI.h2size
    h3size := (Array.size_setIfInBounds ..).trans hI.h3size
    h4size := (Array.size_setIfInBounds ..).trans hI.h4size
    h2ok := (hI.h2ok.mono (Nat.le_succ _)).set _ _ hv
    h3ok := (hI.h3ok.mono (Nat.le_succ _)).set _ _ hv
    h4ok := (hI.h4ok.mono (Nat.le_succ _)).set _ _ hv
    h2slot := hslot s.h2 (·.h2) hI.h2slot
    h3slot := hslot s.h3 (·.h3) hI.h3slot }

theorem skipTree_eq (P : Bt4Params) (c : Cfg) (data : Array UInt8) (s : St) (niceLimit cur : Nat) :
    skipTree P c data s niceLimit cur =
      { s with
        tree := (skipLoop P data (ctxOf P c s 0 niceLimit) (depthLimit P c) s.tree (shl P s.cyclicPos + 1)
                  (shl P s.cyclicPos) 0 0 cur s.log).1,
        log := (skipLoop P data (ctxOf P c s 0 niceLimit) (depthLimit P c) s.tree (shl P s.cyclicPos + 1)
                  (shl P s.cyclicPos) 0 0 cur s.log).2 } := by
  cases s; rfl

theorem InvG.setTree {a b : Nat} {s : St}
    (hI : InvG P c data a b s) {t : Array Nat} (lg : Log)
    (ht : TblOk (cyclicSize P c) b t ∧ t.size = s.tree.size) : InvG P c data a b { s with tree := t, log := lg } :=
  { hI with treesize := ht.2.trans hI.treesize, treeok := ht.1 }

theorem InvG.setLog {a b : Nat} {s : St}
    (hI : InvG P c data a b s) (lg : Log) : InvG P c data a b { s with log := lg } :=
  { hI with }

theorem skipTree_inv {hiH hi : Nat} {s : St} {niceLimit cur : Nat}
    (hI : InvG P c data hiH hi s) (hc : EntryOk (cyclicSize P c) hi cur) :
    InvG P c data hiH hi (skipTree P c data s niceLimit cur) := by
  rw [skipTree_eq, skipLoop_eq_walk]
  exact hI.setTree _ (walk_tree P data _ _ _ _ _ _ _ _ _ _ _ hI.treeok hc)

theorem InvG.toInv {hi : Nat} {s : St}
    (hI : InvG P c data (hi + 1) hi s) (hlz : s.lzPos = hi + 1) : Inv P c data s := by
  unfold Inv
  rw [hlz]
  exact { hI with treeok := hI.treeok.mono (Nat.le_succ _) }

/-- `match_len_limit` -/
def lenLimitOf (c : Cfg) (avail : Nat) : Nat := if avail < c.mlmax then avail else c.mlmax
/-- `nice_len_limit` of `find_matches` -/
def niceLimitOf (c : Cfg) (avail : Nat) : Nat := if avail < c.mlmax ∧ c.niceLen > avail then avail else c.niceLen

/-- `len_best` at the start of the tree walk -/
def startLenBest (P : Bt4Params) (lb : Nat) : Nat := if lb < P.lenBestFloor then P.lenBestFloor else lb

/-- `find_matches` after the hash candidates (bt4.rs:213-283): the early exit through the private `skip`, or the
    tree walk -/
def findTail (P : Bt4Params) (c : Cfg) (data : Array UInt8) (st : St) (cur ll nl lb : Nat)
    (ms : Array Match) (lg : Log) : St × Array Match :=
  if ms.size > 0 ∧ geOrGt P.niceStopGe lb nl = true then
    (skipTree P c data { st with log := lg } nl cur, ms)
  else
    let r := findLoop P data (ctxOf P c st ll nl) (depthLimit P c) st.tree (shl P st.cyclicPos + 1)
      (shl P st.cyclicPos) 0 0 cur (startLenBest P lb) ms lg
    ({ st with tree := r.1, log := r.2.2 }, r.2.1)

/-- `find_matches` after `move_pos`, with projections instead of pattern matching -/
theorem findAfter_eq (P : Bt4Params) (c : Cfg) (data : Array UInt8) (s : St) (avail : Nat) :
    findAfter P c data (s, avail) =
      if avail < c.mlmax ∧ avail = 0 then (s, #[]) else
      let hs := hashStage P c data s
      let cd := extendCands data (hs.st.pos - 1) (lenLimitOf c avail)
        (hashCands P data (hs.st.pos - 1) (cyclicSize P c) hs.delta2 hs.delta3 hs.st.log)
      findTail P c data hs.st hs.cur (lenLimitOf c avail) (niceLimitOf c avail) cd.lenBest cd.ms cd.log := rfl

theorem skipOneAfter_eq (P : Bt4Params) (c : Cfg) (data : Array UInt8) (s : St) (avail : Nat) :
    skipOneAfter P c data (s, avail) =
      if avail < c.niceLen ∧ avail = 0 then s else
      skipTree P c data (hashStage P c data s).st (if avail < c.niceLen then avail else c.niceLen)
        (hashStage P c data s).cur := rfl

theorem findTail_inv {hiH hi : Nat} {st : St} {cur : Nat}
    (hI : InvG P c data hiH hi st) (hc : EntryOk (cyclicSize P c) hi cur) (ll nl lb : Nat) (ms : Array Match)
    (lg : Log) : InvG P c data hiH hi (findTail P c data st cur ll nl lb ms lg).1 := by
  unfold findTail
  split
  · exact skipTree_inv (hI.setLog lg) hc
  · rw [findLoop_eq_walk]
    exact hI.setTree _ (walk_tree P data _ _ _ _ _ _ _ _ _ _ _ hI.treeok hc)

theorem moved_pos (P : Bt4Params) (c : Cfg) (s : St) : (moved P c s).pos = s.pos + 1 := rfl
theorem moved_lzPos (P : Bt4Params) (c : Cfg) (s : St) : (moved P c s).lzPos = s.lzPos + 1 := rfl

theorem movePos_pos (P : Bt4Params) (c : Cfg) (n : Nat) (s : St) : (movePos P c n s).1.pos = s.pos + 1 := by
  rw [movePos_eq]; split <;> rfl

theorem findTail_frame (P : Bt4Params) (c : Cfg) (data : Array UInt8) (st : St) (cur ll nl lb : Nat)
    (ms : Array Match) (lg : Log) :
    (findTail P c data st cur ll nl lb ms lg).1.lzPos = st.lzPos ∧
    (findTail P c data st cur ll nl lb ms lg).1.pos = st.pos ∧
    (findTail P c data st cur ll nl lb ms lg).1.cyclicPos = st.cyclicPos := by
  unfold findTail
  split
  · rw [skipTree_eq]; exact ⟨rfl, rfl, rfl⟩
  · exact ⟨rfl, rfl, rfl⟩

theorem hashStage_frame (P : Bt4Params) (c : Cfg) (data : Array UInt8) (s : St) :
    (hashStage P c data s).st.lzPos = s.lzPos ∧ (hashStage P c data s).st.pos = s.pos ∧
    (hashStage P c data s).st.cyclicPos = s.cyclicPos := by
  rw [hashStage_st]; exact ⟨rfl, rfl, rfl⟩

theorem findAfter_frame (P : Bt4Params) (c : Cfg) (data : Array UInt8) (r : St × Nat) :
    (findAfter P c data r).1.lzPos = r.1.lzPos ∧ (findAfter P c data r).1.pos = r.1.pos ∧
    (findAfter P c data r).1.cyclicPos = r.1.cyclicPos := by
  obtain ⟨s, avail⟩ := r
  rw [findAfter_eq]
  by_cases h : avail < c.mlmax ∧ avail = 0
  · rw [if_pos h]; exact ⟨rfl, rfl, rfl⟩
  · rw [if_neg h]
    -- without the `let`s reduced first, matching `findTail_frame` against the goal unfolds the walk
    dsimp only
    obtain ⟨a, b, d⟩ := hashStage_frame P c data s
    exact ⟨(findTail_frame ..).1.trans a, (findTail_frame ..).2.1.trans b, (findTail_frame ..).2.2.trans d⟩

theorem skipOneAfter_frame (P : Bt4Params) (c : Cfg) (data : Array UInt8) (r : St × Nat) :
    (skipOneAfter P c data r).lzPos = r.1.lzPos ∧ (skipOneAfter P c data r).pos = r.1.pos ∧
    (skipOneAfter P c data r).cyclicPos = r.1.cyclicPos := by
  obtain ⟨s, avail⟩ := r
  rw [skipOneAfter_eq]
  split
  · exact ⟨rfl, rfl, rfl⟩
  · rw [skipTree_eq]; exact hashStage_frame P c data s

theorem find_pos (P : Bt4Params) (c : Cfg) (data : Array UInt8) (s : St) : (find P c data s).1.pos = s.pos + 1 := by
  rw [find_eq_findAfter, (findAfter_frame ..).2.1, movePos_pos]

theorem skipOne_pos (P : Bt4Params) (c : Cfg) (data : Array UInt8) (s : St) :
    (skipOne P c data s).pos = s.pos + 1 := by
  rw [skipOne_eq_skipOneAfter, (skipOneAfter_frame ..).2.1, movePos_pos]

def stepHs (P : Bt4Params) (c : Cfg) (data : Array UInt8) (s : St) : HashStage := hashStage P c data (moved P c s)
def stepK (P : Bt4Params) (c : Cfg) (data : Array UInt8) (s : St) : Ctx :=
  ctxOf P c (stepHs P c data s).st (lenLimitOf c (data.size - s.pos)) (niceLimitOf c (data.size - s.pos))
def stepCd0 (P : Bt4Params) (c : Cfg) (data : Array UInt8) (s : St) : Cands :=
  hashCands P data (stepK P c data s).p (stepK P c data s).cs (stepHs P c data s).delta2 (stepHs P c data s).delta3
    (stepHs P c data s).st.log
def stepCd (P : Bt4Params) (c : Cfg) (data : Array UInt8) (s : St) : Cands :=
  extendCands data (stepK P c data s).p (lenLimitOf c (data.size - s.pos)) (stepCd0 P c data s)

theorem find_pending (hH : Hyp P c data) {s : St}
    (hp : pending P c data s.pos) : find P c data s = ({ s with pos := s.pos + 1 }, #[]) := by
  have hml := hH.mlmax
  rcases movePos_cases hH s with ⟨_, hmv⟩ | ⟨hp', _, _⟩
  · rw [find_eq_findAfter, hmv, findAfter_eq, if_pos ⟨by omega, rfl⟩]
  · exact absurd hp hp'

theorem find_tail (hH : Hyp P c data) {s : St}
    (hp : ¬ pending P c data s.pos) :
    find P c data s =
      findTail P c data (stepHs P c data s).st (stepHs P c data s).cur (lenLimitOf c (data.size - s.pos))
        (niceLimitOf c (data.size - s.pos)) (stepCd P c data s).lenBest (stepCd P c data s).ms
        (stepCd P c data s).log := by
  have hml := hH.mlmax
  rcases movePos_cases hH s with ⟨hp', _⟩ | ⟨_, h3, hmv⟩
  · exact absurd hp' hp
  · rw [find_eq_findAfter, hmv, findAfter_eq, if_neg (by omega)]
    rfl

/-- the part that does not depend on the length limits (shared by `find` and the private `skip`) -/
structure KCore (P : Bt4Params) (c : Cfg) (data : Array UInt8) (k : Ctx) (hi : Nat) : Prop where
  lz : k.lzPos = hi + 1
  hi : hi = k.p + k.cs
  cs : k.cs = c.dict + 1
  cyc : k.cyclicPos < k.cs
  inData : k.p + 3 ≤ data.size

structure KFacts (P : Bt4Params) (c : Cfg) (data : Array UInt8) (k : Ctx) (hi : Nat) : Prop
    extends KCore P c data k hi where
  lenLim : k.lenLimit = min c.mlmax (data.size - k.p)
  len3 : 3 ≤ k.lenLimit
  nice3 : 3 ≤ k.niceLimit
  niceLe : k.niceLimit ≤ c.niceLen

/-- what holds at a position that is not pending after `move_pos` and the hash stage, where every walk starts
    (`Descent` adds the search-tree part) -/
structure Step (P : Bt4Params) (c : Cfg) (data : Array UInt8) (s : St) : Prop where
  inv : InvG P c data (s.lzPos + 1) s.lzPos (stepHs P c data s).st
  lz : (stepHs P c data s).st.lzPos = s.lzPos + 1
  pos : (stepHs P c data s).st.pos - 1 = s.pos
  cur : EntryOk (cyclicSize P c) s.lzPos (stepHs P c data s).cur
  core : ∀ a b, KCore P c data (ctxOf P c (stepHs P c data s).st a b) s.lzPos
  facts : KFacts P c data (stepK P c data s) s.lzPos
  avail : 3 ≤ data.size - s.pos

theorem Step.p {s : St} (h : Step P c data s) : (stepK P c data s).p = s.pos := h.pos

theorem step (hH : Hyp P c data) {s : St} (hI : Inv P c data s) (hp : ¬ pending P c data s.pos) :
    Step P c data s := by
  obtain ⟨hm, hlz⟩ := inv_moved hH hI hp
  have hinv := hashStage_inv hm (moved_lzPos P c s) (by rw [moved_pos, hlz]; omega)
  have e1 : (stepHs P c data s).st.lzPos = s.lzPos + 1 := by unfold stepHs; rw [hashStage_st]; rfl
  have e2 : (stepHs P c data s).st.pos - 1 = s.pos := by unfold stepHs; rw [hashStage_st]; rfl
  have e3 : s.lzPos = s.pos + cyclicSize P c := by rw [moved_lzPos] at hlz; omega
  have h3 : 3 ≤ data.size - s.pos := by
    rcases movePos_cases hH s with ⟨hp', _⟩ | ⟨_, h, _⟩
    · exact absurd hp' hp
    · exact h
  have hcore : ∀ a b, KCore P c data (ctxOf P c (stepHs P c data s).st a b) s.lzPos := fun a b =>
    ⟨e1, by show _ = (stepHs P c data s).st.pos - 1 + _; rw [e2]; exact e3, cs_eq hH.ok c, hinv.cyc,
      by show (stepHs P c data s).st.pos - 1 + 3 ≤ _; rw [e2]; omega⟩
  have hn := hH.nice
  have hml := hH.mlmax
  refine ⟨hinv, e1, e2, by cases s; exact hm.h4ok _, hcore, ⟨hcore _ _, ?_, ?_, ?_, ?_⟩, h3⟩
  · show lenLimitOf c (data.size - s.pos) = min c.mlmax (data.size - ((stepHs P c data s).st.pos - 1))
    rw [e2]; unfold lenLimitOf; split <;> omega
  · show 3 ≤ lenLimitOf c (data.size - s.pos)
    unfold lenLimitOf; split <;> omega
  · show 3 ≤ niceLimitOf c (data.size - s.pos)
    unfold niceLimitOf; split <;> omega
  · show niceLimitOf c (data.size - s.pos) ≤ _
    unfold niceLimitOf; split <;> omega

theorem delta_of_entry {k : Ctx} {hi e : Nat}
    (hk : KCore P c data k hi) (he : EntryOk k.cs hi e) (hlt : k.lzPos - e < k.cs) :
    1 ≤ k.lzPos - e ∧ k.lzPos - e ≤ k.p ∧ k.lzPos - e ≤ c.dict := by
  have h1 := hk.lz
  have h2 := hk.hi
  have h3 := hk.cs
  rcases he with he | he
  · subst he; omega
  · omega

theorem walk_cand (hok : P.ok) {k : Ctx} {hi cur : Nat}
    (hk : KCore P c data k hi) (hc : EntryOk k.cs hi cur) (hstop : ¬ geOrGt P.treeStopGe (k.lzPos - cur) k.cs = true) :
    k.lzPos - cur < k.cs ∧ 1 ≤ k.lzPos - cur ∧ k.lzPos - cur ≤ k.p ∧ k.lzPos - cur ≤ c.dict :=
  have hlt : k.lzPos - cur < k.cs := Nat.lt_of_not_le (fun h => hstop ((ok_stop_iff hok).2 h))
  ⟨hlt, delta_of_entry hk hc hlt⟩

theorem stepHs_slots (hH : Hyp P c data) {s : St}
    (hI : Inv P c data s) (hp : ¬ pending P c data s.pos) :
    ∃ e2 e3, EntryOk (cyclicSize P c) s.lzPos e2 ∧ EntryOk (cyclicSize P c) s.lzPos e3 ∧
      (stepHs P c data s).delta2 = (stepHs P c data s).st.lzPos - e2 ∧
      (stepHs P c data s).delta3 = (stepHs P c data s).st.lzPos - e3 ∧
      (e2 ≠ 0 → (hashesAt P c data (e2 - cyclicSize P c - 1)).h2 = (hashesAt P c data s.pos).h2) ∧
      (e3 ≠ 0 → (hashesAt P c data (e3 - cyclicSize P c - 1)).h3 = (hashesAt P c data s.pos).h3) := by
  obtain ⟨hm, _⟩ := inv_moved hH hI hp
  refine ⟨_, _, hm.h2ok _, hm.h3ok _, ?_, ?_, hm.h2slot _, hm.h3slot _⟩
  · cases s; rfl
  · cases s; rfl

theorem find_inv (hH : Hyp P c data) {s : St}
    (hI : Inv P c data s) : Inv P c data (find P c data s).1 := by
  by_cases hp : pending P c data s.pos
  · rw [find_pending hH hp]
    exact inv_pending hH hI hp
  · rw [find_tail hH hp]
    have S := step hH hI hp
    exact (findTail_inv S.inv S.cur ..).toInv ((findTail_frame ..).1.trans S.lz)

theorem skipOne_cases (hH : Hyp P c data) (s : St) :
    (pending P c data s.pos ∧ skipOne P c data s = { s with pos := s.pos + 1 }) ∨
    (¬ pending P c data s.pos ∧
      skipOne P c data s = skipTree P c data (stepHs P c data s).st (min c.niceLen (data.size - s.pos))
        (stepHs P c data s).cur) := by
  have hml := hH.nice
  rw [skipOne_eq_skipOneAfter]
  rcases movePos_cases hH s with ⟨hp, hmv⟩ | ⟨hp, h3, hmv⟩
  · exact Or.inl ⟨hp, by rw [hmv, skipOneAfter_eq, if_pos ⟨by omega, rfl⟩]⟩
  · refine Or.inr ⟨hp, ?_⟩
    rw [hmv, skipOneAfter_eq, if_neg (by omega)]
    have : (if data.size - s.pos < c.niceLen then data.size - s.pos else c.niceLen) =
        min c.niceLen (data.size - s.pos) := by split <;> omega
    rw [this]; rfl

theorem skipOne_inv (hH : Hyp P c data) {s : St}
    (hI : Inv P c data s) : Inv P c data (skipOne P c data s) := by
  rcases skipOne_cases hH s with ⟨hp, he⟩ | ⟨hp, he⟩
  · rw [he]; exact inv_pending hH hI hp
  · rw [he]
    have S := step hH hI hp
    exact (skipTree_inv S.inv S.cur).toInv (by rw [skipTree_eq]; exact S.lz)

theorem skip_keeps {R : St → Prop}
    (hs : ∀ s, R s → R (skipOne P c data s)) (n : Nat) : ∀ {s : St}, R s → R (skip P c data n s) := by
  induction n with
  | zero => intro s h; exact h
  | succ n ih => intro s h; exact ih (hs s h)

theorem runOps_keeps {R : St → Prop}
    (hf : ∀ s, R s → R (find P c data s).1) (hs : ∀ s, R s → R (skipOne P c data s)) (ops : List Nat) :
    ∀ {s : St} (tr : Array (Nat × List Match)), R s → R (runOps P c data ops s tr).1 := by
  induction ops with
  | nil => intro s tr h; exact h
  | cons op rest ih =>
    intro s tr h
    unfold runOps
    split
    · exact h
    · have hop : R (runOp P c data op s tr).1 := by
        unfold runOp
        split
        · exact hf s h
        · exact skip_keeps hs op h
      exact ih _ hop

theorem runScript_inv (hH : Hyp P c data) (script : List Nat)
    (lg : Bool) : Inv P c data (runScript P c data script lg).1 :=
  runOps_keeps (R := Inv P c data) (fun _ => find_inv hH) (fun _ => skipOne_inv hH) script #[] (init_inv hH lg)

end LzmaVerif.Mf.Bt4
