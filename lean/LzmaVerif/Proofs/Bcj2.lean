import LzmaVerif.Model.Bcj2
import LzmaVerif.Model.Prog
import LzmaVerif.Proofs.RcRoundtrip
import LzmaVerif.Proofs.TruncRc
/-!
BCJ2 round trip: the decoder model (`Bcj2.decode`, validated against `BCJ2Reader`) inverts the
encoder model (`Bcj2.encode convert`) for every byte string and every decision function.

The scanner state machine is a decision program `dprog` (the range coder abstracted to a bit channel); the encoder
walks the decoder's program and the program returns the original bytes (`enc_prog`).  `scan_cut`: the scanner with the
real range decoder (lazy normalisation, "RC dry" end state), run on the four streams or on prefixes of them, against
a run of `Prog.decRun` on the whole streams that consumes them: with nothing missing it ends as the program does,
otherwise in an error.  Round trip (with `rc_roundtrip_full`) and truncation (C05) are its corollaries.
-/
namespace LzmaVerif.Bcj2
open LzmaVerif Rc

/-- how the scanner stops, as far as it does not depend on the range decoder -/
inductive Out where
  | fin (st : St) (n : Nat) (acc : List Nat) (call jump : List Nat)
  | res (r : Except Err (List Nat))

def conclude : Out → Dec → Except Err (List Nat)
  | .fin st n acc _ _, d => finish st n d.code acc
  | .res r, _ => r

/-- The address step of the scanner after a 1 bit at the opcode `b` (`n` bytes are missing after `b`):
    it stops without reading another bit, or goes on at a new `(n, prev, ip, call, jump, acc)`. -/
def addrStep (b n ip : Nat) (call jump acc : List Nat) :
    Out ⊕ (Nat × Nat × Nat × List Nat × List Nat × List Nat) :=
  match takeAddr (if b = 0xE8 then call else jump) with
  | .empty => .inl (.fin .cj n (b :: acc) call jump)
  | .short => .inl (.res (if n = 0 then .ok (b :: acc).reverse else .error .shortAddr))
  | .addr v rest =>
    let ip2 := ((ip + 1) % M32 + 4) % M32
    let val := (v + M32 - ip2) % M32
    if n < 4 then .inl (.res (.error .notFinished))
    else .inr (n - 4, val / 16777216, ip2, if b = 0xE8 then rest else call,
      if b = 0xE8 then jump else rest,
      (val / 16777216) :: (val / 65536 % 256) :: (val / 256 % 256) :: (val % 256) :: b :: acc)

/-- what the scanner does after the bit of the opcode `b`, `k` being the loop on the rest of MAIN -/
def afterBit (k : (n prev ip : Nat) → (call jump : List Nat) → List Nat → Prog Out)
    (b n ip : Nat) (call jump acc : List Nat) (bit : Bool) : Prog Out :=
  if bit = false then k n b ((ip + 1) % M32) call jump (b :: acc)
  else
    match addrStep b n ip call jump acc with
    | .inl o => .ret o
    | .inr (n2, prev2, ip2, call2, jump2, acc2) => k n2 prev2 ip2 call2 jump2 acc2

/-- the scanner loop with the range decoder abstracted to a channel of bits (`scan_lit`, `scan_op`
    state `Bcj2.scan` in the same terms) -/
def dprog : List Nat → (n prev ip : Nat) → (call jump : List Nat) → List Nat → Prog Out
  | [], n, _, _, call, jump, acc => .ret (.fin .main n acc call jump)
  | b :: ms, n, prev, ip, call, jump, acc =>
    match n with
    | 0 => .ret (.fin .orig 0 acc call jump)
    | n' + 1 =>
      if isOp prev b = false then dprog ms n' b ((ip + 1) % M32) call jump (b :: acc)
      else .bit (probIdx prev b) (afterBit (dprog ms) b n' ip call jump acc)

theorem decodeBitP_eq_rawBit (d : Dec) (p : Nat) : d.decodeBitP p = rawBit d.normalize p := rfl

theorem norm_of_over (d : Dec) (h : d.normalize.over = 0) : norm d = some d.normalize := by
  rcases normalize_cases d with ⟨hr, hn⟩ | ⟨hr, b, rest, hi, hn⟩ | ⟨hr, hi, hn⟩
  · rw [hn]; unfold norm; rw [if_neg hr]
  · rw [hn]; unfold norm; rw [if_pos hr, hi]
  · rw [hn] at h; simp only at h; omega

theorem norm_eq_normalize {d D : Dec} (h : norm d = some D) : D = d.normalize := by
  rcases normalize_cases d with ⟨hr, hn⟩ | ⟨hr, b, rest, hi, hn⟩ | ⟨hr, hi, hn⟩
  · rw [hn]; unfold norm at h; rw [if_neg hr] at h; injection h with h; exact h.symm
  · rw [hn]; unfold norm at h; rw [if_pos hr, hi] at h
    obtain ⟨r, c, i, o⟩ := d
    injection h with h; exact h.symm
  · unfold norm at h; rw [if_pos hr, hi] at h; exact absurd h (by simp)

theorem rawBit_over (d : Dec) (p : Nat) : (rawBit d p).2.over = d.over := by
  unfold rawBit
  simp only
  split <;> rfl

theorem finish_ne {st : St} {n c : Nat} {acc : List Nat} (h : n ≠ 0) :
    finish st n c acc = .error .eof := by
  unfold finish; rw [if_neg h]

theorem finish_main0 (acc : List Nat) : finish .main 0 0 acc = .ok acc.reverse := rfl

theorem finish_rc0 (c : Nat) (acc : List Nat) : finish .rc 0 c acc = .error .notFinished := by
  unfold finish
  rw [if_pos rfl]
  by_cases h : c ≠ 0
  · rw [if_pos h]
  · rw [if_neg h]

theorem ret_run {o out : Out} {ps ps' : Probs} {d d' : Dec}
    (h : (Prog.ret o).decRun ps d = (out, ps', d')) : o = out ∧ d = d' := by
  injection h with h1 h2; injection h2 with _ h3
  exact ⟨h1, h3⟩

theorem dprog_lit {b : Nat} {ms : List Nat} {n prev ip : Nat} {call jump acc : List Nat}
    (h : isOp prev b = false) :
    dprog (b :: ms) (n + 1) prev ip call jump acc
      = dprog ms n b ((ip + 1) % M32) call jump (b :: acc) := by
  simp only [dprog, h, if_true]

theorem scan_lit {b : Nat} {ms : List Nat} {n prev ip : Nat} {call jump : List Nat} {D : Dec}
    {ps : Probs} {acc : List Nat} (h : isOp prev b = false) :
    scan (b :: ms) (n + 1) prev ip call jump D ps acc
      = scan ms n b ((ip + 1) % M32) call jump D ps (b :: acc) := by
  simp only [scan, h, if_true]

/-- the scanner goes on at a new position; the normalisation after the last bit is still due -/
def cont (ms : List Nat) (n prev ip : Nat) (call jump : List Nat) (r2 : Dec) (ps : Probs)
    (acc : List Nat) : Except Err (List Nat) :=
  match norm r2 with
  | none => finish .rc n r2.code acc
  | some d2 => scan ms n prev ip call jump d2 ps acc

theorem scan_op {b : Nat} {ms : List Nat} {n prev ip : Nat} {call jump : List Nat} {D : Dec}
    {ps : Probs} {acc : List Nat} (h : isOp prev b = true) {r : Bool × Dec}
    (hr : rawBit D (ps.get (probIdx prev b)) = r) :
    scan (b :: ms) (n + 1) prev ip call jump D ps acc =
      if r.1 = false then
        cont ms n b ((ip + 1) % M32) call jump r.2
          (ps.set (probIdx prev b) (updProb (ps.get (probIdx prev b)) r.1)) (b :: acc)
      else
        match addrStep b n ip call jump acc with
        | .inl o => conclude o r.2
        | .inr (n2, prev2, ip2, call2, jump2, acc2) =>
          cont ms n2 prev2 ip2 call2 jump2 r.2
            (ps.set (probIdx prev b) (updProb (ps.get (probIdx prev b)) r.1)) acc2 := by
  subst hr
  simp only [scan, h, Bool.true_eq_false, if_false, addrStep, cont]
  split
  · rfl
  · cases takeAddr (if b = 0xE8 then call else jump) with
    | empty => rfl
    | short => rfl
    | addr v rest =>
      simp only []
      split <;> rfl

/-- the normalisation that is due after the bit has its byte because the whole run does not read past the end -/
theorem dprog_bit {b : Nat} {ms : List Nat} {n prev ip : Nat} {call jump acc : List Nat} {ps : Probs}
    {d D : Dec} {out : Out} {ps' : Probs} {d' : Dec} (h : isOp prev b = true) (hD : norm d = some D)
    {r : Bool × Dec} (hr : rawBit D (ps.get (probIdx prev b)) = r)
    (hrun : (dprog (b :: ms) (n + 1) prev ip call jump acc).decRun ps d = (out, ps', d'))
    (hov : d'.normalize.over = 0) :
    norm r.2 = some r.2.normalize ∧
    (afterBit (dprog ms) b n ip call jump acc r.1).decRun
      (ps.set (probIdx prev b) (updProb (ps.get (probIdx prev b)) r.1)) r.2 = (out, ps', d') := by
  simp only [dprog, h, Bool.true_eq_false, if_false] at hrun
  have hbit : d.decodeBitP (ps.get (probIdx prev b)) = (r.1, r.2) := by
    rw [decodeBitP_eq_rawBit, ← norm_eq_normalize hD, hr]
  rw [show (Prog.bit _ _).decRun ps d = _ from Prog.decRun_ask (some _) _ ps d hbit] at hrun
  have hmono := Prog.decRun_norm_over_le _ _ _ _ _ _ hrun
  exact ⟨norm_of_over _ (by omega), hrun⟩

theorem takeAddr_append (c1 c2 : List Nat) (v : Nat) (r : List Nat) (h : takeAddr c1 = .addr v r) :
    takeAddr (c1 ++ c2) = .addr v (r ++ c2) := by
  unfold takeAddr at h
  split at h
  · cases h
  · cases h
    rfl
  · cases h

theorem takeAddr_empty (c : List Nat) (h : takeAddr c = .empty) : c = [] := by
  unfold takeAddr at h
  split at h
  · rfl
  · cases h
  · cases h

theorem addrStep_not_main {b n ip m : Nat} {call jump acc a c j : List Nat}
    (h : addrStep b n ip call jump acc = .inl (.fin .main m a c j)) : False := by
  unfold addrStep at h
  split at h
  · cases h
  · cases h
  · simp only [] at h
    split at h <;> cases h

/-- on prefixes of CALL and JUMP: the same address, or the stream dry or cut inside the address -/
theorem addrStep_cut {b n ip n2 p2 i2 : Nat} {c1 c2 j1 j2 acc cc jj a2 : List Nat}
    (h : addrStep b n ip (c1 ++ c2) (j1 ++ j2) acc = .inr (n2, p2, i2, cc, jj, a2)) :
    (∃ c1' j1', cc = c1' ++ c2 ∧ jj = j1' ++ j2 ∧
      addrStep b n ip c1 j1 acc = .inr (n2, p2, i2, c1', j1', a2)) ∨
    (c2 ≠ [] ∨ j2 ≠ []) ∧ ∃ o, addrStep b n ip c1 j1 acc = .inl o ∧
      ∀ d, conclude o d = .error .eof ∨ conclude o d = .error .shortAddr := by
  unfold addrStep at h ⊢
  rw [show (if b = 0xE8 then c1 ++ c2 else j1 ++ j2) =
    (if b = 0xE8 then c1 else j1) ++ (if b = 0xE8 then c2 else j2) by split <;> rfl] at h
  split at h
  · cases h
  · cases h
  · next v rest hta =>
    simp only [] at h
    split at h
    · cases h
    · next hlt =>
      simp only [Sum.inr.injEq, Prod.mk.injEq] at h
      obtain ⟨rfl, rfl, rfl, rfl, rfl, rfl⟩ := h
      -- a stream that has no address where the whole one has is a proper prefix
      have hne : (∀ v r, takeAddr (if b = 0xE8 then c1 else j1) ≠ .addr v r) → c2 ≠ [] ∨ j2 ≠ [] := by
        intro hno
        have : (if b = 0xE8 then c2 else j2) ≠ [] := fun h0 => by
          rw [h0, List.append_nil] at hta
          exact hno _ _ hta
        split at this
        · exact Or.inl this
        · exact Or.inr this
      cases htc : takeAddr (if b = 0xE8 then c1 else j1) with
      | empty =>
        exact Or.inr ⟨hne (fun _ _ h => by rw [htc] at h; cases h), _, rfl,
          fun d => Or.inl (@finish_ne .cj n d.code (b :: acc) (by omega))⟩
      | short =>
        refine Or.inr ⟨hne (fun _ _ h => by rw [htc] at h; cases h), _, rfl, fun d => Or.inr ?_⟩
        show (if n = 0 then _ else _) = _
        rw [if_neg (by omega)]
      | addr v' rest' =>
        have := takeAddr_append _ (if b = 0xE8 then c2 else j2) v' rest' htc
        rw [hta] at this
        simp only [Addr.addr.injEq] at this
        obtain ⟨rfl, rfl⟩ := this
        simp only [hlt, if_false]
        by_cases hE : b = 0xE8
        · simp only [hE, if_true]; exact Or.inl ⟨rest', j1, rfl, rfl, rfl⟩
        · simp only [hE, if_false]; exact Or.inl ⟨c1, rest', rfl, rfl, rfl⟩

/-! `scan` on prefixes of MAIN, CALL and JUMP with a range decoder that has a prefix `pre` of its input
`pre ++ x`, against the run of the decision program on the whole streams that consumes them completely
and produces all `n` bytes. -/

def cutInp (D : Dec) (pre : List Nat) : Dec := { D with inp := pre }

theorem rawBit_cut (D : Dec) (pre : List Nat) (p : Nat) :
    rawBit (cutInp D pre) p = ((rawBit D p).1, cutInp (rawBit D p).2 pre) ∧ (rawBit D p).2.inp = D.inp := by
  unfold rawBit cutInp
  simp only
  split <;> exact ⟨rfl, rfl⟩

theorem norm_cut {r2 : Dec} {pre x : List Nat} (h : r2.inp = pre ++ x) {N : Dec} (hN : norm r2 = some N) :
    (∃ pre', norm (cutInp r2 pre) = some (cutInp N pre') ∧ N.inp = pre' ++ x) ∨
    (norm (cutInp r2 pre) = none ∧ pre = [] ∧ ∃ y, x = y :: N.inp) := by
  unfold norm at hN ⊢
  by_cases hr : r2.range < 2 ^ 24
  · rw [if_pos hr, h] at hN
    rw [if_pos (show (cutInp r2 pre).range < 2 ^ 24 from hr)]
    cases pre with
    | nil =>
      cases x with
      | nil => cases hN
      | cons y xs =>
        injection hN with hN
        subst hN
        exact Or.inr ⟨rfl, rfl, y, rfl⟩
    | cons c cs =>
      injection hN with hN
      subst hN
      exact Or.inl ⟨cs, rfl, rfl⟩
  · rw [if_neg hr] at hN
    rw [if_neg (show ¬ (cutInp r2 pre).range < 2 ^ 24 from hr)]
    injection hN with hN
    subst hN
    exact Or.inl ⟨pre, rfl, h⟩

/-- How the reader ends on prefixes of the streams, `m2`, `c2`, `j2`, `x` being what MAIN, CALL, JUMP,
    RC lack of streams from which `accF` is decoded with final `code`: with nothing missing it ends
    in the same way; otherwise in `UnexpectedEof`, or – only for a CALL/JUMP cut inside an address –
    in "error:3", or – only when RC lacks just its last byte – in the failed finish check. -/
def CutRes (m2 c2 j2 x accF : List Nat) (code : Nat) (r : Except Err (List Nat)) : Prop :=
  (m2 = [] ∧ c2 = [] ∧ j2 = [] ∧ x = [] ∧ r = finish .main 0 code accF) ∨
  ((m2 ≠ [] ∨ c2 ≠ [] ∨ j2 ≠ [] ∨ x ≠ []) ∧ r = .error .eof) ∨
  ((c2 ≠ [] ∨ j2 ≠ []) ∧ r = .error .shortAddr) ∨
  (x.length = 1 ∧ r = .error .notFinished)

def CutIH (m1 : List Nat) : Prop :=
  ∀ {main call jump m2 : List Nat} {n prev ip : Nat} {c1 c2 j1 j2 acc : List Nat} {ps : Probs} {d D : Dec}
    {pre x accF : List Nat} {ps' : Probs} {d' : Dec},
    main = m1 ++ m2 → call = c1 ++ c2 → jump = j1 ++ j2 → norm d = some D → D.inp = pre ++ x →
    (dprog main n prev ip call jump acc).decRun ps d = (.fin .main 0 accF [] [], ps', d') →
    d'.normalize.over = 0 → d'.normalize.inp = [] →
    CutRes m2 c2 j2 x accF d'.normalize.code (scan m1 n prev ip c1 j1 (cutInp D pre) ps acc)

theorem dprog_zero_run {ms : List Nat} {prev ip : Nat} {call jump acc : List Nat} {ps ps' : Probs}
    {d d' : Dec} {accF cF jF : List Nat}
    (h : (dprog ms 0 prev ip call jump acc).decRun ps d = (.fin .main 0 accF cF jF, ps', d')) :
    accF = acc ∧ d' = d := by
  cases ms with
  | nil =>
    obtain ⟨h1, rfl⟩ := ret_run h
    cases h1
    exact ⟨rfl, rfl⟩
  | cons b ms =>
    obtain ⟨h1, _⟩ := ret_run h
    cases h1

theorem after_norm {ms : List Nat} (ih : CutIH ms) {main call jump m2 : List Nat} {m prev ip : Nat}
    {c1 c2 j1 j2 acc : List Nat} {ps : Probs} {r2 : Dec} {pre x accF : List Nat} {ps' : Probs} {d' : Dec}
    (hm : main = ms ++ m2) (hc : call = c1 ++ c2) (hj : jump = j1 ++ j2)
    (hinp : r2.inp = pre ++ x) (hn2 : norm r2 = some r2.normalize)
    (hrun : (dprog main m prev ip call jump acc).decRun ps r2 = (.fin .main 0 accF [] [], ps', d'))
    (hov : d'.normalize.over = 0) (hfin : d'.normalize.inp = []) :
    CutRes m2 c2 j2 x accF d'.normalize.code (cont ms m prev ip c1 j1 (cutInp r2 pre) ps acc) := by
  unfold cont
  rcases norm_cut hinp hn2 with ⟨pre', hnc, hi⟩ | ⟨hnc, _, y, hxy⟩
  · rw [hnc]
    exact ih hm hc hj hn2 hi hrun hov hfin
  · rw [hnc]
    by_cases hm : m = 0
    · subst hm
      obtain ⟨ha, hd⟩ := dprog_zero_run hrun
      subst ha; subst hd
      rw [hfin] at hxy
      exact Or.inr (Or.inr (Or.inr ⟨by rw [hxy]; rfl, finish_rc0 _ _⟩))
    · exact Or.inr (Or.inl ⟨Or.inr (Or.inr (Or.inr (hxy ▸ List.cons_ne_nil _ _))), finish_ne hm⟩)

theorem scan_cut (m1 : List Nat) : CutIH m1 := by
  induction m1 with
  | nil =>
    intro main call jump m2 n prev ip c1 c2 j1 j2 acc ps d D pre x accF ps' d' hm hc hj hD hinp hrun hov hfin
    subst hm hc hj
    -- `main` now stands for `[] ++ m2`
    cases main with
    | nil =>
      obtain ⟨h1, rfl⟩ := ret_run hrun
      simp only [Out.fin.injEq, List.append_eq_nil_iff, true_and] at h1
      obtain ⟨rfl, rfl, ⟨_, hc⟩, ⟨_, hj⟩⟩ := h1
      rw [norm_eq_normalize hD, hfin] at hinp
      rw [norm_eq_normalize hD]
      exact Or.inl ⟨rfl, hc, hj, (List.append_eq_nil_iff.mp hinp.symm).2, rfl⟩
    | cons b m2' =>
      cases n with
      | zero =>
        obtain ⟨h1, _⟩ := ret_run hrun
        cases h1
      | succ n' =>
        exact Or.inr (Or.inl ⟨Or.inl (List.cons_ne_nil _ _), finish_ne (Nat.succ_ne_zero n')⟩)
  | cons b ms ih =>
    intro main call jump m2 n prev ip c1 c2 j1 j2 acc ps d D pre x accF ps' d' hm hc hj hD hinp hrun hov hfin
    subst hm hc hj
    rw [List.cons_append] at hrun
    cases n with
    | zero =>
      obtain ⟨h1, _⟩ := ret_run hrun
      cases h1
    | succ n' =>
      by_cases hop : isOp prev b = false
      · rw [scan_lit hop]
        rw [dprog_lit hop] at hrun
        exact ih rfl rfl rfl hD hinp hrun hov hfin
      · have hop' : isOp prev b = true := by simpa using hop
        obtain ⟨hn2, hrun⟩ := dprog_bit hop' hD rfl hrun hov
        unfold afterBit at hrun
        obtain ⟨hrc, hri⟩ := rawBit_cut D pre (ps.get (probIdx prev b))
        rw [scan_op hop' hrc]
        rw [hinp] at hri
        generalize rawBit D (ps.get (probIdx prev b)) = r at hn2 hrun hri ⊢
        by_cases hb : r.1 = false
        · rw [if_pos hb] at hrun ⊢
          exact after_norm ih rfl rfl rfl hri hn2 hrun hov hfin
        · rw [if_neg hb] at hrun ⊢
          cases hs : addrStep b n' ip (c1 ++ c2) (j1 ++ j2) acc with
          | inl o =>
            rw [hs] at hrun
            obtain ⟨rfl, _⟩ := ret_run hrun
            exact (addrStep_not_main hs).elim
          | inr s =>
            obtain ⟨n2, p2, i2, cc, jj, a2⟩ := s
            rw [hs] at hrun
            rcases addrStep_cut hs with ⟨c1', j1', rfl, rfl, hs1⟩ | ⟨hcj, o, hs1, ho⟩
            · rw [hs1]
              exact after_norm ih rfl rfl rfl hri hn2 hrun hov hfin
            · rw [hs1]
              exact (ho _).elim (fun h => Or.inr (Or.inl ⟨Or.inr (hcj.imp id Or.inl), h⟩))
                fun h => Or.inr (Or.inr (Or.inl ⟨hcj, h⟩))

/-- `dest = src - ip` undoes `src = dest + ip` on wrapping `u32` -/
theorem addr_roundtrip (rel ip : Nat) (hr : rel < M32) (hi : ip < M32) :
    ((rel + ip) % M32 + M32 - ip) % M32 = rel := by
  unfold M32 at *; omega

theorem takeAddr_be32 (v : Nat) (rest : List Nat) (hv : v < M32) :
    takeAddr (be32 v ++ rest) = .addr v rest := by
  simp only [be32, List.cons_append, List.nil_append, takeAddr]
  congr 1
  unfold M32 at hv; omega

theorem le_digits (x0 x1 x2 x3 : Nat) (h0 : x0 < 256) (h1 : x1 < 256) (h2 : x2 < 256) (h3 : x3 < 256) :
    (((x3 * 256 + x2) * 256 + x1) * 256 + x0) / 16777216 = x3 ∧
    (((x3 * 256 + x2) * 256 + x1) * 256 + x0) / 65536 % 256 = x2 ∧
    (((x3 * 256 + x2) * 256 + x1) * 256 + x0) / 256 % 256 = x1 ∧
    (((x3 * 256 + x2) * 256 + x1) * 256 + x0) % 256 = x0 ∧
    (((x3 * 256 + x2) * 256 + x1) * 256 + x0) < M32 := by
  unfold M32; omega

theorem encRun_bit {b : Nat} {ms : List Nat} {n prev ip : Nat} {call jump acc : List Nat}
    (h : isOp prev b = true) {bit : Bool} {bits : List Bool} {ps : Probs} {e : Enc} :
    (dprog (b :: ms) (n + 1) prev ip call jump acc).encRun (bit :: bits) ps e
      = (afterBit (dprog ms) b n ip call jump acc bit).encRun bits
          (ps.set (probIdx prev b) (updProb (ps.get (probIdx prev b)) bit))
          (encodeBitP e (ps.get (probIdx prev b)) bit) := by
  simp only [dprog, h, Bool.true_eq_false, if_false, Prog.encRun]

theorem addrStep_enc {b n ip rel : Nat} {call jump acc : List Nat} (hr : rel < M32) (hn : ¬ n < 4) :
    let ip2 := ((ip + 1) % M32 + 4) % M32
    let a := be32 ((rel + ip2) % M32)
    addrStep b n ip (if b = 0xE8 then a ++ call else call) (if b = 0xE8 then jump else a ++ jump) acc =
      .inr (n - 4, rel / 16777216, ip2, call, jump,
        (rel / 16777216) :: (rel / 65536 % 256) :: (rel / 256 % 256) :: (rel % 256) :: b :: acc) := by
  intro ip2 a
  have hp : 0 < M32 := by decide
  have hv : (rel + ip2) % M32 < M32 := Nat.mod_lt _ hp
  have hrt := addr_roundtrip rel ip2 hr (Nat.mod_lt _ hp)
  unfold addrStep
  by_cases hE : b = 0xE8
  · simp only [hE, if_true, a, takeAddr_be32 _ call hv, hn, if_false, hrt, ip2]
  · simp only [hE, if_false, a, takeAddr_be32 _ jump hv, hn, hrt, ip2]

/-- the encoder at an opcode it does not convert; `t` is what it makes of the rest -/
theorem encLoop_noconv {convert : Nat → Bool} {f b : Nat} {r : List Nat} {prev ip k : Nat} {e : Enc}
    {ps : Probs} (hop : isOp prev b = true) (h : r.length < 4 ∨ convert k = false)
    {t : List Nat × List Nat × List Nat × Enc}
    (ht : encLoop convert f r b ((ip + 1) % M32) (k + 1) (encodeBitP e (ps.get (probIdx prev b)) false)
      (ps.set (probIdx prev b) (updProb (ps.get (probIdx prev b)) false)) = t) :
    encLoop convert (f + 1) (b :: r) prev ip k e ps = (b :: t.1, t.2) := by
  subst ht
  rcases r with _ | ⟨x0, _ | ⟨x1, _ | ⟨x2, _ | ⟨x3, r'⟩⟩⟩⟩
  iterate 4 simp only [encLoop, hop, Bool.true_eq_false, if_false]
  have hc : convert k = false := h.resolve_left (by simp)
  simp only [encLoop, hop, hc, Bool.true_eq_false, Bool.false_eq_true, if_false]

theorem encLoop_conv {convert : Nat → Bool} {f b x0 x1 x2 x3 : Nat} {r : List Nat} {prev ip k : Nat} {e : Enc}
    {ps : Probs} (hop : isOp prev b = true) (hc : convert k = true)
    {t : List Nat × List Nat × List Nat × Enc}
    (ht : encLoop convert f r x3 (((ip + 1) % M32 + 4) % M32) (k + 1)
      (encodeBitP e (ps.get (probIdx prev b)) true)
      (ps.set (probIdx prev b) (updProb (ps.get (probIdx prev b)) true)) = t) :
    encLoop convert (f + 1) (b :: x0 :: x1 :: x2 :: x3 :: r) prev ip k e ps =
      let a := be32 ((((x3 * 256 + x2) * 256 + x1) * 256 + x0 + ((ip + 1) % M32 + 4) % M32) % M32)
      (b :: t.1, if b = 0xE8 then a ++ t.2.1 else t.2.1, if b = 0xE8 then t.2.2.1 else a ++ t.2.2.1,
        t.2.2.2) := by
  subst ht
  simp only [encLoop, hop, hc, Bool.true_eq_false, if_false, if_true]
  split <;> rfl

theorem enc_prog (convert : Nat → Bool) : ∀ (fuel : Nat) (data : List Nat) (prev ip k : Nat) (e : Enc)
    (ps : Probs) (acc : List Nat), data.length ≤ fuel → (∀ b ∈ data, b < 256) →
    let t := encLoop convert fuel data prev ip k e ps
    ∃ bits ps', (dprog t.1 data.length prev ip t.2.1 t.2.2.1 acc).encRun bits ps e
      = some (.fin .main 0 (data.reverse ++ acc) [] [], [], ps', t.2.2.2) := by
  intro fuel
  induction fuel with
  | zero =>
    intro data prev ip k e ps acc hlen _
    have : data = [] := List.eq_nil_of_length_eq_zero (by omega)
    subst this
    exact ⟨[], ps, by simp only [encLoop, dprog, Prog.encRun, List.reverse_nil, List.nil_append, List.length_nil]⟩
  | succ f ih =>
    intro data prev ip k e ps acc hlen hb
    cases data with
    | nil =>
      exact ⟨[], ps, by simp only [encLoop, dprog, Prog.encRun, List.reverse_nil, List.nil_append, List.length_nil]⟩
    | cons b r =>
      have hlr : r.length ≤ f := by simp only [List.length_cons] at hlen; omega
      have hbr : ∀ x ∈ r, x < 256 := fun x hx => hb x (List.mem_cons_of_mem _ hx)
      by_cases hop : isOp prev b = false
      · simp only [encLoop, hop, if_true]
        obtain ⟨bits, ps', hh⟩ := ih r b ((ip + 1) % M32) k e ps (b :: acc) hlr hbr
        refine ⟨bits, ps', ?_⟩
        rw [List.length_cons, dprog_lit hop, hh]
        simp only [List.reverse_cons, List.append_assoc, List.singleton_append]
      · have hop' : isOp prev b = true := by simpa using hop
        by_cases hnc : r.length < 4 ∨ convert k = false
        · obtain ⟨bits, ps', hh⟩ := ih r b ((ip + 1) % M32) (k + 1) _ _ (b :: acc) hlr hbr
          refine ⟨false :: bits, ps', ?_⟩
          rw [encLoop_noconv hop' hnc rfl, List.length_cons,
            encRun_bit hop', afterBit, if_pos rfl, hh]
          simp only [List.reverse_cons, List.append_assoc, List.singleton_append]
        · rcases r with _ | ⟨x0, _ | ⟨x1, _ | ⟨x2, _ | ⟨x3, r'⟩⟩⟩⟩
          iterate 4 exact absurd (Or.inl (by simp)) hnc
          have hc : convert k = true := by simpa using fun h => hnc (Or.inr h)
          have hbr' : ∀ x ∈ r', x < 256 := fun x hx => hbr x (by simp [hx])
          have hlr' : r'.length ≤ f := by simp only [List.length_cons] at hlr; omega
          obtain ⟨d3, d2, d1, d0, hrel⟩ :=
            le_digits x0 x1 x2 x3 (hb x0 (by simp)) (hb x1 (by simp)) (hb x2 (by simp)) (hb x3 (by simp))
          obtain ⟨bits, ps', hh⟩ := ih r' x3 (((ip + 1) % M32 + 4) % M32) (k + 1)
            (encodeBitP e (ps.get (probIdx prev b)) true)
            (ps.set (probIdx prev b) (updProb (ps.get (probIdx prev b)) true))
            (x3 :: x2 :: x1 :: x0 :: b :: acc) hlr' hbr'
          refine ⟨true :: bits, ps', ?_⟩
          rw [encLoop_conv hop' hc rfl,
            show (b :: x0 :: x1 :: x2 :: x3 :: r').length = (r'.length + 4) + 1 from rfl,
            encRun_bit hop', afterBit, if_neg Bool.noConfusion, addrStep_enc hrel (by omega),
            d3, d2, d1, d0, Nat.add_sub_cancel]
          simp only [List.reverse_cons, List.append_assoc, List.cons_append, List.nil_append]
          exact hh

end LzmaVerif.Bcj2

namespace LzmaVerif.Bcj2
open LzmaVerif Rc

theorem rcInit_ok (b1 b2 b3 b4 : Nat) (tl : List Nat)
    (hc : ((b1 * 256 + b2) * 256 + b3) * 256 + b4 < 0xFFFFFFFF) :
    rcInit (0 :: b1 :: b2 :: b3 :: b4 :: tl)
      = .ok { range := 0xFFFFFFFF, code := ((b1 * 256 + b2) * 256 + b3) * 256 + b4, inp := tl, over := 0 } := by
  simp only [rcInit, ne_eq, not_true_eq_false, if_false]
  rw [if_neg (by omega)]

theorem decode_of_init {rc : List Nat} {d0 : Dec} (h : Dec.init rc = some d0) (hc : d0.code < 0xFFFFFFFF)
    {main call jump : List Nat} {n : Nat} (hn : n ≠ 0) :
    decode main call jump rc n = scan main n 0 0 call jump d0 probs0 [] := by
  obtain ⟨b1, b2, b3, b4, tl, rfl, rfl⟩ := init_inv h
  unfold decode
  rw [if_neg hn, rcInit_ok b1 b2 b3 b4 tl hc]

theorem enc_run (convert : Nat → Bool) (data : List Nat) (h : ∀ b ∈ data, b < 256) :
    ∃ (ps' : Probs) (d0 d' : Dec),
      Dec.init (encode convert data).rc = some d0 ∧ d0.code < 0xFFFFFFFF ∧ norm d0 = some d0 ∧
      (dprog (encode convert data).main data.length 0 0 (encode convert data).call
          (encode convert data).jump []).decRun probs0 d0 = (.fin .main 0 data.reverse [] [], ps', d') ∧
      d'.normalize.over = 0 ∧ d'.normalize.inp = [] ∧ d'.normalize.code = 0 := by
  simp only [encode]
  obtain ⟨bits, ps', henc⟩ :=
    enc_prog convert data.length data 0 0 0 Enc.init probs0 [] (Nat.le_refl _) h
  generalize encLoop convert data.length data 0 0 0 Enc.init probs0 = t at henc ⊢
  -- the check `code == 0xFFFFFFFF` after the 5 init bytes never fires: the first `code` is below the first `range`
  obtain ⟨d0, d', hinit, hr, hclt, hdec, hinp, hov, _, hcode, _⟩ :=
    rc_roundtrip_full _ bits probs0 (ProbsOk_replicate 258) _ [] ps' t.2.2.2 henc []
  rw [List.append_nil] at hinit hdec
  have hn0 : norm d0 = some d0 := by
    unfold norm; rw [if_neg (by rw [hr]; omega)]
  exact ⟨ps', d0, d', hinit, hclt, hn0, hdec, hov, hinp, hcode⟩

/-- C11: for every byte string and every decision function (which opcodes to convert) -/
theorem bcj2_roundtrip (convert : Nat → Bool) (data : List Nat) (h : ∀ b ∈ data, b < 256) :
    decode (encode convert data).main (encode convert data).call (encode convert data).jump
      (encode convert data).rc data.length = .ok data := by
  by_cases hn : data.length = 0
  · have : data = [] := List.eq_nil_of_length_eq_zero hn
    subst this
    rfl
  · obtain ⟨ps', d0, d', hinit, hclt, hn0, hdec, hov, hfin, hcode⟩ := enc_run convert data h
    rw [decode_of_init hinit hclt hn]
    rcases scan_cut _ (List.append_nil _).symm (List.append_nil _).symm (List.append_nil _).symm hn0
      (List.append_nil _).symm hdec hov hfin with ⟨_, _, _, _, h1⟩ | ⟨h1, _⟩ | ⟨h1, _⟩ | ⟨h1, _⟩
    · exact h1.trans (by rw [hcode, finish_main0, List.reverse_reverse])
    · exact absurd rfl (h1.elim id fun h => h.elim id fun h => h.elim id id)
    · exact absurd rfl (h1.elim id id)
    · cases h1

set_option maxRecDepth 100000 in
/-- a converted `call` (rel `0x10000000`) and a converted `jmp` whose target wraps below 0 -/
example :
    decode [0xE8, 0xE9] [0x10, 0, 0, 5] [0xF1, 0, 0, 9] [0, 0xBF, 0xFF, 0xFC, 0] 10
      = .ok [0xE8, 0, 0, 0, 0x10, 0xE9, 0xFF, 0xFF, 0xFF, 0xF0] := by
  decide +kernel

/-- mixed decisions (every second opcode converted), `0F 84`, `E8` with rel = -1, `0F 80`,
    and three opcodes in the last four bytes (never converted) -/
def exData : List Nat :=
  [1, 0x0F, 0x84, 1, 2, 3, 4, 0xE8, 0xFF, 0xFF, 0xFF, 0xFF, 0x0F, 0x80, 0xE8, 0xE9, 1]

example : decode (encode (fun k => k % 2 == 0) exData).main (encode (fun k => k % 2 == 0) exData).call
    (encode (fun k => k % 2 == 0) exData).jump (encode (fun k => k % 2 == 0) exData).rc 17 = .ok exData :=
  bcj2_roundtrip (fun k => k % 2 == 0) exData (by decide)

example : (encode (fun k => k % 2 == 0) exData).main = [1, 0x0F, 0x84, 0xE8, 0xFF, 0xFF, 0xFF, 0xFF, 0x0F, 0x80, 0xE8, 0xE9, 1]
    ∧ (encode (fun k => k % 2 == 0) exData).jump = [4, 3, 2, 8] := by
  constructor <;> rfl


set_option maxRecDepth 100000 in
example : roundtrip (fun _ => true) [0xE8, 0xFC, 0xFF, 0xFF, 0xFF] = true := by decide +kernel   -- rel = -4: abs = 1 (wraps)
set_option maxRecDepth 100000 in
example : roundtrip (fun _ => true) [0xE8, 0xE8, 0xE8, 0xE8, 0xE8, 0x0F, 0x0F, 0x8F, 0xE9] = true := by decide +kernel
set_option maxRecDepth 100000 in
example : roundtrip (fun _ => false) [0xE8, 0, 0, 0, 0x10, 0xE9, 0xFF, 0xFF, 0xFF, 0xF0] = true := by decide +kernel

set_option maxRecDepth 100000 in
/-- Behaviour of `BCJ2Reader` kept by the model: the
    last byte is an opcode whose bit says "converted": with 1..3 bytes left in CALL the stream is
    accepted (no finish check), with an empty CALL it is rejected; `code ≠ 0` at the end is
    rejected (rc `00 00 00 00 01`). -/
example : decode [0xE8] [0x10, 0, 0] [] [0, 0xBF, 0xFF, 0xFC, 0] 1 = .ok [0xE8]
    ∧ decode [0xE8] [] [] [0, 0xBF, 0xFF, 0xFC, 0] 1 = .error .notFinished
    ∧ decode [1, 2] [] [] [0, 0, 0, 0, 1] 2 = .error .notFinished
    ∧ decode [1, 2, 3] [] [] [0, 0, 0, 0, 1] 2 = .error .notFinished := by
  decide +kernel

set_option maxRecDepth 100000 in
/-- truncated MAIN / RC streams: `UnexpectedEof` -/
example : decode [1, 2] [] [] [0, 0, 0, 0, 0] 5 = .error .eof ∧ decode [1, 2] [] [] [0, 0] 5 = .error .eof := by
  decide +kernel

end LzmaVerif.Bcj2

#print axioms LzmaVerif.Bcj2.bcj2_roundtrip
#print axioms LzmaVerif.Bcj2.scan_cut
#print axioms LzmaVerif.Bcj2.enc_prog
#print axioms LzmaVerif.Bcj2.addr_roundtrip

namespace LzmaVerif.Bcj2
open LzmaVerif Rc


theorem drop_ne_nil_iff {l : List Nat} {k : Nat} : l.drop k ≠ [] ↔ k < l.length := by
  rw [ne_eq, List.drop_eq_nil_iff, Nat.not_le]

/-- **(a) MAIN, (b) CALL / JUMP**: decoding with prefixes of the three streams, at least one of them
    proper, ends in `UnexpectedEof`, or – only for a CALL/JUMP cut inside an address – in "error:3" -/
theorem trunc_mcj (convert : Nat → Bool) (data : List Nat) (h : ∀ b ∈ data, b < 256) (hne : data ≠ [])
    (e : Streams) (he : encode convert data = e) (m1 m2 c1 c2 j1 j2 : List Nat) (hm : e.main = m1 ++ m2)
    (hc : e.call = c1 ++ c2) (hj : e.jump = j1 ++ j2) (hcut : m2 ≠ [] ∨ c2 ≠ [] ∨ j2 ≠ []) :
    decode m1 c1 j1 e.rc data.length = .error .eof ∨
    ((c2 ≠ [] ∨ j2 ≠ []) ∧ decode m1 c1 j1 e.rc data.length = .error .shortAddr) := by
  subst he
  obtain ⟨ps', d0, d', hinit, hclt, hn0, hdec, hov, hfin, _⟩ := enc_run convert data h
  have hn : data.length ≠ 0 := fun h0 => hne (List.eq_nil_of_length_eq_zero h0)
  rw [decode_of_init hinit hclt hn]
  rcases scan_cut _ hm hc hj hn0 (List.append_nil _).symm hdec hov hfin
    with ⟨h1, h2, h3, _⟩ | ⟨_, h1⟩ | h1 | ⟨h1, _⟩
  · exact (hcut.elim (· h1) fun h => h.elim (· h2) (· h3)).elim
  · exact Or.inl h1
  · exact Or.inr h1
  · cases h1

def isErr (r : Except Err (List Nat)) : Prop := ∃ e, r = .error e

theorem isErr_of {r : Except Err (List Nat)} {a b : Err} {P : Prop}
    (h : r = .error a ∨ (P ∧ r = .error b)) : isErr r :=
  h.elim (fun h1 => ⟨a, h1⟩) fun h2 => ⟨b, h2.2⟩

/-- **(c)** every proper prefix of RC: `UnexpectedEof`, or, only when just the last byte is missing, the failed finish
    check ("error:5": the decoder stands at the RC stream); both occur (witnesses below) -/
theorem trunc_rc (convert : Nat → Bool) (data : List Nat) (h : ∀ b ∈ data, b < 256) (hne : data ≠ [])
    (k : Nat) :
    let e := encode convert data
    k < e.rc.length →
      decode e.main e.call e.jump (e.rc.take k) data.length = .error .eof ∨
      (k + 1 = e.rc.length ∧ decode e.main e.call e.jump (e.rc.take k) data.length = .error .notFinished) := by
  obtain ⟨ps', d0, d', hinit, hclt, hn0, hdec, hov, hfin, _⟩ := enc_run convert data h
  have hn : data.length ≠ 0 := fun h0 => hne (List.eq_nil_of_length_eq_zero h0)
  generalize encode convert data = e at *
  intro _ hk
  obtain ⟨b1, b2, b3, b4, tl, hrc, rfl⟩ := init_inv hinit
  unfold decode
  rw [if_neg hn, hrc]
  rw [hrc, List.length_cons, List.length_cons, List.length_cons, List.length_cons, List.length_cons] at hk
  rcases k with _ | _ | _ | _ | _ | k'
  iterate 5 exact Or.inl rfl
  · simp only [List.take_succ_cons]
    rw [rcInit_ok b1 b2 b3 b4 _ hclt]
    simp only
    have hx : tl.drop k' ≠ [] := drop_ne_nil_iff.mpr (by omega)
    rcases scan_cut _ (List.append_nil _).symm (List.append_nil _).symm (List.append_nil _).symm hn0
      (List.take_append_drop k' tl).symm hdec hov hfin
      with ⟨_, _, _, h1, _⟩ | ⟨_, h1⟩ | ⟨h1, _⟩ | ⟨hl, h2⟩
    · exact absurd h1 hx
    · left; exact h1
    · exact absurd rfl (h1.elim id id)
    · right
      refine ⟨?_, h2⟩
      rw [List.length_drop] at hl
      simp only [List.length_cons]
      omega

/-- **C05 summary**: for a non-empty `data`, replacing exactly one of the four streams of
    `encode convert data` by a proper prefix makes `decode` fail. -/
theorem trunc_any (convert : Nat → Bool) (data : List Nat) (h : ∀ b ∈ data, b < 256) (hne : data ≠ [])
    (k : Nat) :
    let e := encode convert data
    (k < e.main.length → isErr (decode (e.main.take k) e.call e.jump e.rc data.length)) ∧
    (k < e.call.length → isErr (decode e.main (e.call.take k) e.jump e.rc data.length)) ∧
    (k < e.jump.length → isErr (decode e.main e.call (e.jump.take k) e.rc data.length)) ∧
    (k < e.rc.length → isErr (decode e.main e.call e.jump (e.rc.take k) data.length)) := by
  have hmcj := trunc_mcj convert data h hne _ rfl
  refine ⟨fun hk => ?_, fun hk => ?_, fun hk => ?_, fun hk => ?_⟩
  · exact isErr_of (hmcj _ _ _ [] _ [] (List.take_append_drop k _).symm (List.append_nil _).symm
      (List.append_nil _).symm (Or.inl (drop_ne_nil_iff.mpr hk)))
  · exact isErr_of (hmcj _ [] _ _ _ [] (List.append_nil _).symm (List.take_append_drop k _).symm
      (List.append_nil _).symm (Or.inr (Or.inl (drop_ne_nil_iff.mpr hk))))
  · exact isErr_of (hmcj _ [] _ [] _ _ (List.append_nil _).symm (List.append_nil _).symm
      (List.take_append_drop k _).symm (Or.inr (Or.inr (drop_ne_nil_iff.mpr hk))))
  · exact isErr_of (trunc_rc convert data h hne k hk)

set_option maxRecDepth 100000 in
/-- both cases of `trunc_rc` occur: ten unconverted `E8`; the tenth bit makes a normalisation due
    after the last output byte; RC is `00 00 00 00 00 00` and its 5-byte prefix fails the finish
    check.  With eleven `E8` the same cut is `UnexpectedEof`. -/
example :
    (encode (fun _ => false) (List.replicate 10 0xE8)).rc = [0, 0, 0, 0, 0, 0] ∧
    decode (List.replicate 10 0xE8) [] [] [0, 0, 0, 0, 0] 10 = .error .notFinished ∧
    (encode (fun _ => false) (List.replicate 11 0xE8)).rc = [0, 0, 0, 0, 0, 0] ∧
    decode (List.replicate 11 0xE8) [] [] [0, 0, 0, 0, 0] 11 = .error .eof := by
  decide +kernel

set_option maxRecDepth 100000 in
/-- both error kinds of `trunc_mcj` occur: CALL `10 00 00 05` cut at 0 and at 2 -/
example :
    decode [0xE8, 0xE9] [] [0xF1, 0, 0, 9] [0, 0xBF, 0xFF, 0xFC, 0] 10 = .error .eof ∧
    decode [0xE8, 0xE9] [0x10, 0] [0xF1, 0, 0, 9] [0, 0xBF, 0xFF, 0xFC, 0] 10 = .error .shortAddr := by
  decide +kernel

end LzmaVerif.Bcj2

#print axioms LzmaVerif.Bcj2.trunc_mcj
#print axioms LzmaVerif.Bcj2.trunc_rc
#print axioms LzmaVerif.Bcj2.trunc_any

