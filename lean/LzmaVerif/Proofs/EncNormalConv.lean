/-
  Normal encoder: `convert_opts` + the pending path of `get_next_symbol` hand out the back-pointer chain: an in-place
  pointer reversal over `opts[]`, the scratch entries of the composite candidates (`set2` / `set3`) included.  No data,
  finder, price or probability is involved.
-/
import LzmaVerif.Proofs.EncNormalInv2

namespace LzmaVerif.EncNormal
open LzmaVerif Mf Lzma Rc EncFast EncPrices

def SameBut (x y : Opt) : Prop :=
  x.backPrev = y.backPrev ∧ x.prev1IsLiteral = y.prev1IsLiteral ∧ x.hasPrev2 = y.hasPrev2 ∧
    x.optPrev2 = y.optPrev2 ∧ x.backPrev2 = y.backPrev2

theorem pending_step (P : NormalParams) (d : Array UInt8) (p : Nat) (opts : Opts) (e f cur : Nat) (h : cur < e) :
    pending P d p opts e (f + 1) cur =
      (symOf P d (p + cur) (oat opts (oat opts cur).optPrev).backPrev ((oat opts cur).optPrev - cur),
        (oat opts cur).optPrev - cur) :: pending P d p opts e f (oat opts cur).optPrev := by
  rw [pending, if_pos h]

theorem chainOf_zero (P : NormalParams) (d : Array UInt8) (p : Nat) (opts : Opts) (fuel : Nat) :
    chainOf P d p opts fuel 0 = [] := by
  cases fuel with
  | zero => rfl
  | succ n => rw [chainOf, if_pos rfl]

theorem convertLoop_size : ∀ (fuel : Nat) (opts : Opts) (optCur optPrev : Nat),
    (convertLoop fuel opts optCur optPrev).size = opts.size
  | 0, opts, _, _ => rfl
  | fuel + 1, opts, optCur, optPrev => by
    rw [convertLoop]
    simp only [apply_ite Prod.fst, apply_ite Array.size, convertLoop_size fuel, Array.size_modify, ite_self]

/-- `opts` while the chain of `o0` is reversed, arrived at `x`: below `x` untouched; from `x` on the forward links spell
    `T`, whatever lies below `x` and whatever the fuel -/
structure Rev (P : NormalParams) (d : Array UInt8) (p e : Nat) (o0 opts : Opts) (x : Nat) (T : List (Sym × Nat)) :
    Prop where
  size : opts.size = o0.size
  low : ∀ k, k < x → oat opts k = oat o0 k
  fwd : ∀ opts' : Opts, (∀ k, x ≤ k → oat opts' k = oat opts k) → ∀ f, e - x < f → pending P d p opts' e f x = T

theorem Rev.link {P : NormalParams} {d : Array UInt8} {p e : Nat} {o0 opts : Opts} {x : Nat} {T : List (Sym × Nat)}
    (h : Rev P d p e o0 opts x T) {y : Nat} (hyx : y < x) (hxe : x ≤ e) (hsz : e < o0.size) (g : Opt → Opt)
    (hg : ∀ o, (g o).optPrev = x) :
    Rev P d p e o0 (opts.modify y g) y ((symOf P d (p + y) (oat opts x).backPrev (x - y), x - y) :: T) ∧
      oat (opts.modify y g) y = g (oat o0 y) := by
  have hy : y < opts.size := by
    rw [h.size]
    exact Nat.lt_trans hyx (Nat.lt_of_le_of_lt hxe hsz)
  have hyy : oat (opts.modify y g) y = g (oat o0 y) := by rw [oat_modify_self _ _ _ hy, h.low y hyx]
  refine ⟨⟨(Array.size_modify ..).trans h.size, fun k hk => ?_, fun opts' hag f hf => ?_⟩, hyy⟩
  · rw [oat_modify_ne _ _ _ _ (Nat.ne_of_gt hk)]
    exact h.low k (Nat.lt_trans hk hyx)
  · obtain ⟨f', rfl⟩ : ∃ n, f = n + 1 := Nat.exists_eq_add_one.mpr (Nat.zero_lt_of_lt hf)
    rw [pending_step P d p opts' e f' y (Nat.lt_of_lt_of_le hyx hxe), hag y (Nat.le_refl y), hyy, hg,
      hag x (Nat.le_of_lt hyx), oat_modify_ne _ _ _ _ (Nat.ne_of_lt hyx)]
    congr 1
    refine h.fwd opts' (fun k hk => ?_) f' (by omega)
    rw [hag k (Nat.le_trans (Nat.le_of_lt hyx) hk), oat_modify_ne _ _ _ _ (Nat.ne_of_lt (Nat.lt_of_lt_of_le hyx hk))]

theorem convertLoop_rev (P : NormalParams) (d : Array UInt8) (p : Nat) (o0 : Opts) (e : Nat)
    (hsh : ∀ i, 1 ≤ i → i ≤ e → Shape (oat o0 i) i) (hsz : e < o0.size) :
    ∀ (fuel x : Nat) (opts : Opts) (T : List (Sym × Nat)), 1 ≤ x → x ≤ e → x ≤ fuel → Rev P d p e o0 opts x T →
      SameBut (oat opts x) (oat o0 x) →
      ∀ fc, x ≤ fc → Rev P d p e o0 (convertLoop fuel opts x (oat o0 x).optPrev) 0 (chainOf P d p o0 fc x ++ T)
  | 0, x, opts, T, h1, _, hf, _, _ => by omega
  | fuel + 1, x, opts, T, h1, hxe, hf, hR, hsame => by
    intro fc hfc
    obtain ⟨sb, sp1, sp2, so2, sb2⟩ := hsame
    have hshape := hsh x h1 hxe
    obtain ⟨fc', rfl⟩ : ∃ n, fc = n + 1 := Nat.exists_eq_add_one.mpr (Nat.lt_of_lt_of_le h1 hfc)
    rw [chainOf, if_neg (Nat.ne_of_gt h1), List.append_assoc]
    -- the end of the iteration, shared by all shapes: `y` is the node the group starts from, `cx` the first index
    -- after it, `optsA` the array with the links from `cx` on written
    have fin : ∀ (optsA : Opts) (y cx : Nat) (T' : List (Sym × Nat)), y < cx → cx ≤ x → Rev P d p e o0 optsA cx T' →
        Rev P d p e o0
            (if y = 0 then optsA.modify y fun o => { o with optPrev := cx }
             else convertLoop fuel (optsA.modify y fun o => { o with optPrev := cx }) y (oat optsA y).optPrev) 0
          (chainOf P d p o0 fc' y ++ (symOf P d (p + y) (oat optsA cx).backPrev (cx - y), cx - y) :: T') := by
      intro optsA y cx T' hycx hcx hA
      have hyx : y < x := Nat.lt_of_lt_of_le hycx hcx
      obtain ⟨hy, hyy⟩ := hA.link hycx (Nat.le_trans hcx hxe) hsz (fun o => { o with optPrev := cx }) (fun _ => rfl)
      by_cases hy0 : y = 0
      · subst hy0
        rw [if_pos rfl, chainOf_zero, List.nil_append]
        exact hy
      · rw [if_neg hy0, hA.low y hycx]
        refine convertLoop_rev P d p o0 e hsh hsz fuel y _ _ (Nat.pos_of_ne_zero hy0)
          (Nat.le_trans (Nat.le_of_lt hyx) hxe) (Nat.le_of_lt_succ (Nat.lt_of_lt_of_le hyx hf)) hy ?_ fc'
          (Nat.le_of_lt_succ (Nat.lt_of_lt_of_le hyx hfc))
        rw [hyy]
        exact ⟨rfl, rfl, rfl, rfl, rfl⟩
    rw [convertLoop]
    simp only
    unfold Shape at hshape
    unfold groupOf
    rw [sp1]
    cases hp1 : (oat o0 x).prev1IsLiteral
    · simp only [hp1, Bool.false_eq_true, if_false] at hshape ⊢
      have := fin opts (oat o0 x).optPrev x T hshape.1 (Nat.le_refl _) hR
      rw [sb] at this
      exact this
    · -- `set2` / `set3`: the literal sits at `q`, the entry in front of the last node `q + 1` of the group
      simp only [hp1, if_true] at hshape ⊢
      obtain ⟨_, ho1, hoi, hh2⟩ := hshape
      rw [sp2]
      generalize (oat o0 x).optPrev = pv at ho1 hoi hh2 ⊢
      obtain ⟨q, rfl⟩ : ∃ q, pv = q + 1 := Nat.exists_eq_add_one.mpr ho1
      simp only [Nat.add_sub_cancel] at hh2 ⊢
      have hqx : q + 1 < x := Nat.lt_of_succ_lt hoi
      obtain ⟨h1, e1⟩ := hR.link hqx hxe hsz (fun o => { o with optPrev := x, backPrev := -1 }) (fun _ => rfl)
      rw [sb] at h1
      cases hp2 : (oat o0 x).hasPrev2
      · simp only [Bool.false_eq_true, if_false]
        have := fin _ q (q + 1) _ (Nat.lt_succ_self q) (Nat.le_of_lt hqx) h1
        simp only [e1, Nat.add_sub_cancel_left, symOf_lit] at this
        exact this
      · obtain ⟨_, hlx⟩ := hh2 hp2
        simp only [if_true]
        rw [sb2, so2]
        generalize (oat o0 x).optPrev2 = y at hlx ⊢
        obtain ⟨h2, e2⟩ := h1.link (Nat.lt_succ_self q) (Nat.le_trans (Nat.le_of_lt hqx) hxe) hsz
          (fun o => { o with optPrev := q + 1, backPrev := (oat o0 x).backPrev2 }) (fun _ => rfl)
        simp only [e1, Nat.add_sub_cancel_left, symOf_lit] at h2
        have := fin _ y q _ (by omega) (Nat.le_of_lt (Nat.lt_of_succ_lt hqx)) h2
        simp only [e2] at this
        exact this

theorem convertLoop_spec (P : NormalParams) (d : Array UInt8) (p : Nat) (o0 : Opts) (e : Nat)
    (hsh : ∀ i, 1 ≤ i → i ≤ e → Shape (oat o0 i) i) (hsz : e < o0.size) :
    ∀ (fuel x : Nat) (opts : Opts) (T : List (Sym × Nat)), 1 ≤ x → x ≤ e → x ≤ fuel → opts.size = o0.size →
      (∀ k, k < x → oat opts k = oat o0 k) → SameBut (oat opts x) (oat o0 x) →
      (∀ opts' : Opts, (∀ k, x ≤ k → oat opts' k = oat opts k) → ∀ f, e - x < f → pending P d p opts' e f x = T) →
      ∀ F fc, e < F → x ≤ fc →
        pending P d p (convertLoop fuel opts x (oat o0 x).optPrev) e F 0 = chainOf P d p o0 fc x ++ T :=
  fun fuel x opts T h1 hxe hf hs hlow hsame hrob F fc hF hfc =>
    (convertLoop_rev P d p o0 e hsh hsz fuel x opts T h1 hxe hf ⟨hs, hlow, hrob⟩ hsame fc hfc).fwd _ (fun _ _ => rfl) F hF

theorem pending_end (P : NormalParams) (d : Array UInt8) (p : Nat) (opts : Opts) (e f : Nat) :
    pending P d p opts e f e = [] := by
  cases f with
  | zero => rfl
  | succ n => rw [pending, if_neg (Nat.lt_irrefl e)]

/-- for every array whose entries `1 ..= cur` have the shape written by `set1` / `set2` / `set3` -/
theorem convertOpts_spec (P : NormalParams) (d : Array UInt8) (p : Nat) (opts : Opts) (cur : Nat) (hs : opts.size = P.opts)
    (h1 : 1 ≤ cur) (hlt : cur < P.opts) (hsh : ∀ i, 1 ≤ i → i ≤ cur → Shape (oat opts i) i) :
    pending P d p (convertOpts P opts cur) cur P.opts 0 = chainOf P d p opts cur cur ∧
      (convertOpts P opts cur).size = opts.size := by
  refine ⟨?_, convertLoop_size _ _ _ _⟩
  rw [← List.append_nil (chainOf P d p opts cur cur)]
  exact convertLoop_spec P d p opts cur hsh (hs ▸ hlt) P.opts cur opts [] h1 (Nat.le_refl _) (Nat.le_of_lt hlt) rfl
    (fun k _ => rfl) ⟨rfl, rfl, rfl, rfl, rfl⟩ (fun opts' _ f _ => pending_end P d p opts' cur f) P.opts cur hlt
    (Nat.le_refl _)

end LzmaVerif.EncNormal
