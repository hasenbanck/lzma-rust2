import LzmaVerif.Proofs.LzDecoderInv
/-!
Every method of `LZDecoder` preserves the invariant under the callers' preconditions, never fails with
`.oob` / `.arith` / `.debugAssert` / `.diverge`, and acts on the ghost history like the unbounded model.
-/
namespace LzmaVerif.LzDecoder
open LzmaVerif LzmaVerif.Lzma

/-- `s` after `c` more bytes have been written at `pos`, leaving the buffer `b`: the way `put_byte`, `repeat`
    and `copy_uncompressed` advance `pos` and raise `full` -/
def State.wrote (s : State) (b : Array Nat) (c : Nat) : State :=
  { s with buf := b, pos := s.pos + c, full := if s.full < s.pos + c then s.pos + c else s.full }

/-- what the caller may rely on after a method that has written `c` bytes and left `(pd, pl)` as the
    pending match -/
structure Post (s s' : State) (c pl pd : Nat) : Prop where
  pos : s'.pos = s.pos + c
  pendingLen : s'.pendingLen = pl
  pendingDist : s'.pendingDist = pd
  bufSize : s'.bufSize = s.bufSize
  start : s'.start = s.start
  limit : s'.limit = s.limit

theorem Post.trans {s s₁ s₂ : State} {c c₁ c₂ pl pd : Nat} (p : Post s s₁ c₁ pl pd)
    (q : Post s₁ s₂ c₂ s₁.pendingLen s₁.pendingDist) (hc : c₁ + c₂ = c) : Post s s₂ c pl pd :=
  ⟨by rw [q.pos, p.pos, Nat.add_assoc, hc], q.pendingLen.trans p.pendingLen, q.pendingDist.trans p.pendingDist,
    q.bufSize.trans p.bufSize, q.start.trans p.start, q.limit.trans p.limit⟩

/-- a write that extends the represented history keeps the invariant; if nothing is written, the zero that
    `new` / `reset` left in the last slot must still be there -/
theorem wrote_spec {s : State} {H T : Hist} {base c : Nat} {b : Array Nat} (hi : Inv s H base)
    (hr : Rep b s.bufSize (s.pos + c) base T)
    (hz : 0 < c ∨ b.getD (s.bufSize - 1) 0 = s.buf.getD (s.bufSize - 1) 0) :
    Inv (s.wrote b c) T base ∧ Post s (s.wrote b c) c s.pendingLen s.pendingDist := by
  have hle := hr.pos_le
  have hpf := hi.pos_le_full
  obtain ⟨f, hf, h1, h2, h3⟩ : ∃ f, (s.wrote b c).full = f ∧ s.full ≤ f ∧ s.pos + c ≤ f ∧ (f = s.full ∨ f = s.pos + c) := by
    unfold State.wrote
    split
    · exact ⟨s.pos + c, rfl, by omega, Nat.le_refl _, Or.inr rfl⟩
    · exact ⟨s.full, rfl, Nat.le_refl _, by omega, Or.inl rfl⟩
  refine ⟨⟨hr, Nat.le_trans hi.start_le (Nat.le_add_right _ _), hi.limit_le, ?_, ?_⟩, rfl, rfl, rfl, rfl, rfl, rfl⟩
  · rw [hf]
    rcases hi.full_eq with ⟨h4, h5⟩ | ⟨h4, h5⟩
    · exact Or.inl ⟨h4, by show f = s.pos + c; omega⟩
    · exact Or.inr ⟨h4, by show f = s.bufSize; omega⟩
  · intro h0
    rw [hf] at h0
    rcases hz with h | h
    · omega
    · exact h.trans (hi.zero (by omega))

theorem wrote_of_full (s : State) (b : Array Nat) (c : Nat) (h : s.pos + c ≤ s.full) :
    s.wrote b c = { s with buf := b, pos := s.pos + c } := by
  unfold State.wrote
  rw [if_neg (by omega)]

theorem repeatTail_spec {s : State} {H : Hist} {base d back left : Nat} (hi : Inv s H base)
    (hb : back + d + 1 = s.pos) (hl : 0 < left) (hfit : s.pos + left ≤ s.bufSize) :
    ∃ s', s.repeatTail d back left = .ok s' ∧ Inv s' (Hist.copy H d left) base ∧
      Post s s' left s.pendingLen s.pendingDist := by
  have hr := hi.rep
  have hsz := hr.size
  unfold State.repeatTail
  rw [if_neg (by omega), if_neg (by omega)]
  by_cases hdl : d ≥ left
  · simp only [hdl, if_true]
    rw [copyFromFirstHalf_ok _ _ _ _ (by omega) (by omega)]
    exact ⟨_, rfl, wrote_spec hi (hr.copy_cur hb (by omega) hfit) (Or.inl hl)⟩
  · simp only [hdl, if_false]
    obtain ⟨b, hrun, hrep⟩ := copyLoop_spec hr hb hl hfit
    rw [hrun]
    exact ⟨_, rfl, wrote_spec hi hrep (Or.inl hl)⟩

/-- the first copy of a `repeat` whose distance wraps around the end of the buffer: `c` bytes from `src` in
    the previous lap.  `full` is `bufSize` already and is left alone (`repeat` may return right after) -/
theorem wrapCopy_spec {s : State} {H : Hist} {base d src c : Nat} (hi : Inv s H base) (hf : s.pos < s.full)
    (hs : src + d + 1 = s.bufSize + s.pos) (hp : s.pos ≤ src) (hsrc : src + c ≤ s.bufSize) (hc : 0 < c) :
    ∃ b, copyWithin s.buf src c s.pos = .ok b ∧
      Inv { s with buf := b, pos := s.pos + c } (Hist.copy H d c) base ∧
      Post s { s with buf := b, pos := s.pos + c } c s.pendingLen s.pendingDist := by
  obtain ⟨hbase, hfull⟩ := hi.wrapped hf
  have hsz := hi.rep.size
  refine ⟨_, copyWithin_ok _ _ _ _ (by omega) (by omega), ?_⟩
  rw [← wrote_of_full _ _ _ (by omega)]
  exact wrote_spec hi (hi.rep.copy_old hbase hs hsrc hp) (Or.inl hc)

theorem repeat_spec {s : State} {H : Hist} {base dist len : Nat} (hi : Inv s H base)
    (hspace : s.pos < s.limit) (hd : dist < s.full) (hlen : 1 ≤ len) :
    ∃ s', s.repeat dist len = .ok s' ∧ Inv s' (Hist.copy H dist (min (s.limit - s.pos) len)) base ∧
      Post s s' (min (s.limit - s.pos) len) (len - min (s.limit - s.pos) len) dist := by
  have hlim := hi.limit_le
  unfold State.repeat
  rw [if_neg (Nat.not_le_of_lt hd), if_neg (Nat.not_lt_of_le (Nat.le_of_lt hspace))]
  generalize hleft : min (s.limit - s.pos) len = left
  obtain ⟨hl0, hl1⟩ : 0 < left ∧ s.pos + left ≤ s.bufSize := by omega
  clear hleft hlim hspace hlen
  -- from here on `repeat` works on the state with the pending match recorded
  have hi0 := hi.pending (len - left) dist
  have p0 : Post s { s with pendingLen := len - left, pendingDist := dist } 0 (len - left) dist :=
    ⟨rfl, rfl, rfl, rfl, rfl, rfl⟩
  simp only []
  by_cases hw : s.pos < dist + 1
  · have hpf : s.pos < s.full := Nat.lt_of_le_of_lt (Nat.le_of_lt_succ hw) hd
    have hfull := (hi.wrapped hpf).2
    rw [if_pos hw, if_neg (fun h => h hfull),
      if_neg (Nat.not_lt_of_le (Nat.le_trans (Nat.succ_le_of_lt (hfull ▸ hd)) (Nat.le_add_right _ _))),
      if_neg (by omega)]
    generalize hsrc : s.bufSize + s.pos - dist - 1 = src
    obtain ⟨hs, hps⟩ : src + dist + 1 = s.bufSize + s.pos ∧ s.pos ≤ src := by omega
    clear hsrc hd
    generalize hcs : min (s.bufSize - src) left = cs
    obtain ⟨hc0, hcl, hcs'⟩ : 0 < cs ∧ cs ≤ left ∧ src + cs ≤ s.bufSize := by omega
    obtain ⟨b, hcw, hi1, p1⟩ := wrapCopy_spec (d := dist) hi0 hpf hs hps hcs' hc0
    rw [hcw]
    simp only []
    by_cases hlt : cs < left
    · -- the match goes on from slot 0
      rw [if_neg (Nat.sub_ne_zero_of_lt hlt)]
      obtain ⟨s', hrun, hi', p'⟩ := repeatTail_spec (d := dist) (back := 0) (left := left - cs) hi1
        (by show 0 + dist + 1 = s.pos + cs; omega) (Nat.sub_pos_of_lt hlt)
        (by show s.pos + cs + (left - cs) ≤ s.bufSize; rw [Nat.add_assoc, Nat.add_sub_cancel' hcl]; exact hl1)
      rw [← copy_add, Nat.add_sub_cancel' hcl] at hi'
      exact ⟨s', hrun, hi', (p0.trans p1 (Nat.zero_add _)).trans p' (Nat.add_sub_cancel' hcl)⟩
    · -- it ends inside the previous lap
      obtain rfl : cs = left := Nat.le_antisymm hcl (Nat.le_of_not_lt hlt)
      exact ⟨_, if_pos (Nat.sub_self _), hi1, p0.trans p1 (Nat.zero_add _)⟩
  · rw [if_neg hw]
    obtain ⟨s', hrun, hi', p'⟩ := repeatTail_spec (d := dist) (back := s.pos - dist - 1) hi0
      (by show s.pos - dist - 1 + dist + 1 = s.pos
          rw [Nat.sub_sub, Nat.add_assoc, Nat.sub_add_cancel (Nat.le_of_not_lt hw)]) hl0 hl1
    exact ⟨s', hrun, hi', p0.trans p' (Nat.zero_add _)⟩

theorem repeatPending_spec {s : State} {H : Hist} {base : Nat} (hi : Inv s H base)
    (hd : 0 < s.pendingLen → s.pos < s.limit ∧ s.pendingDist < s.full) :
    ∃ s', s.repeatPending = .ok s' ∧
      Inv s' (Hist.copy H s.pendingDist (min (s.limit - s.pos) s.pendingLen)) base ∧
      Post s s' (min (s.limit - s.pos) s.pendingLen) (s.pendingLen - min (s.limit - s.pos) s.pendingLen)
        s.pendingDist := by
  unfold State.repeatPending
  by_cases hp : s.pendingLen > 0
  · rw [if_pos hp]
    exact repeat_spec hi (hd hp).1 (hd hp).2 hp
  · rw [if_neg hp]
    have hm : min (s.limit - s.pos) s.pendingLen = 0 := by omega
    rw [hm, copy_zero]
    exact ⟨s, rfl, hi, ⟨rfl, rfl, rfl, rfl, rfl, rfl⟩⟩

theorem presetUsed_some (dict : Nat) (p : List Nat) : (presetUsed dict (some p)).length = min p.length dict := by
  simp only [presetUsed, List.length_drop]
  omega

theorem presetUsed_length (dict : Nat) (preset : Option (List Nat)) :
    (presetUsed dict preset).length ≤ dict := by
  cases preset with
  | none => exact Nat.zero_le _
  | some p => exact presetUsed_some dict p ▸ Nat.min_le_right _ _

theorem new_spec (dict : Nat) (preset : Option (List Nat)) :
    Inv (new dict preset) (presetUsed dict preset).toArray 0 ∧ (new dict preset).start = (new dict preset).pos ∧
      (new dict preset).pendingLen = 0 ∧ (new dict preset).bufSize = dict ∧
      (new dict preset).pos = (presetUsed dict preset).length := by
  cases preset with
  | none =>
    exact ⟨⟨Rep.empty Array.size_replicate, Nat.le_refl _, Nat.zero_le _, Or.inl ⟨rfl, rfl⟩, fun _ => Mf.getD_replicate _ _⟩,
      rfl, rfl, rfl, rfl⟩
  | some p =>
    -- the preset is written into the empty buffer like any other block of bytes
    have hlen := presetUsed_some dict p
    have hsz : 0 + (presetUsed dict (some p)).toArray.size = min p.length dict := by
      rw [Nat.zero_add, List.size_toArray, hlen]
    have hrep := (Rep.empty (buf := Array.replicate dict 0) Array.size_replicate).append_step
      (presetUsed dict (some p)).toArray (hsz ▸ Nat.min_le_right _ _)
    rw [hsz, Array.empty_append] at hrep
    refine ⟨⟨hrep, Nat.le_refl _, Nat.zero_le _, Or.inl ⟨rfl, rfl⟩, fun h0 => ?_⟩, rfl, rfl, rfl, hlen.symm⟩
    change min p.length dict = 0 at h0
    show (blit _ 0 (presetUsed dict (some p)).toArray).getD (dict - 1) 0 = 0
    rw [blit_getD _ _ _ _ (by rw [hsz, Array.size_replicate]; exact Nat.min_le_right _ _),
      if_neg (by rw [hsz, h0]; omega)]
    exact Mf.getD_replicate _ _

theorem reset_spec {s : State} {H : Hist} {base : Nat} (hi : Inv s H base) (hn : 1 ≤ s.bufSize) :
    ∃ s', s.reset = .ok s' ∧ Inv s' #[] 0 ∧ s'.start = 0 ∧ s'.pos = 0 ∧ s'.limit = 0 ∧ s'.bufSize = s.bufSize ∧
      s'.pendingLen = s.pendingLen ∧ s'.pendingDist = s.pendingDist := by
  have hsz := hi.rep.size
  unfold State.reset
  rw [if_neg (by omega), if_pos (by omega)]
  refine ⟨_, rfl, ⟨Rep.empty ?_, Nat.le_refl _, Nat.zero_le _, Or.inl ⟨rfl, rfl⟩, fun _ => ?_⟩, rfl, rfl, rfl, rfl, rfl, rfl⟩
  · simp only [Array.set!_eq_setIfInBounds, Array.size_setIfInBounds]
    exact hsz
  · simp only []
    rw [getD_set!, if_pos ⟨rfl, by omega⟩]

theorem setLimit_spec {s : State} {H : Hist} {base : Nat} (hi : Inv s H base) (n : Nat) :
    Inv (s.setLimit n) H base ∧ (s.setLimit n).pos ≤ (s.setLimit n).limit ∧
      (s.setLimit n).limit = min (n + s.pos) s.bufSize := by
  have := hi.rep.pos_le
  refine ⟨⟨hi.rep, hi.start_le, ?_, hi.full_eq, hi.zero⟩, ?_, rfl⟩
  · simp only [State.setLimit]; omega
  · simp only [State.setLimit]; omega

/-- `get_byte(dist)` is the history byte `dist+1` back; also for `dist = 0` on an empty dictionary, where
    the literal coder reads the zero that `new` / `reset` left in the last slot -/
theorem getByte_spec {s : State} {H : Hist} {base : Nat} (hi : Inv s H base) (dist : Nat)
    (hd : dist < s.full ∨ (dist = 0 ∧ 1 ≤ s.bufSize)) : s.getByte dist = .ok (H.back dist) := by
  have hr := hi.rep
  have hsz := hr.size
  have hple := hr.pos_le
  unfold State.getByte
  by_cases hlt : dist < s.pos
  · rw [if_neg (Nat.not_le_of_lt hlt)]
    simp only []
    rw [if_pos (by omega), hr.back_cur (d := dist) (by omega)]
  · rw [if_pos (Nat.le_of_not_lt hlt)]
    simp only []
    by_cases hdf : dist < s.full
    · obtain ⟨hb, hfull⟩ := hi.wrapped (Nat.lt_of_le_of_lt (Nat.le_of_not_lt hlt) hdf)
      rw [if_neg (by omega), if_pos (by omega), hr.back_old (d := dist) hb (by omega) (by omega) (by omega)]
    · -- nothing written yet
      obtain ⟨rfl, hn⟩ := hd.resolve_left hdf
      have hf0 : s.full = 0 := Nat.eq_zero_of_not_pos hdf
      have hp0 : s.pos = 0 := Nat.le_zero.1 (hf0 ▸ hi.pos_le_full)
      have hH := hi.full_eq_min
      rw [if_neg (by omega), if_pos (by omega), back_ge _ _ (by omega), hp0]
      exact congrArg _ (hi.zero hf0)

theorem putByte_spec {s : State} {H : Hist} {base : Nat} (hi : Inv s H base) (hspace : s.pos < s.limit) (b : Nat) :
    ∃ s', s.putByte b = .ok s' ∧ Inv s' (H.push b) base ∧ Post s s' 1 s.pendingLen s.pendingDist := by
  have hsz := hi.rep.size
  have hlim := hi.limit_le
  refine ⟨_, ?_, wrote_spec hi (hi.rep.put (by omega) b) (Or.inl Nat.one_pos)⟩
  unfold State.putByte
  exact if_pos (by omega)

structure FlushPost (s s' : State) : Prop where
  start : s'.start = s'.pos
  pendingLen : s'.pendingLen = s.pendingLen
  pendingDist : s'.pendingDist = s.pendingDist
  bufSize : s'.bufSize = s.bufSize
  pos_lt : 1 ≤ s.bufSize → s'.pos < s'.bufSize

/-- `flush` hands out the history bytes between the last flush and the write position; at the end of the
    buffer it starts the next lap -/
theorem flush_spec {s : State} {H : Hist} {base cap : Nat} (hi : Inv s H base) (hcap : s.pos - s.start ≤ cap) :
    ∃ s' base', s.flush cap = .ok ((H.extract (base + s.start) (base + s.pos)).toList, s') ∧ Inv s' H base' ∧
      FlushPost s s' := by
  have hr := hi.rep
  have hsz := hr.size
  have hple := hr.pos_le
  have hstart := hi.start_le
  unfold State.flush
  rw [if_neg (by omega)]
  simp only []
  rw [if_pos ⟨hcap, by omega⟩, Nat.add_sub_cancel' hstart, hr.extract_cur (Nat.le_refl _)]
  by_cases hw : s.pos = s.bufSize
  · rw [if_pos hw]
    refine ⟨_, base + s.bufSize, rfl, ⟨(hw ▸ hr).wrap, Nat.le_refl _, hi.limit_le, Or.inr ⟨Nat.le_add_left _ _, ?_⟩, hi.zero⟩,
      rfl, rfl, rfl, rfl, fun h => h⟩
    rcases hi.pos_eq_or with h | h
    · exact h ▸ hw
    · exact h
  · rw [if_neg hw]
    exact ⟨_, base, rfl, ⟨hr, Nat.le_refl _, hi.limit_le, hi.full_eq, hi.zero⟩, rfl, rfl, rfl, rfl,
      fun _ => Nat.lt_of_le_of_ne hple hw⟩

end LzmaVerif.LzDecoder
