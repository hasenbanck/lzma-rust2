import LzmaVerif.Proofs.ProgUnfold
import LzmaVerif.Proofs.RcRefine
import LzmaVerif.Proofs.RcDecode
/-!
One interpreter for decision programs.  A program is run against a *bit source*: a state machine that answers one
request at a time (`some i`: adaptive bit with probability slot `i`; `none`: direct bit) or fails.  `runBits`, `encRun`
and `decRun` are the runs against a bit string, the range encoder walking along a bit string, and the range decoder
(`runBits_eq_run`, `encRun_eq_run`, `decRun_eq_run`).  What holds for the runs of every program is proved for every
source: the bind law, a state map that commutes with the sources, induction over a run with its two corollaries (an
invariant of the source; two sources in step).
-/
namespace LzmaVerif
namespace Prog
open Rc

abbrev Src (σ : Type) := Option Nat → σ → Option (Bool × σ)

def ask {α : Type} : Option Nat → (Bool → Prog α) → Prog α
  | some i, k => bit i k
  | none, k => direct k

theorem ask_induction {α : Type} {motive : Prog α → Prop} (ret : ∀ a, motive (ret a))
    (ask : ∀ q k, (∀ b, motive (k b)) → motive (ask q k)) : ∀ p, motive p
  | .ret a => ret a
  | .bit i k => ask (some i) k fun b => ask_induction ret ask (k b)
  | .direct k => ask none k fun b => ask_induction ret ask (k b)

variable {α β σ τ : Type}

def run (o : Src σ) : Prog α → σ → Option (α × σ)
  | ret a, s => some (a, s)
  | bit i k, s => (o (some i) s).bind fun r => run o (k r.1) r.2
  | direct k, s => (o none s).bind fun r => run o (k r.1) r.2

theorem run_ask (o : Src σ) (q : Option Nat) (k : Bool → Prog α) (s : σ) :
    (ask q k).run o s = (o q s).bind fun r => run o (k r.1) r.2 := by
  cases q <;> rfl

theorem bind_ask (q : Option Nat) (k : Bool → Prog α) (f : α → Prog β) :
    (ask q k).bind f = ask q fun b => (k b).bind f := by
  cases q <;> rfl

theorem run_bind (o : Src σ) (f : α → Prog β) (p : Prog α) : ∀ s,
    (p.bind f).run o s = (p.run o s).bind fun r => (f r.1).run o r.2 := by
  induction p using ask_induction with
  | ret a => intro s; rfl
  | ask q k ih =>
    intro s
    rw [bind_ask, run_ask, run_ask]
    cases o q s with
    | none => rfl
    | some r => exact ih r.1 r.2

theorem run_map {o₁ : Src σ} {o₂ : Src τ} (f : σ → τ)
    (hf : ∀ q s, o₂ q (f s) = (o₁ q s).map fun r => (r.1, f r.2)) (p : Prog α) :
    ∀ s, p.run o₂ (f s) = (p.run o₁ s).map fun r => (r.1, f r.2) := by
  induction p using ask_induction with
  | ret a => intro s; rfl
  | ask q k ih =>
    intro s
    rw [run_ask, run_ask, hf]
    cases o₁ q s with
    | none => rfl
    | some r => exact ih r.1 r.2

theorem run_induction {o : Src σ} {motive : ∀ (p : Prog α) (s : σ) (a : α) (s' : σ), p.run o s = some (a, s') → Prop}
    (ret : ∀ a s, motive (ret a) s a s rfl)
    (ask : ∀ q k s b s₁ a s' (hq : o q s = some (b, s₁)) (h : (k b).run o s₁ = some (a, s')),
      motive (k b) s₁ a s' h → motive (ask q k) s a s' (by rw [run_ask, hq]; exact h)) :
    ∀ p s a s' h, motive p s a s' h := by
  intro p
  induction p using ask_induction with
  | ret a =>
    intro s a' s' h
    cases h
    exact ret a s
  | ask q k ih =>
    intro s a s' h
    have h' := h
    rw [run_ask] at h'
    cases hq : o q s with
    | none => rw [hq] at h'; cases h'
    | some r =>
      rw [hq] at h'
      exact ask q k s r.1 r.2 a s' hq h' (ih r.1 r.2 a s' h')

theorem run_inv {o : Src σ} {I : σ → Prop} (hstep : ∀ q s b s₁, o q s = some (b, s₁) → I s → I s₁)
    {p : Prog α} {s : σ} {a : α} {s' : σ} (h : p.run o s = some (a, s')) (hs : I s) : I s' := by
  induction p, s, a, s', h using run_induction with
  | ret a s => exact hs
  | ask q k s b s₁ a s' hq _ ih => exact ih (hstep q s b s₁ hq hs)

/-- two sources in step, with an absorbing escape set `Bad` -/
theorem run_sim {o₁ : Src σ} {o₂ : Src τ} {R : σ → τ → Prop} {Bad : σ → Prop}
    (hbad : ∀ q s b s₁, o₁ q s = some (b, s₁) → Bad s → Bad s₁)
    (hstep : ∀ q s t b s₁, o₁ q s = some (b, s₁) → R s t → Bad s₁ ∨ ∃ t₁, o₂ q t = some (b, t₁) ∧ R s₁ t₁)
    {p : Prog α} {s : σ} {a : α} {s' : σ} (h : p.run o₁ s = some (a, s')) {t : τ} (hR : R s t) :
    Bad s' ∨ ∃ t', p.run o₂ t = some (a, t') ∧ R s' t' := by
  induction p, s, a, s', h using run_induction generalizing t with
  | ret a s => exact .inr ⟨t, rfl, hR⟩
  | ask q k s b s₁ a s' hq hrun ih =>
    rcases hstep q s t b s₁ hq hR with hb | ⟨t₁, ht, hR₁⟩
    · exact .inl (run_inv hbad hrun hb)
    · rw [run_ask, ht]
      exact ih hR₁

def evOf (ps : Probs) : Option Nat → Bool → Ideal.Ev
  | some i, b => .bit (ps.get i) b
  | none, b => .direct b

def upd (ps : Probs) : Option Nat → Bool → Probs
  | some i, b => ps.set i (updProb (ps.get i) b)
  | none, _ => ps

theorem evBit_evOf (ps : Probs) (q : Option Nat) (b : Bool) : Ideal.evBit (evOf ps q b) = b := by
  cases q <;> rfl

/-- the decoder does not look at the answer an event carries: that is why `decSrc` may ask with `false` -/
theorem decodeEv_evOf (d : Dec) (ps : Probs) (q : Option Nat) (b : Bool) :
    decodeEv d (evOf ps q b) = decodeEv d (evOf ps q false) := by
  cases q <;> rfl

def bitsSrc : Src (List Bool) := fun _ bs =>
  match bs with
  | b :: bs => some (b, bs)
  | [] => none

def encSrc : Src (List Bool × Probs × Enc) := fun q s =>
  match s with
  | (b :: bs, ps, e) => some (b, bs, upd ps q b, encEv e (evOf ps q b))
  | ([], _, _) => none

/-- The decoder as a source.  It is written with projections and is used only through `decSrc_of` and `decSrc_eq`,
which name the result of the decoder operation by an equation.  Trap: the kernel compares `x.1`, or a pair `(x.1, _, x.2)`,
with a term that is not syntactically the same by unfolding `x`; for `x := d.decodeDirect1` that evaluates
`2^31 ≤ _ % 2^32` on open terms and does not come back (see `Proofs/ProgUnfold.lean`).  As long as the request `q` is a
variable, `evOf s.1 q false` is stuck and nothing is unfolded; where a concrete request is put for `q` (`decRun_eq_run`,
a call of `decRun_ask`), the result of the operation comes in through an equation `.. = (b, d')`, never as a projection. -/
def decSrc : Src (Probs × Dec) := fun q s =>
  some ((decodeEv s.2 (evOf s.1 q false)).1, upd s.1 q (decodeEv s.2 (evOf s.1 q false)).1,
    (decodeEv s.2 (evOf s.1 q false)).2)

theorem decSrc_of {q : Option Nat} {s : Probs × Dec} {b : Bool} {d₁ : Dec}
    (h : decodeEv s.2 (evOf s.1 q false) = (b, d₁)) : decSrc q s = some (b, upd s.1 q b, d₁) := by
  unfold decSrc
  rw [h]

theorem decSrc_eq {q : Option Nat} {s : Probs × Dec} {b : Bool} {s₁ : Probs × Dec}
    (h : decSrc q s = some (b, s₁)) : decodeEv s.2 (evOf s.1 q false) = (b, s₁.2) ∧ s₁.1 = upd s.1 q b := by
  cases h
  exact ⟨(Prod.eta _).symm, rfl⟩

theorem encSrc_eq {q : Option Nat} {s : List Bool × Probs × Enc} {b : Bool} {s₁ : List Bool × Probs × Enc}
    (h : encSrc q s = some (b, s₁)) :
    s.1 = b :: s₁.1 ∧ s₁.2.1 = upd s.2.1 q b ∧ s₁.2.2 = encEv s.2.2 (evOf s.2.1 q b) := by
  obtain ⟨_ | ⟨b', bs⟩, ps, e⟩ := s
  · cases h
  · cases h
    exact ⟨rfl, rfl, rfl⟩

theorem runBits_eq_run (p : Prog α) : ∀ bs, p.runBits bs = p.run bitsSrc bs := by
  induction p with
  | ret a => intro bs; rfl
  | bit i k ih =>
    intro bs
    cases bs with
    | nil => rfl
    | cons b bs => exact ih b bs
  | direct k ih =>
    intro bs
    cases bs with
    | nil => rfl
    | cons b bs => exact ih b bs

theorem encRun_eq_run (p : Prog α) : ∀ bs ps e, p.encRun bs ps e = p.run encSrc (bs, ps, e) := by
  induction p with
  | ret a => intro bs ps e; rfl
  | bit i k ih =>
    intro bs ps e
    cases bs with
    | nil => rfl
    | cons b bs => rw [encRun, encodeBitP_eq]; exact ih b bs _ _
  | direct k ih =>
    intro bs ps e
    cases bs with
    | nil => rfl
    | cons b bs => rw [encRun, encodeDirect1_eq]; exact ih b bs _ _

theorem decRun_eq_run (p : Prog α) : ∀ ps d, p.run decSrc (ps, d) = some (p.decRun ps d) := by
  induction p with
  | ret a => intro ps d; rfl
  | bit i k ih =>
    intro ps d
    rcases hx : d.decodeBitP (ps.get i) with ⟨b, d'⟩
    rw [decRun_bit_eq i k ps d b d' hx]
    show (ask (some i) k).run decSrc (ps, d) = _
    rw [run_ask, decSrc_of (q := some i) (s := (ps, d)) hx]
    exact ih b _ d'
  | direct k ih =>
    intro ps d
    rcases hx : d.decodeDirect1 with ⟨b, d'⟩
    rw [decRun_direct_eq k ps d b d' hx]
    show (ask none k).run decSrc (ps, d) = _
    rw [run_ask, decSrc_of (q := none) (s := (ps, d)) hx]
    exact ih b ps d'

/-- `run_of_decRun` and `decRun_ask` are how a proof about the decoder gets at `decRun`; `decRun_bit_eq` and
`decRun_direct_eq` of `Proofs/ProgUnfold.lean` are for `decRun_eq_run` alone. -/
theorem run_of_decRun {p : Prog α} {ps : Probs} {d : Dec} {r : α × Probs × Dec} (h : p.decRun ps d = r) :
    p.run decSrc (ps, d) = some r := by
  rw [decRun_eq_run, h]

theorem decRun_ask (q : Option Nat) (k : Bool → Prog α) (ps : Probs) (d : Dec) {b : Bool} {d' : Dec}
    (h : decodeEv d (evOf ps q false) = (b, d')) : (ask q k).decRun ps d = (k b).decRun (upd ps q b) d' := by
  apply Option.some.inj
  rw [← decRun_eq_run, run_ask, decSrc_of (s := (ps, d)) h, ← decRun_eq_run]
  rfl

theorem runBits_bind (p : Prog α) (f : α → Prog β) (bs : List Bool) :
    (bind p f).runBits bs = (p.runBits bs).bind (fun r => (f r.1).runBits r.2) := by
  simp only [runBits_eq_run, run_bind]

theorem encRun_bind (p : Prog α) (f : α → Prog β) (bits : List Bool) (ps : Probs) (e : Enc) :
    (bind p f).encRun bits ps e =
      (p.encRun bits ps e).bind (fun r => (f r.1).encRun r.2.1 r.2.2.1 r.2.2.2) := by
  simp only [encRun_eq_run, run_bind]

theorem encRun_append (p : Prog α) {bits : List Bool} {ps : Probs} {e : Enc} {a : α}
    {bs' : List Bool} {ps' : Probs} {e' : Enc} (h : p.encRun bits ps e = some (a, bs', ps', e'))
    (rest : List Bool) : p.encRun (bits ++ rest) ps e = some (a, bs' ++ rest, ps', e') := by
  rw [encRun_eq_run] at h ⊢
  -- the encoder on `bs ++ rest` is in step with the encoder on `bs`
  refine (run_sim (o₂ := encSrc) (R := fun s t => t = (s.1 ++ rest, s.2)) (Bad := fun _ => False)
    (fun _ _ _ _ _ hf => hf) (fun q s t b s₁ hq hR => .inr ⟨_, ?_, rfl⟩) h rfl).elim False.elim ?_
  · obtain ⟨_ | ⟨b', bs⟩, ps, e⟩ := s
    · cases hq
    · cases hq
      rw [hR]
      rfl
  · rintro ⟨t', ht, rfl⟩
    exact ht

theorem runBits_eq_encRun (p : Prog α) (bits : List Bool) (ps : Probs) (e : Enc) :
    p.runBits bits = (p.encRun bits ps e).map fun r => (r.1, r.2.1) := by
  rw [runBits_eq_run, encRun_eq_run]
  refine run_map (o₁ := encSrc) (fun s => s.1) (fun q s => ?_) p (bits, ps, e)
  obtain ⟨_ | ⟨b, bs⟩, ps, e⟩ := s
  · rfl
  · rfl

end Prog
end LzmaVerif
