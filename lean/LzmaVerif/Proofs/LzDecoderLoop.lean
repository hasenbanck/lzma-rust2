import LzmaVerif.Proofs.LzDecoderMethods
/-!
The reader loop over the cyclic buffer (`round`, `rounds`, `readCall`, `readAll` of `Model/LzDecoder.lean`)
against the unbounded history model (`Hist.push` / `Hist.copy` of `Model/Lzma.lean`).
-/
namespace LzmaVerif.LzDecoder
open LzmaVerif LzmaVerif.Lzma

def applySym (h : Hist) : Sym → Hist
  | .lit b => h.push b
  | .mtch d l => h.copy d l

def applySyms (h : Hist) : List Sym → Hist
  | [] => h
  | s :: r => applySyms (applySym h s) r

/-- what the symbol decoder guarantees before it calls the dictionary (`repeat` rejects the rest with
    "dist overflow"): a match has a positive length and reaches back at most to the first byte of the
    history (incl. the preset dictionary) and less than the dictionary size -/
def Admissible (n : Nat) : Hist → List Sym → Prop
  | _, [] => True
  | h, .lit b :: r => Admissible n (h.push b) r
  | h, .mtch d l :: r => 1 ≤ l ∧ d < h.size ∧ d < n ∧ Admissible n (h.copy d l) r

theorem ext_applySyms (syms : List Sym) (h : Hist) : Ext h (applySyms h syms) := by
  induction syms generalizing h with
  | nil => exact Ext.refl h
  | cons s r ih =>
    cases s with
    | lit b => exact (ext_push h b).trans (ih _)
    | mtch d l => exact (ext_copy h d l).trans (ih _)

theorem Ext.eq_append {H T : Hist} (h : Ext H T) : T = H ++ T.extract H.size T.size := by
  have h1 := extract_eq_of_getD T H 0 H.size 0 H.size rfl h.1 (Nat.le_refl _) fun j hj => by
    rw [Nat.zero_add] at hj ⊢; exact h.2 j hj
  have h2 : T.extract 0 H.size ++ T.extract H.size T.size = T := by
    rw [Array.extract_append_extract, Nat.zero_min, Nat.max_eq_right h.1, Array.extract_size]
  rw [h1, Array.extract_size] at h2
  exact h2.symm

/-- the history that will exist once the pending part of a cut match has been copied -/
def virt (s : State) (H : Hist) : Hist := Hist.copy H s.pendingDist s.pendingLen

theorem virt_idle {s : State} (h0 : s.pendingLen = 0) (H : Hist) : virt s H = H := by
  unfold virt; rw [h0]; rfl

/-- what holds at every point of the reader loop: after the pending part of a cut match, `rest` is still to
    be decoded; `Final` is what the unbounded model makes of everything -/
structure Sim (n : Nat) (s : State) (H : Hist) (base : Nat) (rest : List Sym) (Final : Hist) : Prop where
  inv : Inv s H base
  bufSize : s.bufSize = n
  /-- the distance of a cut match stays valid: the history only grows -/
  dist : 0 < s.pendingLen → s.pendingDist < H.size ∧ s.pendingDist < n
  adm : Admissible n (virt s H) rest
  fin : applySyms (virt s H) rest = Final

theorem Sim.idle {n s H base rest} (hi : Inv s H base) (hb : s.bufSize = n) (h0 : s.pendingLen = 0)
    (hadm : Admissible n H rest) : Sim n s H base rest (applySyms H rest) :=
  ⟨hi, hb, fun hp => absurd hp (h0 ▸ Nat.lt_irrefl 0), (virt_idle h0 H).symm ▸ hadm, by rw [virt_idle h0]⟩

theorem Sim.ext {n s H base rest Final} (h : Sim n s H base rest Final) : Ext H Final := by
  rw [← h.fin]
  exact (ext_copy _ _ _).trans (ext_applySyms _ _)

/-- inside the symbol loop -/
structure Decoding (n : Nat) (s : State) (H : Hist) (base : Nat) (rest : List Sym) (Final : Hist) : Prop
    extends Sim n s H base rest Final where
  pos_le : s.pos ≤ s.limit
  /-- a cut match leaves no space -/
  cut : 0 < s.pendingLen → s.pos = s.limit

/-- `repeat_pending` when a pending match has space for at least one byte: what fits is copied, and a rest
    stays pending only at the limit -/
theorem Sim.repeatPending {n s H base rest Final} (h : Sim n s H base rest Final) (hl : s.pos ≤ s.limit)
    (hs : 0 < s.pendingLen → s.pos < s.limit) :
    ∃ s₂ H₂, s.repeatPending = .ok s₂ ∧ Decoding n s₂ H₂ base rest Final ∧ Ext H H₂ ∧
      s₂.start = s.start ∧ s₂.limit = s.limit := by
  obtain ⟨s₂, hrun, hi₂, p⟩ := repeatPending_spec h.inv fun hp =>
    ⟨hs hp, h.inv.full_eq_min ▸ Nat.lt_min.2 (h.bufSize ▸ h.dist hp)⟩
  generalize hc : min (s.limit - s.pos) s.pendingLen = c at hi₂ p
  have hv : virt s₂ (Hist.copy H s.pendingDist c) = virt s H := by
    unfold virt
    rw [p.pendingLen, p.pendingDist, ← copy_add, Nat.add_sub_cancel' (by omega)]
  refine ⟨s₂, _, hrun, ⟨⟨hi₂, p.bufSize.trans h.bufSize, fun hp => ?_, hv ▸ h.adm, hv ▸ h.fin⟩, ?_, fun hp => ?_⟩,
    ext_copy _ _ _, p.start, p.limit⟩
  · rw [p.pendingLen] at hp
    rw [p.pendingDist, size_copy]
    exact ⟨Nat.lt_add_right _ (h.dist (by omega)).1, (h.dist (by omega)).2⟩
  · rw [p.pos, p.limit]
    omega
  · rw [p.pendingLen] at hp
    rw [p.pos, p.limit]
    omega

theorem Decoding.step {n s H base sym rest Final} (h : Decoding n s H base (sym :: rest) Final)
    (hs : s.pos < s.limit) :
    ∃ s₁ H₁, consume s (sym :: rest) = consume s₁ rest ∧ Decoding n s₁ H₁ base rest Final ∧ Ext H H₁ ∧
      s₁.start = s.start ∧ s₁.limit = s.limit := by
  -- while there is space no match is pending
  have hp0 : s.pendingLen = 0 := Nat.eq_zero_of_not_pos fun hp => Nat.ne_of_lt hs (h.cut hp)
  have hadm := h.adm
  have hfin := h.fin
  rw [virt_idle hp0] at hadm hfin
  cases sym with
  | lit b =>
    obtain ⟨s₁, hrun, hi₁, p⟩ := putByte_spec h.inv hs b
    have hp₁ : s₁.pendingLen = 0 := p.pendingLen.trans hp0
    refine ⟨s₁, H.push b, ?_, ⟨hfin ▸ Sim.idle hi₁ (p.bufSize.trans h.bufSize) hp₁ hadm, ?_,
      fun hp => absurd hp (hp₁ ▸ Nat.lt_irrefl 0)⟩, ext_push H b, p.start, p.limit⟩
    · simp only [consume, State.hasSpace, decide_eq_true_eq, hs, if_true, hrun]
    · rw [p.pos, p.limit]
      exact hs
  | mtch d l =>
    -- `repeat` is `repeat_pending` with the whole match pending
    obtain ⟨hl, hdH, hdn, hadmr⟩ := hadm
    have h₀ : Sim n { s with pendingLen := l, pendingDist := d } H base rest Final :=
      ⟨h.inv.pending l d, h.bufSize, fun _ => ⟨hdH, hdn⟩, hadmr, hfin⟩
    obtain ⟨s₁, H₁, hrun, r⟩ := h₀.repeatPending (Nat.le_of_lt hs) fun _ => hs
    have hrep : s.repeat d l = .ok s₁ := by
      rw [← hrun]
      exact (if_pos hl).symm
    refine ⟨s₁, H₁, ?_, r⟩
    simp only [consume, State.hasSpace, decide_eq_true_eq, hs, if_true, hrep]

theorem consume_spec {n : Nat} {Final H : Hist} {s : State} {base : Nat} (syms : List Sym)
    (h : Decoding n s H base syms Final) :
    ∃ s' rest H', consume s syms = .ok (s', rest) ∧ Decoding n s' H' base rest Final ∧ Ext H H' ∧
      s'.start = s.start ∧ s'.limit = s.limit ∧ (rest ≠ [] → s'.pos = s'.limit) := by
  induction syms generalizing s H with
  | nil => exact ⟨s, [], H, rfl, h, Ext.refl H, rfl, rfl, fun h => absurd rfl h⟩
  | cons sym rest ih =>
    by_cases hs : s.pos < s.limit
    · obtain ⟨s₁, H₁, hrun, h₁, hext, hst, hlm⟩ := h.step hs
      obtain ⟨s', rest', H', hrun', h', hext', hst', hlm', hprog⟩ := ih h₁
      exact ⟨s', rest', H', hrun.trans hrun', h', hext.trans hext', hst'.trans hst, hlm'.trans hlm, hprog⟩
    · refine ⟨s, sym :: rest, H, ?_, h, Ext.refl H, rfl, rfl, fun _ => Nat.le_antisymm h.pos_le (Nat.le_of_not_lt hs)⟩
      simp only [consume, State.hasSpace, decide_eq_true_eq, hs, if_false]

/-- between two iterations: everything decoded so far has been handed out -/
structure Between (n : Nat) (s : State) (H : Hist) (base : Nat) (rest : List Sym) (Final : Hist) : Prop
    extends Sim n s H base rest Final where
  start : s.start = s.pos
  room : 0 < s.pendingLen → s.pos < n

theorem Sim.flush {n s H base rest Final} (h : Sim n s H base rest Final) (hn : 1 ≤ n) {cap : Nat}
    (hcap : s.pos - s.start ≤ cap) :
    ∃ s' base', s.flush cap = .ok ((H.extract (base + s.start) (base + s.pos)).toList, s') ∧
      Between n s' H base' rest Final ∧ s'.pos < n ∧ s'.pendingLen = s.pendingLen := by
  obtain ⟨s', base', hrun, hi', q⟩ := flush_spec h.inv hcap
  have hbs : s'.bufSize = n := q.bufSize.trans h.bufSize
  have hpos : s'.pos < n := hbs ▸ q.pos_lt (h.bufSize ▸ hn)
  have hv : virt s' H = virt s H := by unfold virt; rw [q.pendingLen, q.pendingDist]
  refine ⟨s', base', hrun, ⟨⟨hi', hbs, fun hp => ?_, hv ▸ h.adm, hv ▸ h.fin⟩, q.start, fun _ => hpos⟩, hpos,
    q.pendingLen⟩
  rw [q.pendingDist]
  exact h.dist (q.pendingLen ▸ hp)

/-- `set_limit(sz); repeat_pending; symbols while has_space; flush`: the history grows by the bytes handed out -/
theorem round_spec {n : Nat} {s : State} {H : Hist} {base : Nat} {rest : List Sym} {Final : Hist}
    (hb : Between n s H base rest Final) (hn : 1 ≤ n) (sz : Nat) (hsz : 1 ≤ sz) :
    ∃ out s' rest' base', round s sz rest = .ok (out, s', rest') ∧ Between n s' (H ++ out.toArray) base' rest' Final ∧
      out.length ≤ sz ∧ s'.pos < n ∧
      (s.pos < n → out.length = min sz (n - s.pos) ∨ (rest' = [] ∧ s'.pendingLen = 0)) := by
  have hbs := hb.bufSize
  obtain ⟨hi₁, hle₁, hlim⟩ := setLimit_spec hb.inv sz
  obtain ⟨s₂, H₂, hrun₂, h₂, hext₂, hst₂, hlm₂⟩ :=
    Sim.repeatPending (s := s.setLimit sz) ⟨hi₁, hbs, hb.dist, hb.adm, hb.fin⟩ hle₁ fun hp =>
      hlim ▸ Nat.lt_min.2 ⟨Nat.lt_add_of_pos_left hsz, hbs ▸ hb.room hp⟩
  obtain ⟨s₃, rest', H₃, hrun₃, h₃, hext₃, hst₃, hlm₃, hprog⟩ := consume_spec rest h₂
  have hstart : s₃.start = s.pos := (hst₃.trans hst₂).trans hb.start
  have hlimit : s₃.limit - s.pos = min sz (n - s.pos) := by
    rw [hlm₃, hlm₂, hlim, hbs, ← Nat.sub_min_sub_right, Nat.add_sub_cancel]
  have hle : s₃.pos - s.pos ≤ sz :=
    Nat.le_trans (Nat.sub_le_sub_right h₃.pos_le _) (hlimit ▸ Nat.min_le_left _ _)
  obtain ⟨s₄, base₄, hrun₄, h₄, hpos₄, hpl₄⟩ := h₃.flush hn (cap := sz) (hstart ▸ hle)
  -- the bytes handed out are those the history has gained
  have htot := hb.inv.rep.total
  have htot₃ := h₃.inv.rep.total
  rw [hstart, ← htot, ← htot₃] at hrun₄
  have hlen : (H₃.extract H.size H₃.size).toList.length = s₃.pos - s.pos := by
    rw [Array.length_toList, Array.size_extract, Nat.min_self, htot, htot₃, Nat.add_sub_add_left]
  refine ⟨(H₃.extract H.size H₃.size).toList, s₄, rest', base₄, ?_, ?_, hlen ▸ hle, hpos₄, fun _ => ?_⟩
  · simp only [round, hrun₂, hrun₃, hrun₄]
  · rw [Array.toArray_toList, ← (hext₂.trans hext₃).eq_append]
    exact h₄
  · rw [hlen]
    by_cases hfull : s₃.pos = s₃.limit
    · exact Or.inl (hfull ▸ hlimit)
    · refine Or.inr ⟨Decidable.by_contra fun hr => hfull (hprog hr), ?_⟩
      rw [hpl₄]
      exact Nat.eq_zero_of_not_pos fun hp => hfull (h₃.cut hp)

end LzmaVerif.LzDecoder
