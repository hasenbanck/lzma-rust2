/-
  Facts about what the two match finders share (`Model/MfBase.lean`): `extend_match`, and what a table holds after a
  write.
-/
import LzmaVerif.Model.MfBase
namespace LzmaVerif.Mf

theorem extendMatch_ge (d : Array UInt8) (p delta limit cur : Nat) :
    cur ≤ extendMatch d p delta limit cur := by
  fun_induction extendMatch d p delta limit cur with
  | case1 cur h ih => omega
  | case2 cur h => exact Nat.le_refl _

theorem extendMatch_le (d : Array UInt8) (p delta limit cur : Nat) (h : cur ≤ limit) :
    extendMatch d p delta limit cur ≤ limit := by
  fun_induction extendMatch d p delta limit cur with
  | case1 cur hc ih => exact ih (by omega)
  | case2 cur hc => exact h

theorem extendMatch_eq (d : Array UInt8) (p delta limit cur : Nat) :
    ∀ i, cur ≤ i → i < extendMatch d p delta limit cur → byteAt d (p + i) = byteAt d (p + i - delta) := by
  fun_induction extendMatch d p delta limit cur with
  | case1 cur hc ih =>
    intro i hi hlt
    by_cases h : i = cur
    · subst h; exact hc.2
    · exact ih i (by omega) hlt
  | case2 cur hc =>
    intro i hi hlt; omega

theorem extendMatch_stop (d : Array UInt8) (p delta limit cur : Nat) (h : cur ≤ limit) :
    extendMatch d p delta limit cur = limit ∨
    byteAt d (p + extendMatch d p delta limit cur) ≠ byteAt d (p + extendMatch d p delta limit cur - delta) := by
  fun_induction extendMatch d p delta limit cur with
  | case1 cur hc ih => exact ih (by omega)
  | case2 cur hc =>
    by_cases h1 : cur < limit
    · right; intro he; exact hc ⟨h1, he⟩
    · left; omega

theorem getD_set (a : Array Nat) (i v j : Nat) :
    (a.setIfInBounds i v).getD j 0 = if i = j ∧ i < a.size then v else a.getD j 0 := by
  simp only [Array.getD_eq_getD_getElem?, Array.getElem?_setIfInBounds]
  by_cases h : i = j
  · subst h
    by_cases h2 : i < a.size
    · simp [h2]
    · simp [h2]
  · simp [h]

theorem getD_set_ne (a : Array Nat) (v : Nat) {i j : Nat} (h : i ≠ j) :
    (a.setIfInBounds i v).getD j 0 = a.getD j 0 := by
  rw [getD_set, if_neg fun hh => h hh.1]

theorem getD_set_self (a : Array Nat) (v : Nat) {i : Nat} (h : i < a.size) : (a.setIfInBounds i v).getD i 0 = v := by
  rw [getD_set, if_pos ⟨rfl, h⟩]

theorem getD_replicate (n i : Nat) : (Array.replicate n 0).getD i 0 = 0 := by
  simp only [Array.getD_eq_getD_getElem?, Array.getElem?_replicate]
  split <;> rfl

end LzmaVerif.Mf
