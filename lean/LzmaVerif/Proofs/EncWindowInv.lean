import LzmaVerif.Model.EncWindow
/-!
# Invariants of the encoder window (`Model/EncWindow.lean`), window level

`WPos` – the positional and content invariants that hold in every state (also while flushing);
`WInv` – `WPos` plus the exact meaning of `read_limit` in a run without `flush`.

What each window operation does to the positions is stated once, for any buffer type; the run without `flush`
(`EncWindowSim` ff.) and the run with `flush` (`EncWindowFlush`) both argue from it.
-/
namespace LzmaVerif.EncWindow

theorem align_ok : Consts.MOVE_BLOCK_ALIGN % 16 = 0 ∧ 0 < Consts.MOVE_BLOCK_ALIGN := by decide

theorem alignDown_le (x : Nat) : alignDown x ≤ x := Nat.div_mul_le_self x _

theorem alignDown_mod16 (x : Nat) : alignDown x % 16 = 0 := by
  have h := align_ok.1
  unfold alignDown
  generalize Consts.MOVE_BLOCK_ALIGN = a at *
  generalize x / a = q
  have ha : a = 16 * (a / 16) := by omega
  rw [ha, Nat.mul_comm q, Nat.mul_assoc]
  exact Nat.mul_mod_right _ _

theorem alignDown_ge (x : Nat) (h : Consts.MOVE_BLOCK_ALIGN ≤ x) : Consts.MOVE_BLOCK_ALIGN ≤ alignDown x := by
  have hp := align_ok.2
  unfold alignDown
  generalize Consts.MOVE_BLOCK_ALIGN = a at *
  have : 1 ≤ x / a := (Nat.le_div_iff_mul_le hp).mpr (by omega)
  calc a = 1 * a := (Nat.one_mul a).symm
    _ ≤ x / a * a := Nat.mul_le_mul_right a this

theorem slice_of_take {l fed : List Nat} {wp base : Nat} (h : l.take wp = fed.drop base) (i n : Nat)
    (hin : i + n ≤ wp) : (l.drop i).take n = (fed.drop (base + i)).take n := by
  have h1 : (l.drop i).take n = ((l.take wp).drop i).take n := by
    rw [List.drop_take, List.take_take]
    congr 1
    omega
  rw [h1, h, List.drop_drop]

theorem slice_of_prefix {fed inp : List Nat} (h : fed <+: inp) (i n : Nat) (hin : i + n ≤ fed.length) :
    (fed.drop i).take n = (inp.drop i).take n := by
  obtain ⟨t, rfl⟩ := h
  rw [List.drop_append_of_le_length (by omega), List.take_append_of_le_length (by simp; omega)]

theorem listBuf_shift_length (b : List Nat) (off size : Nat) (h : off + size ≤ b.length) :
    (listBuf.shift b off size).length = b.length := by
  show ((b.drop off).take size ++ b.drop size).length = b.length
  simp only [List.length_append, List.length_take, List.length_drop]
  omega

theorem listBuf_shift_take (b : List Nat) (off size : Nat) (h : off + size ≤ b.length) :
    (listBuf.shift b off size).take size = (b.drop off).take size :=
  List.take_left' (by simp only [List.length_take, List.length_drop]; omega)

theorem listBuf_write_length (b : List Nat) (pos : Nat) (bytes : List Nat) (h : pos + bytes.length ≤ b.length) :
    (listBuf.write b pos bytes).length = b.length := by
  show (b.take pos ++ bytes ++ b.drop (pos + bytes.length)).length = b.length
  simp only [List.length_append, List.length_take, List.length_drop]
  omega

theorem listBuf_write_take (b : List Nat) (pos : Nat) (bytes : List Nat) (h : pos ≤ b.length) :
    (listBuf.write b pos bytes).take (pos + bytes.length) = b.take pos ++ bytes :=
  List.take_left' (by simp only [List.length_append, List.length_take]; omega)

structure WPos (P : Params) (w : Win (List Nat)) (fed : List Nat) : Prop where
  buf_len : w.buf.length = P.bufSize
  wp_le : w.writePos ≤ P.bufSize
  rp_ge : -1 ≤ w.readPos
  rp_lt : w.readPos + 1 ≤ w.writePos
  /-- buffer index `i < write_pos` holds stream byte `base + i` -/
  content : w.buf.take w.writePos = fed.drop w.base
  fed_len : fed.length = w.base + w.writePos
  lookback : w.base = 0 ∨ (P.keepBefore : Int) ≤ w.readPos + 1
  base_al : w.base % 16 = 0

structure WInv (P : Params) (w : Win (List Nat)) (fed : List Nat) : Prop extends WPos P w fed where
  lim_fin : w.finishing = true → w.readLimit = (w.writePos : Int) - 1
  lim_run : w.finishing = false → w.readLimit + (P.keepAfter : Int) ≤ w.writePos ∨ w.readLimit < 0
  pend : w.pendingSize = 0 ∨ w.finishing = true

theorem WPos.init (P : Params) : WPos P (Win.init listBuf P) [] := by
  constructor <;> simp [Win.init, listBuf]

theorem WInv.init (P : Params) : WInv P (Win.init listBuf P) [] := by
  refine ⟨WPos.init P, ?_, ?_, ?_⟩ <;> simp [Win.init]

theorem WInv.pend_zero {P : Params} {w : Win (List Nat)} {fed : List Nat} (h : WInv P w fed) (hf : w.finishing = false) :
    w.pendingSize = 0 :=
  h.pend.resolve_right (by simp [hf])

theorem WPos.congr {P : Params} {w w' : Win (List Nat)} {fed : List Nat} (h : WPos P w fed) (hbuf : w'.buf = w.buf)
    (hwp : w'.writePos = w.writePos) (hrp : w'.readPos = w.readPos) (hbase : w'.base = w.base) : WPos P w' fed :=
  ⟨hbuf ▸ h.buf_len, hwp ▸ h.wp_le, hrp ▸ h.rp_ge, by rw [hrp, hwp]; exact h.rp_lt,
    by rw [hbuf, hwp, hbase]; exact h.content, by rw [hbase, hwp]; exact h.fed_len,
    by rw [hbase, hrp]; exact h.lookback, hbase ▸ h.base_al⟩

section
variable {β : Type} (B : BufOps β) (P : Params)

theorem moveOffset_eq_pinned {β : Type} (P : Params) (w : Win β) (hp : w.pendingSize = 0) :
    moveOffset P w = moveOffsetPinned P w := by
  unfold moveOffset
  split
  · rfl
  · unfold moveOffsetRaw moveOffsetPinned
    rw [hp]
    congr 2
    omega

theorem moveOffset_mod16 {β : Type} (P : Params) (w : Win β) : moveOffset P w % 16 = 0 := by
  unfold moveOffset moveOffsetPinned
  split <;> exact alignDown_mod16 _

theorem hasEnough_iff (w : Win β) (a : Int) : hasEnoughData w a = true ↔ w.readPos - a < w.readLimit := by
  unfold hasEnoughData
  exact decide_eq_true_iff

/-- `fill_window`'s condition gives `read_pos + 1 - keep_size_before ≥ reserve ≥ 256 KiB`, so with few bytes pending
    the argument of the alignment is at least `MOVE_BLOCK_ALIGN`. -/
theorem moveOffset_bounds (w : Win β) (h : P.pinnedMove = false ∨ w.pendingSize = 0)
    (hc : (P.bufSize : Int) - (P.keepAfter : Int) ≤ w.readPos) (hps : w.pendingSize + Consts.MOVE_BLOCK_ALIGN ≤ 262144) :
    (Consts.MOVE_BLOCK_ALIGN : Int) ≤ moveOffsetRaw P w ∧ Consts.MOVE_BLOCK_ALIGN ≤ moveOffset P w ∧
    (moveOffset P w : Int) ≤ moveOffsetRaw P w := by
  have hraw : (Consts.MOVE_BLOCK_ALIGN : Int) ≤ moveOffsetRaw P w := by
    unfold moveOffsetRaw
    unfold Params.bufSize Params.reserve at hc
    omega
  have hoff : moveOffset P w = alignDown (moveOffsetRaw P w).toNat := by
    rcases h with h | h
    · unfold moveOffset
      rw [h]
      rfl
    · rw [moveOffset_eq_pinned P w h]
      unfold moveOffsetPinned moveOffsetRaw
      rw [h]
      congr 2
      omega
  have hle := alignDown_le (moveOffsetRaw P w).toNat
  have hge := alignDown_ge (moveOffsetRaw P w).toNat (by omega)
  rw [hoff]
  exact ⟨hraw, hge, by omega⟩

theorem moveWindow_fields (w : Win β) :
    let w' := moveWindow B P w
    let off := moveOffset P w
    w'.readPos = w.readPos - off ∧ w'.readLimit = w.readLimit - off ∧ w'.writePos = w.writePos - off ∧
    w'.base = w.base + off ∧ w'.pendingSize = w.pendingSize ∧ w'.finishing = w.finishing :=
  ⟨rfl, rfl, rfl, rfl, rfl, rfl⟩

end

/-- one move under `fill_window`'s condition: a positive multiple of 16 inside the written part,
    `keep_size_before` bytes kept, absolute positions unchanged -/
theorem moveWindow_spec (P : Params) (w : Win (List Nat)) (fed : List Nat) (h : WPos P w fed)
    (hc : (P.bufSize : Int) - (P.keepAfter : Int) ≤ w.readPos) (hpend : w.pendingSize = 0) :
    let off := moveOffset P w
    let w' := moveWindow listBuf P w
    WPos P w' fed ∧
    off % 16 = 0 ∧ Consts.MOVE_BLOCK_ALIGN ≤ off ∧
    (off : Int) ≤ w.readPos + 1 - (P.keepBefore : Int) ∧
    off + (w.writePos - off) ≤ P.bufSize ∧ off ≤ w.writePos ∧
    (P.keepBefore : Int) ≤ w'.readPos + 1 ∧
    w'.readPos = w.readPos - off ∧ w'.readLimit = w.readLimit - off ∧ w'.writePos = w.writePos - off ∧
    w'.base = w.base + off ∧ w'.pendingSize = w.pendingSize ∧ w'.finishing = w.finishing := by
  dsimp only
  obtain ⟨-, hge, hle⟩ := moveOffset_bounds P w (Or.inr hpend) hc (by rw [hpend]; decide)
  have h16 := moveOffset_mod16 P w
  have h1 := h.rp_lt; have h2 := h.wp_le
  have hle' : (moveOffset P w : Int) ≤ w.readPos + 1 - (P.keepBefore : Int) := by
    unfold moveOffsetRaw at hle
    omega
  clear hle
  have hoff : moveOffset P w ≤ w.writePos := by omega
  have hin : moveOffset P w + (w.writePos - moveOffset P w) ≤ w.buf.length := by
    rw [h.buf_len, Nat.add_sub_cancel' hoff]
    exact h2
  obtain ⟨e1, -, -, e4, -, -⟩ := moveWindow_fields listBuf P w
  have e3 : (moveWindow listBuf P w).writePos + moveOffset P w = w.writePos := Nat.sub_add_cancel hoff
  have hkb : (P.keepBefore : Int) ≤ (moveWindow listBuf P w).readPos + 1 := by omega
  refine ⟨⟨?_, Nat.le_trans (Nat.sub_le _ _) h2, by omega, by omega, ?_, ?_, Or.inr hkb, ?_⟩, h16, hge, hle',
    by rw [Nat.add_sub_cancel' hoff]; exact h2, hoff, hkb, rfl, rfl, rfl, rfl, rfl, rfl⟩
  · exact (listBuf_shift_length _ _ _ hin).trans h.buf_len
  · rw [e4]
    exact (listBuf_shift_take _ _ _ hin).trans ((slice_of_take h.content _ _ (Nat.le_of_eq (Nat.add_sub_cancel' hoff))).trans
      (List.take_of_length_le (by rw [List.length_drop, h.fed_len, Nat.add_sub_add_left]; exact Nat.sub_le_sub_right (Nat.le_refl _) _)))
  · have := h.fed_len
    omega
  · have := h.base_al
    omega

section
variable {β : Type} (B : BufOps β) (P : Params)

/-- the window after the optional `move_window` with which `fill_window` begins -/
def preMove (w : Win β) : Win β :=
  if w.readPos ≥ (P.bufSize : Int) - (P.keepAfter : Int) then moveWindow B P w else w

/-- the rest of `fill_window` up to `process_pending_bytes`: as much of the input as fits is copied behind `write_pos` -/
def fillIn (w : Win β) (input : List Nat) : Win β × Nat :=
  let len := min input.length (P.bufSize - w.writePos)
  ({ w with
      buf := B.write w.buf w.writePos (input.take len)
      writePos := w.writePos + len
      readLimit := if w.writePos + len ≥ P.keepAfter then ((w.writePos + len : Nat) : Int) - (P.keepAfter : Int) else w.readLimit },
    len)

theorem fillCore_eq (w : Win β) (input : List Nat) : fillCore B P w input = fillIn B P (preMove B P w) input := rfl

theorem preMove_pos (w : Win β) (h : P.pinnedMove = false ∨ w.pendingSize = 0) (hlt : w.readPos + 1 ≤ w.writePos)
    (hps : w.pendingSize + Consts.MOVE_BLOCK_ALIGN ≤ 262144) :
    let w' := preMove B P w
    ∃ off : Nat, w'.readPos = w.readPos - off ∧ w'.readLimit = w.readLimit - off ∧ w'.writePos + off = w.writePos ∧
      w'.base = w.base + off ∧ w'.pendingSize = w.pendingSize ∧ w'.finishing = w.finishing ∧
      (off = 0 ∨ (off : Int) + P.keepBefore + w.pendingSize ≤ w.readPos + 1) := by
  dsimp only
  by_cases hc : w.readPos ≥ (P.bufSize : Int) - (P.keepAfter : Int)
  · obtain ⟨-, -, hle⟩ := moveOffset_bounds P w h hc hps
    have hraw : moveOffsetRaw P w = w.readPos + 1 - P.keepBefore - w.pendingSize := rfl
    have hw1 : preMove B P w = moveWindow B P w := if_pos hc
    rw [hw1]
    exact ⟨moveOffset P w, rfl, rfl, Nat.sub_add_cancel (by omega), rfl, rfl, rfl, Or.inr (by omega)⟩
  · have hw1 : preMove B P w = w := if_neg hc
    rw [hw1]
    exact ⟨0, (Int.sub_zero _).symm, (Int.sub_zero _).symm, rfl, rfl, rfl, rfl, Or.inl rfl⟩

theorem fillIn_fields (w : Win β) (input : List Nat) (hwp : w.writePos ≤ P.bufSize) :
    let r := fillIn B P w input
    r.2 ≤ input.length ∧ r.1.writePos = w.writePos + r.2 ∧ r.1.writePos ≤ P.bufSize ∧
    (r.2 = 0 → input ≠ [] → w.writePos = P.bufSize) ∧
    r.1.readPos = w.readPos ∧ r.1.base = w.base ∧ r.1.pendingSize = w.pendingSize ∧ r.1.finishing = w.finishing ∧
    ((P.keepAfter ≤ r.1.writePos ∧ r.1.readLimit = (r.1.writePos : Int) - P.keepAfter) ∨
      (r.1.writePos < P.keepAfter ∧ r.1.readLimit = w.readLimit)) := by
  dsimp only
  have e1 : (fillIn B P w input).2 = min input.length (P.bufSize - w.writePos) := rfl
  have e2 : (fillIn B P w input).1.writePos = w.writePos + (fillIn B P w input).2 := rfl
  refine ⟨by omega, e2, by omega, fun hz hne => ?_, rfl, rfl, rfl, rfl, ?_⟩
  · have := List.length_pos_iff.mpr hne
    omega
  · by_cases hk : w.writePos + min input.length (P.bufSize - w.writePos) ≥ P.keepAfter
    · exact Or.inl ⟨hk, if_pos hk⟩
    · exact Or.inr ⟨Nat.lt_of_not_ge hk, if_neg hk⟩

end

theorem preMove_spec (P : Params) (w : Win (List Nat)) (fed : List Nat) (h : WInv P w fed) (hf : w.finishing = false) :
    let w1 := preMove listBuf P w
    WInv P w1 fed ∧ (w1.base : Int) + w1.readPos = w.base + w.readPos ∧ w1.base + w1.writePos = w.base + w.writePos ∧
    w1.finishing = false ∧ w1.pendingSize = w.pendingSize ∧
    (w1.readPos < (P.bufSize : Int) - (P.keepAfter : Int) ∨ w1.writePos + Consts.MOVE_BLOCK_ALIGN ≤ P.bufSize) := by
  intro w1
  by_cases hc : w.readPos ≥ (P.bufSize : Int) - (P.keepAfter : Int)
  · have hw1 : w1 = moveWindow listBuf P w := if_pos hc
    have hpend := h.pend_zero hf
    obtain ⟨hp, _, hge, _, _, hoff, _, e1, e2, e3, e4, e5, e6⟩ := moveWindow_spec P w fed h.toWPos hc hpend
    have h2 := h.wp_le
    have hl := h.lim_run hf
    rw [hw1, e1, e3, e4, e5, e6]
    refine ⟨⟨hp, fun hfin => absurd (e6 ▸ hfin) (by simp [hf]), fun _ => ?_, Or.inl (e5 ▸ hpend)⟩,
      by omega, by omega, hf, rfl, Or.inr (by omega)⟩
    rw [e2, e3]
    omega
  · have hw1 : w1 = w := if_neg hc
    rw [hw1]
    exact ⟨h, rfl, rfl, hf, rfl, Or.inl (by omega)⟩

theorem fillIn_spec (P : Params) (w : Win (List Nat)) (fed input : List Nat) (h : WInv P w fed) (hf : w.finishing = false) :
    let r := fillIn listBuf P w input
    WInv P r.1 (fed ++ input.take r.2) ∧ r.2 ≤ input.length ∧
    (r.2 = 0 → input ≠ [] → r.1.writePos = P.bufSize ∧ r.1.readLimit = (r.1.writePos : Int) - P.keepAfter) := by
  dsimp only
  obtain ⟨hlen, e2, hwp, hfull, e4, e5, e6, e7, hlim⟩ := fillIn_fields listBuf P w input h.wp_le
  have hbuf : (fillIn listBuf P w input).1.buf = listBuf.write w.buf w.writePos (input.take (fillIn listBuf P w input).2) := rfl
  have hchunk : (input.take (fillIn listBuf P w input).2).length = (fillIn listBuf P w input).2 :=
    List.length_take.trans (Nat.min_eq_left hlen)
  have b3 := h.rp_lt; have b4 := h.fed_len
  refine ⟨⟨⟨?_, hwp, e4 ▸ h.rp_ge, by omega, ?_, ?_, e4 ▸ e5 ▸ h.lookback, e5 ▸ h.base_al⟩,
    fun hfin => absurd (e7 ▸ hfin) (by simp [hf]), fun _ => ?_, by rw [e6, e7]; exact h.pend⟩, hlen,
    fun hz hne => ?_⟩
  · rw [hbuf]
    exact (listBuf_write_length _ _ _ (by rw [hchunk, h.buf_len, ← e2]; exact hwp)).trans h.buf_len
  · have ht := listBuf_write_take w.buf w.writePos (input.take (fillIn listBuf P w input).2) (by rw [h.buf_len]; exact h.wp_le)
    rw [hchunk] at ht
    rw [hbuf, e2, e5, ht, h.content, List.drop_append_of_le_length (by rw [b4]; exact Nat.le_add_right _ _)]
  · rw [List.length_append, hchunk]
    omega
  · have := h.lim_run hf
    omega
  · have := hfull hz hne
    have : P.keepAfter ≤ P.bufSize := by
      unfold Params.bufSize
      omega
    omega

theorem fillCore_spec (P : Params) (w : Win (List Nat)) (fed input : List Nat) (h : WInv P w fed)
    (hf : w.finishing = false) :
    let r := fillCore listBuf P w input
    WInv P r.1 (fed ++ input.take r.2) ∧
    r.2 ≤ input.length ∧ r.1.writePos ≤ P.bufSize ∧
    (r.1.base : Int) + r.1.readPos = w.base + w.readPos ∧
    r.1.base + r.1.writePos = w.base + w.writePos + r.2 ∧
    (r.1.writePos : Int) - r.1.readPos = (w.writePos : Int) - w.readPos + r.2 ∧
    r.1.finishing = false ∧ r.1.pendingSize = w.pendingSize ∧
    (input ≠ [] → r.2 = 0 → r.1.readPos < r.1.readLimit) := by
  intro r
  obtain ⟨a0, a1, a2, a3, a4, a5⟩ := preMove_spec P w fed h hf
  obtain ⟨c0, c1, c2⟩ := fillIn_spec P (preMove listBuf P w) fed input a0 a3
  obtain ⟨_, e2, _, _, e4, e5, e6, e7, _⟩ := fillIn_fields listBuf P (preMove listBuf P w) input a0.wp_le
  have hr : r = fillIn listBuf P (preMove listBuf P w) input := rfl
  rw [hr]
  refine ⟨c0, c1, c0.wp_le, by omega, by omega, by omega, e7.trans a3, e6.trans a4, fun hne hz => ?_⟩
  obtain ⟨d1, d2⟩ := c2 hz hne
  have := align_ok.2
  omega

theorem movePos_spec {β : Type} (P : Params) (w : Win β) :
    let avail := ((w.writePos : Int) - (w.readPos + 1)).toNat
    let pendCond := avail < P.reqFlush ∧ (avail < P.reqFinish ∨ w.finishing = false)
    (movePos P w).1 = { w with readPos := w.readPos + 1, pendingSize := w.pendingSize + (if pendCond then 1 else 0) } ∧
    (movePos P w).2 = (if pendCond then 0 else avail) := by
  intro avail pendCond
  unfold movePos
  by_cases hc : pendCond
  · rw [if_pos hc, if_pos hc, if_pos hc]
    exact ⟨rfl, rfl⟩
  · rw [if_neg hc, if_neg hc, if_neg hc]
    exact ⟨rfl, rfl⟩

/-- what `move_pos` never touches -/
structure SameWin {β : Type} (w w' : Win β) : Prop where
  wp : w'.writePos = w.writePos
  base : w'.base = w.base
  rl : w'.readLimit = w.readLimit
  fin : w'.finishing = w.finishing
  buf : w'.buf = w.buf

theorem SameWin.refl {β : Type} (w : Win β) : SameWin w w := ⟨rfl, rfl, rfl, rfl, rfl⟩

theorem SameWin.trans {β : Type} {a b c : Win β} (h1 : SameWin a b) (h2 : SameWin b c) : SameWin a c :=
  ⟨h2.wp.trans h1.wp, h2.base.trans h1.base, h2.rl.trans h1.rl, h2.fin.trans h1.fin, h2.buf.trans h1.buf⟩

section
variable {β : Type} (B : BufOps β) (P : Params) (e : Nat)

theorem mfStep_frame (s : St β) :
    let s' := mfStep B P e s
    SameWin s.win s'.win ∧ s'.win.readPos = s.win.readPos + 1 ∧ s'.readAhead = s.readAhead ∧ s'.stuck = s.stuck := by
  dsimp only
  have hw : (mfStep B P e s).win = (movePos P s.win).1 := rfl
  rw [hw, (movePos_spec P s.win).1]
  exact ⟨⟨rfl, rfl, rfl, rfl, rfl⟩, rfl, rfl, rfl⟩

theorem advance_frame : ∀ (k : Nat) (s : St β),
    let s' := advance B P e k s
    SameWin s.win s'.win ∧ s'.win.readPos = s.win.readPos + k ∧ s'.readAhead = s.readAhead ∧ s'.stuck = s.stuck
  | 0, s => ⟨SameWin.refl _, (Int.add_zero _).symm, rfl, rfl⟩
  | k + 1, s => by
    obtain ⟨a1, a2, a3, a4⟩ := mfStep_frame B P e s
    obtain ⟨b1, b2, b3, b4⟩ := advance_frame k (mfStep B P e s)
    refine ⟨a1.trans b1, ?_, b3.trans a3, b4.trans a4⟩
    show (advance B P e k (mfStep B P e s)).win.readPos = s.win.readPos + ((k + 1 : Nat) : Int)
    rw [b2, a2]
    omega

end

section
variable {β : Type} (B : BufOps β) (P : Params) (O : Oracle)

theorem processPending_none (s : St β) (h : s.win.pendingSize = 0) : processPending B P s = s := by
  unfold processPending
  simp only [h, Nat.lt_irrefl, false_and, if_false]

theorem encodeLoop_succ (honor : Bool) (f : Nat) (s : St β) :
    encodeLoop B P O honor (f + 1) s =
      if hasEnoughData s.win (s.readAhead + 1) = true then
        if (honor && (symbolStep B P O s).2) = true then ((symbolStep B P O s).1, true)
        else encodeLoop B P O honor f (symbolStep B P O s).1
      else (s, false) := rfl

theorem writeLoop_succ (f : Nat) (s : St β) (rest : List Nat) :
    writeLoop B P O (f + 1) s rest =
      if rest.isEmpty = true then s else
        writeLoop B P O f
          (encodeLoop B P O P.lzma2 ((fillWindow B P s rest).1.unenc + 1) (fillWindow B P s rest).1).1
          (rest.drop (fillWindow B P s rest).2) := rfl

end

end LzmaVerif.EncWindow

