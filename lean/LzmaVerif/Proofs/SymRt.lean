import LzmaVerif.Model.Parse
import LzmaVerif.Proofs.ProgRun
import Mathlib.Tactic.Ring
import Mathlib.Tactic.Linarith
/-!
Symbol round trip for the LZMA symbol coder model: the decoder's decision program (`symProg`),
run on the encoder's answers (`symBits`) followed by anything, returns the symbol and leaves the rest.
-/
namespace LzmaVerif.Prog

theorem runBits_bind_of {α β : Type} {p : Prog α} {bs bs' : List Bool} {a : α}
    (h : p.runBits bs = some (a, bs')) (f : α → Prog β) :
    (bind p f).runBits bs = (f a).runBits bs' := by
  rw [runBits_bind, h]; rfl

theorem runBits_bit_cons {α : Type} (i : Nat) (k : Bool → Prog α) (b : Bool) (bs : List Bool) :
    (bit i k).runBits (b :: bs) = (k b).runBits bs := rfl

theorem runBits_direct_cons {α : Type} (k : Bool → Prog α) (b : Bool) (bs : List Bool) :
    (direct k).runBits (b :: bs) = (k b).runBits bs := rfl

theorem runBits_ret {α : Type} (a : α) (bs : List Bool) :
    (ret a : Prog α).runBits bs = some (a, bs) := rfl

end LzmaVerif.Prog

namespace LzmaVerif.Lzma
open LzmaVerif Prog


theorem b2n_n2b (x : Nat) : b2n (n2b x) = x % 2 := by
  unfold b2n n2b
  by_cases h : x % 2 = 1
  · simp only [h, decide_true, if_true]
  · have h0 : x % 2 = 0 := by omega
    simp only [h0]
    rfl

theorem msb_step (m v n : Nat) :
    (2 * m + v / 2 ^ n % 2) * 2 ^ n + v % 2 ^ n = m * 2 ^ (n + 1) + v % 2 ^ (n + 1) := by
  rw [Nat.mod_pow_succ, Nat.pow_succ]
  ring

theorem mod_pow_succ_lsb (v n : Nat) : v % 2 ^ (n + 1) = v % 2 + 2 * (v / 2 % 2 ^ n) := by
  rw [Nat.pow_succ', Nat.mod_mul]


theorem bitTreeAux_rt (base : Nat) (n m v : Nat) (rest : List Bool) :
    (bitTreeAux base n m).runBits (bitsMSB n v ++ rest) = some (m * 2 ^ n + v % 2 ^ n, rest) := by
  induction n generalizing m with
  | zero =>
    simp only [bitTreeAux, bitsMSB, List.nil_append, runBits_ret, Nat.pow_zero, Nat.mod_one,
      Nat.mul_one, Nat.add_zero]
  | succ n ih =>
    simp only [bitTreeAux, bitsMSB, List.cons_append, runBits_bit_cons]
    rw [ih, b2n_n2b, msb_step]

theorem bitTree_rt (base : Nat) (n v : Nat) (hv : v < 2 ^ n) (rest : List Bool) :
    (bitTree base n).runBits (bitsMSB n v ++ rest) = some (v, rest) := by
  unfold bitTree
  rw [runBits_bind_of (bitTreeAux_rt base n 1 v rest), runBits_ret, Nat.mod_eq_of_lt hv]
  congr 2
  omega

theorem revTreeAux_rt (base : Nat) (n m i acc v : Nat) (rest : List Bool) :
    (revTreeAux base n m i acc).runBits (bitsLSB n v ++ rest)
      = some (acc + (v % 2 ^ n) * 2 ^ i, rest) := by
  induction n generalizing m i acc v with
  | zero =>
    simp only [revTreeAux, bitsLSB, List.nil_append, runBits_ret, Nat.pow_zero, Nat.mod_one,
      Nat.zero_mul, Nat.add_zero]
  | succ n ih =>
    simp only [revTreeAux, bitsLSB, List.cons_append, runBits_bit_cons]
    rw [ih, b2n_n2b, mod_pow_succ_lsb, Nat.pow_succ]
    congr 2
    ring

theorem revTree_rt (base : Nat) (n v : Nat) (hv : v < 2 ^ n) (rest : List Bool) :
    (revTree base n).runBits (bitsLSB n v ++ rest) = some (v, rest) := by
  unfold revTree
  rw [revTreeAux_rt, Nat.mod_eq_of_lt hv]
  simp only [Nat.pow_zero, Nat.mul_one, Nat.zero_add]

theorem directBits_rt (n acc v : Nat) (rest : List Bool) :
    (directBits n acc).runBits (bitsMSB n v ++ rest) = some (acc * 2 ^ n + v % 2 ^ n, rest) := by
  induction n generalizing acc with
  | zero =>
    simp only [directBits, bitsMSB, List.nil_append, runBits_ret, Nat.pow_zero, Nat.mod_one,
      Nat.mul_one, Nat.add_zero]
  | succ n ih =>
    simp only [directBits, bitsMSB, List.cons_append, runBits_direct_cons]
    rw [ih, b2n_n2b, msb_step]


/-- a bit tree whose value is offset by `k`, as in each of the three length ranges -/
theorem bitTree_add_rt (base n k len : Nat) (hk : k ≤ len) (hn : len - k < 2 ^ n) (rest : List Bool) :
    (bind (bitTree base n) fun v => ret (v + k)).runBits (bitsMSB n (len - k) ++ rest)
      = some (len, rest) := by
  rw [runBits_bind_of (bitTree_rt base n (len - k) hn rest), runBits_ret, Nat.sub_add_cancel hk]

theorem lenProg_rt (base posState len : Nat) (h2 : 2 ≤ len) (h273 : len ≤ 273) (rest : List Bool) :
    (lenProg base posState).runBits (lenBits len ++ rest) = some (len, rest) := by
  unfold lenProg lenBits
  by_cases h10 : len < 10
  · simp only [if_pos h10, List.cons_append, runBits_bit_cons, Bool.not_false, if_true]
    exact bitTree_add_rt _ 3 2 len h2 (by omega) rest
  · by_cases h18 : len < 18
    · simp only [if_neg h10, if_pos h18, List.cons_append, runBits_bit_cons, Bool.not_false,
        Bool.not_true, if_true, Bool.false_eq_true, if_false]
      exact bitTree_add_rt _ 3 10 len (by omega) (by omega) rest
    · simp only [if_neg h10, if_neg h18, List.cons_append, runBits_bit_cons, Bool.not_true,
        Bool.false_eq_true, if_false]
      exact bitTree_add_rt _ 8 18 len (by omega) (by omega) rest


theorem distSlot_spec (dist : Nat) (h4 : 4 ≤ dist) (h32 : dist < 2 ^ 32) :
    ∃ L t r, distSlot dist = 2 * (L + 1) + t ∧ t < 2 ∧ 1 ≤ L ∧ L ≤ 30 ∧ r < 2 ^ L ∧
      dist = (2 + t) * 2 ^ L + r := by
  by_cases h : dist = 4
  · subst h
    exact ⟨1, 0, 0, by decide⟩
  · have hd : dist ≠ 0 := by omega
    have hlo : 2 ^ (Nat.log2 dist) ≤ dist := Nat.log2_self_le hd
    have hhi : dist < 2 ^ (Nat.log2 dist + 1) := Nat.lt_log2_self
    unfold distSlot
    rw [if_neg (by omega : ¬ dist ≤ 4)]
    simp only
    have hi2 : 2 ≤ Nat.log2 dist := (Nat.le_log2 hd).2 (by omega)
    have hi31 : Nat.log2 dist < 32 := (Nat.log2_lt hd).2 h32
    generalize Nat.log2 dist = i at *
    obtain ⟨j, rfl⟩ : ∃ j, i = j + 1 := ⟨i - 1, by omega⟩
    simp only [Nat.add_sub_cancel]
    have hp1 : 2 ^ (j + 1) = 2 * 2 ^ j := Nat.pow_succ'
    have hp2 : 2 ^ (j + 1 + 1) = 4 * 2 ^ j := by rw [Nat.pow_succ', hp1]; omega
    rw [hp1] at hlo
    rw [hp2] at hhi
    have hP : 0 < 2 ^ j := Nat.pow_pos (by decide)
    generalize hPe : 2 ^ j = P at *
    have hq2 : 2 ≤ dist / P := (Nat.le_div_iff_mul_le hP).2 (by omega)
    have hq4 : dist / P < 4 := (Nat.div_lt_iff_lt_mul hP).2 (by omega)
    have hdm : P * (dist / P) + dist % P = dist := Nat.div_add_mod dist P
    have hr : dist % P < P := Nat.mod_lt _ hP
    refine ⟨j, dist / P % 2, dist % P, rfl, Nat.mod_lt _ (by decide), by omega, by omega,
      by rw [hPe]; exact hr, ?_⟩
    rw [hPe, show 2 + dist / P % 2 = dist / P by omega, Nat.mul_comm]
    exact hdm.symm

/-- `get_dist_slot` in the terms of `decode_match`: the slot fits in 6 bits, and from slot 4 on
    `dist` lies in the `2^limit` values above `base` (`limit = slot / 2 - 1`,
    `base = (2 + slot % 2) * 2^limit`) -/
theorem distSlot_base (dist : Nat) (h32 : dist < 2 ^ 32) :
    distSlot dist < 2 ^ 6 ∧ (dist < 4 → distSlot dist = dist) ∧
    (4 ≤ dist → 4 ≤ distSlot dist ∧ (14 ≤ distSlot dist → 4 ≤ distSlot dist / 2 - 1) ∧
      ∃ r < 2 ^ (distSlot dist / 2 - 1),
        dist = (2 + distSlot dist % 2) * 2 ^ (distSlot dist / 2 - 1) + r) := by
  by_cases h4 : dist < 4
  · have hs : distSlot dist = dist := if_pos (Nat.le_of_lt h4)
    rw [hs]
    exact ⟨Nat.lt_trans h4 (by decide), fun _ => rfl, fun h => absurd h4 (Nat.not_lt.2 h)⟩
  · obtain ⟨L, t, r, hs, ht, hL1, hL30, hr, hd⟩ := distSlot_spec dist (Nat.le_of_not_lt h4) h32
    obtain ⟨e1, e2, e3, e4, e5⟩ : (2 * (L + 1) + t) / 2 - 1 = L ∧ (2 * (L + 1) + t) % 2 = t ∧
        2 * (L + 1) + t < 2 ^ 6 ∧ 4 ≤ 2 * (L + 1) + t ∧ (14 ≤ 2 * (L + 1) + t → 4 ≤ L) := by
      clear hd hr hs h32
      omega
    rw [hs, e1, e2]
    exact ⟨e3, fun h => absurd h h4, fun _ => ⟨e4, e5, r, hr, hd⟩⟩

theorem distProg_rt (dist len : Nat) (h32 : dist < 2 ^ 32) (rest : List Bool) :
    (distProg len).runBits (distBits dist len ++ rest) = some (dist, rest) := by
  unfold distProg distBits
  simp only [List.append_assoc]
  obtain ⟨h6, hsmall, hbig⟩ := distSlot_base dist h32
  generalize distSlot dist = s at *
  rw [runBits_bind_of (bitTree_rt _ 6 s h6 _)]
  by_cases h4 : dist < 4
  · obtain rfl := hsmall h4
    rw [if_pos h4, if_pos h4]
    rfl
  · obtain ⟨hs4, h14L, r, hr, rfl⟩ := hbig (by omega)
    have hn4 : ¬ s < 4 := by omega
    rw [if_neg hn4, if_neg hn4]
    generalize s / 2 - 1 = L at *
    simp only [Nat.add_sub_cancel_left]
    by_cases h14 : s < 14
    · rw [if_pos h14, if_pos h14, runBits_bind_of (revTree_rt _ L r hr rest), runBits_ret]
    · rw [if_neg h14, if_neg h14]
      obtain ⟨K, rfl⟩ : ∃ K, L = K + 4 := ⟨L - 4, by have := h14L (by omega); omega⟩
      simp only [Nat.add_sub_cancel, List.append_assoc]
      have hr' : r / 16 < 2 ^ K := by
        rw [Nat.div_lt_iff_lt_mul (by decide)]
        rw [Nat.pow_add] at hr
        exact hr
      rw [runBits_bind_of (directBits_rt K 0 (r / 16) _),
        runBits_bind_of (revTree_rt _ 4 (r % 16) (Nat.mod_lt _ (by decide)) rest), runBits_ret,
        Nat.mod_eq_of_lt hr']
      congr 2
      omega


theorem litPlain_rt (base b : Nat) (hb : b < 256) (rest : List Bool) :
    (litPlain base).runBits (bitsMSB 8 b ++ rest) = some (b, rest) :=
  bitTree_rt base 8 b hb rest

theorem litMatchedAux_rt (base : Nat) (n symbol offset matchByte b : Nat) (rest : List Bool) :
    (litMatchedAux base n symbol offset matchByte).runBits (bitsMSB n b ++ rest)
      = some (symbol * 2 ^ n + b % 2 ^ n - 256, rest) := by
  induction n generalizing symbol offset matchByte with
  | zero =>
    simp only [litMatchedAux, bitsMSB, List.nil_append, runBits_ret, Nat.pow_zero, Nat.mod_one,
      Nat.mul_one, Nat.add_zero]
  | succ n ih =>
    simp only [litMatchedAux, bitsMSB, List.cons_append, runBits_bit_cons]
    rw [ih, b2n_n2b, msb_step]

theorem litMatched_rt (base matchByte b : Nat) (hb : b < 256) (rest : List Bool) :
    (litMatched base matchByte).runBits (bitsMSB 8 b ++ rest) = some (b, rest) := by
  unfold litMatched
  have e : 1 * 2 ^ 8 + b % 2 ^ 8 - 256 = b := by omega
  rw [litMatchedAux_rt, e]


theorem sym_rt (pr : Params) (c : Ctx) (s : Sym) (hs : SymOk s) (rest : List Bool) :
    (symProg pr c).runBits (symBits pr c s ++ rest) = some (s, rest) := by
  cases s with
  | lit b =>
    have hb : b < 256 := hs
    simp only [symProg, symBits, List.cons_append, runBits_bit_cons, Bool.not_false, if_true]
    by_cases hl : stIsLiteral c.state = true
    · rw [if_pos hl, runBits_bind_of (litPlain_rt _ b hb rest), runBits_ret]
    · rw [if_neg hl, runBits_bind_of (litMatched_rt _ _ b hb rest), runBits_ret]
  | mtch dist len =>
    obtain ⟨h2, h273, h32⟩ := hs
    simp only [symProg, symBits, List.cons_append, List.append_assoc, runBits_bit_cons,
      Bool.not_false, Bool.not_true, if_true, Bool.false_eq_true, if_false]
    rw [runBits_bind_of (lenProg_rt _ _ len h2 h273 _),
      runBits_bind_of (distProg_rt dist len h32 rest), runBits_ret]
  | shortRep =>
    simp only [symProg, symBits, List.cons_append, List.nil_append, runBits_bit_cons,
      Bool.not_false, Bool.not_true, if_true, Bool.false_eq_true, if_false, runBits_ret]
  | rep i len =>
    obtain ⟨hi, h2, h273⟩ := hs
    have hi' : i = 0 ∨ i = 1 ∨ i = 2 ∨ i = 3 := by omega
    rcases hi' with rfl | rfl | rfl | rfl <;>
    · simp only [symProg, symBits, List.cons_append, runBits_bit_cons,
        Bool.not_false, Bool.not_true, if_true, Bool.false_eq_true, if_false]
      rw [runBits_bind_of (lenProg_rt _ _ len h2 h273 rest), runBits_ret]

/-! ## Non-vacuity: concrete instances, evaluated by the kernel -/

/-- a match with distance 1000 and length 5 (slot 19: 6 slot bits, 4 direct bits, 4 align bits) -/
example :
    (symProg ⟨3, 0, 2⟩ ⟨0, 7, 65, 66⟩).runBits (symBits ⟨3, 0, 2⟩ ⟨0, 7, 65, 66⟩ (.mtch 1000 5))
      = some (.mtch 1000 5, []) := by decide

/-- the end-marker distance `0xFFFFFFFF` (slot 63: 26 direct bits, 4 align bits) -/
example : (distProg 2).runBits (distBits 0xFFFFFFFF 2) = some (0xFFFFFFFF, []) := by decide

/-- a literal after a match (the `offset`/`match_byte` walk) -/
example :
    (symProg ⟨3, 0, 2⟩ ⟨7, 9, 65, 0xA5⟩).runBits (symBits ⟨3, 0, 2⟩ ⟨7, 9, 65, 0xA5⟩ (.lit 0x5A) ++ [true])
      = some (.lit 0x5A, [true]) := by decide

end LzmaVerif.Lzma

#print axioms LzmaVerif.Lzma.sym_rt
