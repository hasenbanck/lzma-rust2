import LzmaVerif.Proofs.Xz
/-!
# Truncation of XZ files (single stream)

The single-stream reader is monotone in its input (`decode_ext`): every parser of the container is (`*_ext` in
`Proofs/XzParse.lean`), the LZMA2 reader is (`Lzma2.decode_ext`), and the block loop passes the property on
(`readBlocks_ext`).  Hence `decode_trunc`, about the reader alone, and for a stream the writer model produces `xz_trunc`.
Nothing is assumed about truncated LZMA2 payloads: `xz_trunc_not_ok` is stated with `Strm.OkT` and uses its `Strm.Ok` half.
-/
namespace LzmaVerif.Xz
open LzmaVerif Lzma Checks

theorem decodeBlockBody_ext {chk : Check} {h : BlockHeader} {cb : Nat} {inp : List Nat} {cap : Nat}
    {blk : Block} {rest : List Nat} (hd : decodeBlockBody chk h cb inp cap = .ok blk rest) (x : List Nat) :
    decodeBlockBody chk h cb (inp ++ x) cap = .ok blk (rest ++ x) := by
  revert hd
  rw [decodeBlockBody, decodeBlockBody]
  refine of_guard_ok nofun fun hg => ?_
  rw [if_neg hg]
  split
  · exact nofun
  · exact nofun
  · rename_i r hr
    have hc := lzma2_consumed_le hr
    rw [Lzma2.decode_ext hr x (Nat.le_refl _)]
    simp only [List.drop_append_of_le_length hc, List.take_append_of_le_length hc]
    split
    · exact nofun
    · rename_i pad rest1 hT
      rw [takeN_ext _ hT x]
      dsimp only
      refine of_guard_ok nofun fun hp => ?_
      rw [if_neg hp]
      split
      · exact nofun
      · rename_i stored rest2 hT2
        rw [takeN_ext _ hT2 x]
        dsimp only
        refine of_guard_ok nofun fun h1 => ?_
        refine of_guard_ok nofun fun h2 => ?_
        refine of_guard_ok nofun fun h3 => ?_
        rw [if_neg h1, if_neg h2, if_neg h3]
        intro hd
        cases hd
        rfl

/-- No invariant on `total` is needed: `(total + |x|) - |inp' ++ x| = total - |inp'|` also when the subtraction is cut off
at zero, so the padding base and the consumed count are the same terms on both sides.  Single-stream mode only: the
multi-stream reader looks for padding and a next header behind the footer, so it is not monotone. -/
theorem readBlocks_ext (total cap : Nat) (x : List Nat) : ∀ (fuel : Nat) (chk : Check) (inp acc : List Nat)
    (blks : List Block) (d : List Nat) (n : Nat) (b : List Block),
    readBlocks false total fuel chk inp acc blks cap = .ok d n b → ∀ fuel', fuel ≤ fuel' →
    readBlocks false (total + x.length) fuel' chk (inp ++ x) acc blks cap = .ok d n b := by
  intro fuel
  induction fuel with
  | zero => intro chk inp acc blks d n b h; cases h
  | succ fuel ih =>
    intro chk inp acc blks d n b h fuel' hf
    obtain ⟨f', rfl⟩ : ∃ f', fuel' = f' + 1 := ⟨fuel' - 1, by omega⟩
    revert h
    rw [readBlocks, readBlocks]
    cases hH : parseBlockHeader inp with
    | error e => exact nofun
    | ok v =>
      obtain ⟨o, inp'⟩ := v
      rw [parseBlockHeader_ext hH x]
      cases o with
      | some hd =>
        simp only [List.length_append, Nat.add_sub_add_right]
        cases hB : decodeBlockBody chk hd (total - inp'.length) inp' cap with
        | capped => exact nofun
        | err e => exact nofun
        | ok blk rest =>
          rw [decodeBlockBody_ext hB x]
          refine of_guard_ok nofun fun hc => ?_
          -- `simp only []` (here and twice below) reduces the `match` on the answer that `rw [.._ext ..]` has put in place
          simp only []
          rw [if_neg hc]
          exact fun h => ih _ _ _ _ _ _ _ h f' (by omega)
      | none =>
        dsimp only
        cases hI : parseIndex inp' with
        | error e => exact nofun
        | ok v =>
          obtain ⟨recs, isize, inp''⟩ := v
          rw [parseIndex_ext hI x]
          refine of_guard_ok nofun fun h1 => ?_
          refine of_guard_ok nofun fun h2 => ?_
          simp only []
          rw [if_neg h1, if_neg h2]
          cases hF : parseFooter inp'' with
          | error e => exact nofun
          | ok v =>
            obtain ⟨bs, flags, rest⟩ := v
            rw [parseFooter_ext hF x]
            refine of_guard_ok nofun fun h3 => ?_
            refine of_guard_ok nofun fun h4 => ?_
            simp only []
            rw [if_neg h3, if_neg h4]
            simp only [Bool.false_eq_true, not_false_eq_true, if_true, List.length_append, Nat.add_sub_add_right]
            exact id

theorem decode_ext {inp : List Nat} {cap : Nat} {d : List Nat} {n : Nat} {b : List Block}
    (h : Xz.decode false inp cap = .ok d n b) (x : List Nat) : Xz.decode false (inp ++ x) cap = .ok d n b := by
  revert h
  rw [Xz.decode, Xz.decode]
  cases hH : parseStreamHeader inp with
  | error e => exact nofun
  | ok v =>
    rw [parseStreamHeader_ext hH x, List.length_append]
    exact fun h => readBlocks_ext _ cap x _ _ _ _ _ _ _ _ h _ (by omega)

/-- **A truncated XZ stream is never accepted** (reader only): the run on a shorter prefix, continued with the bytes cut
off, would be a second run on the whole input that consumed less. -/
theorem decode_trunc {inp : List Nat} {cap : Nat} {d : List Nat} {n : Nat} {b : List Block}
    (h : Xz.decode false inp cap = .ok d n b) (k : Nat) (hk : k < n) (d' : List Nat) (n' : Nat) (b' : List Block) :
    Xz.decode false (inp.take k) cap ≠ .ok d' n' b' := by
  intro h'
  have hn := decode_consumed_le false _ cap d' n' b' h'
  have e := decode_ext h' (inp.drop k)
  rw [List.take_append_drop, h] at e
  cases e
  rw [List.length_take] at hn
  omega

/-- **A truncated written stream is never accepted** (C05): under the hypothesis of the round trip every proper prefix,
    the empty one included, is rejected: an error or (only from the payload codec) the model's `capped`. -/
theorem xz_trunc (s : Strm) (hs : s.Ok) (cap : Nat) (hcap : s.data.length ≤ cap) (k : Nat)
    (hk : k < s.bytes.length) :
    (∃ e, Xz.decode false (s.bytes.take k) cap = .err e) ∨ Xz.decode false (s.bytes.take k) cap = .capped := by
  have h := decode_after_stream false s hs [] cap hcap
  rw [afterStream_false, List.append_nil, List.length_nil, Nat.sub_zero] at h
  have := decode_trunc h k hk
  cases hd : Xz.decode false (s.bytes.take k) cap with
  | ok d n b => exact absurd hd (this d n b)
  | err e => exact .inl ⟨e, rfl⟩
  | capped => exact .inr rfl

def BlockTrunc (fs : List Filter) (b : List Nat × List Nat) : Prop := PayloadTrunc (readerDict fs) b.1

/-- the second half follows from `Strm.Ok` (`Lzma2.payloadTrunc_of_payloadOk`) -/
def Strm.OkT (s : Strm) : Prop := s.Ok ∧ ∀ b ∈ s.blocks, BlockTrunc s.fs b

/-- `xz_trunc` as "never `.ok`"; of `s.OkT` only `s.Ok` is used -/
theorem xz_trunc_not_ok (s : Strm) (hs : s.OkT) (cap : Nat) (hcap : s.data.length ≤ cap) (k : Nat)
    (hk : k < s.bytes.length) (data : List Nat) (consumed : Nat) (blks : List Block) :
    Xz.decode false (s.bytes.take k) cap ≠ .ok data consumed blks := by
  rcases xz_trunc s hs.1 cap hcap k hk with ⟨e, h⟩ | h <;> rw [h] <;> intro hc <;> cases hc

end LzmaVerif.Xz
