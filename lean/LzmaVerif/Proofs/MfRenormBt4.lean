/-
  Simulation: the renormalising BT4 (`Model/Bt4Renorm.lean`) reports exactly the matches of the logical BT4
  (`Model/Bt4.lean`) - and logs the same accesses -, for every input, script, start value `lz_pos ≥ cyclic_size` and
  normalisation threshold (`NormParams.ok`: the offset is computed from the threshold).  The tree walks rewrite the
  tree while they descend; the relation `TRel` between the two trees is carried through every write
  (`tree[ptr] = current_match`, `tree[ptr] = 0`, the re-link `tree[ptr1] = tree[pair]`).
-/
import LzmaVerif.Model.Bt4Renorm
import LzmaVerif.Proofs.MfRenorm
import LzmaVerif.Proofs.Bt4Inv
namespace LzmaVerif.Mf.Bt4

structure Sim (cs : Nat) (sN sL : St) : Prop where
  pos : sN.pos = sL.pos
  cp : sN.cyclicPos = sL.cyclicPos
  lzN : cs ≤ sN.lzPos
  lzL : cs ≤ sL.lzPos
  h2 : TRel cs sN.lzPos sL.lzPos sN.h2 sL.h2
  h3 : TRel cs sN.lzPos sL.lzPos sN.h3 sL.h3
  h4 : TRel cs sN.lzPos sL.lzPos sN.h4 sL.h4
  tree : TRel cs sN.lzPos sL.lzPos sN.tree sL.tree
  log : sN.log = sL.log

variable {N : NormParams} {P : Bt4Params} {c : Cfg} {data : Array UInt8}

theorem initN_sim (logging : Bool) (lzStart : Nat)
    (hs : cyclicSize P c ≤ lzStart) :
    Sim (cyclicSize P c) (initN P c logging lzStart) (init P c logging) :=
  have hL : cyclicSize P c ≤ cyclicSize P c := Nat.le_refl _
  ⟨rfl, rfl, hs, hL, TRel.replicate hs hL _, TRel.replicate hs hL _, TRel.replicate hs hL _,
    TRel.replicate hs hL _, rfl⟩

theorem movePos_sim (dsize : Nat) {sN sL : St}
    (h : Sim (cyclicSize P c) sN sL) :
    Sim (cyclicSize P c) (movePos P c dsize sN).1 (movePos P c dsize sL).1 ∧
    (movePos P c dsize sN).2 = (movePos P c dsize sL).2 := by
  rw [movePos_eq, movePos_eq, h.pos]
  split
  · exact ⟨⟨rfl, h.cp, h.lzN, h.lzL, h.h2, h.h3, h.h4, h.tree, h.log⟩, rfl⟩
  · refine ⟨⟨congrArg (· + 1) h.pos, ?_, Nat.le_succ_of_le h.lzN, Nat.le_succ_of_le h.lzL, h.h2.succ, h.h3.succ,
      h.h4.succ, h.tree.succ, h.log⟩, rfl⟩
    show (if sN.cyclicPos + 1 = _ then 0 else sN.cyclicPos + 1) = if sL.cyclicPos + 1 = _ then 0 else sL.cyclicPos + 1
    rw [h.cp]

theorem normalizeSt_sim {cs : Nat} {sN sL : St} (h : Sim cs sN sL) :
    Sim cs (normalizeSt (sN.lzPos - cs) sN) sL := by
  obtain ⟨hpos, hcp, hlN, hlL, h2, h3, h4, ht, hlog⟩ := h
  refine ⟨hpos, hcp, ?_, hlL, h2.norm hlN, h3.norm hlN, h4.norm hlN, ht.norm hlN, hlog⟩
  show cs ≤ sN.lzPos - (sN.lzPos - cs)
  omega

theorem movePosN_sim (hN : N.ok) (dsize : Nat) {sN sL : St}
    (h : Sim (cyclicSize P c) sN sL) :
    Sim (cyclicSize P c) (movePosN N P c dsize sN).1 (movePos P c dsize sL).1 ∧
    (movePosN N P c dsize sN).2 = (movePos P c dsize sL).2 := by
  have hm := movePos_sim dsize h
  unfold movePosN
  by_cases hc : (movePos P c dsize sN).2 ≠ 0 ∧ (movePos P c dsize sN).1.lzPos = N.maxPos
  · simp only [if_pos hc]
    refine ⟨?_, hm.2⟩
    have hoff : N.offBase - cyclicSize P c = (movePos P c dsize sN).1.lzPos - cyclicSize P c := by
      rw [hN, ← hc.2]
    rw [hoff]
    exact normalizeSt_sim hm.1
  · simp only [if_neg hc]
    exact hm

theorem terminate_sim {cs lN lL : Nat} (hN : cs ≤ lN) (hL : cs ≤ lL) {tN tL : Array Nat}
    (h : TRel cs lN lL tN tL) (ptr0 ptr1 : Nat) (lg : Log) :
    TRel cs lN lL (terminate tN ptr0 ptr1 lg).1 (terminate tL ptr0 ptr1 lg).1 ∧
    (terminate tN ptr0 ptr1 lg).2 = (terminate tL ptr0 ptr1 lg).2 :=
  ⟨(h.set (ERel.zero hN hL) _).set (ERel.zero hN hL) _, rfl⟩

theorem relink_sim {cs lN lL : Nat} {tN tL : Array Nat}
    (h : TRel cs lN lL tN tL) (ptr0 ptr1 pair : Nat) (lg : Log) :
    TRel cs lN lL (relink tN ptr0 ptr1 pair lg).1 (relink tL ptr0 ptr1 pair lg).1 ∧
    (relink tN ptr0 ptr1 pair lg).2 = (relink tL ptr0 ptr1 pair lg).2 := by
  refine ⟨?_, rfl⟩
  unfold relink
  exact (h.set (h.get _) _).set ((h.set (h.get _) _).get _) _

/-- the tree walks: the two finders look at the same candidates (same `delta`, or both stop), so the comparison is
    called with the same arguments on both sides and the trees stay related -/
theorem walk_sim {σ : Type} (hP : P.ok) {cs lN lL : Nat}
    (hN : cs ≤ lN) (hL : cs ≤ lL) (p cp ll nl : Nat) (probe : Probe σ) :
    ∀ (depth : Nat) (tN tL : Array Nat) (ptr0 ptr1 len0 len1 curN curL : Nat) (st : σ) (lg : Log),
      TRel cs lN lL tN tL → ERel cs lN lL curN curL →
      TRel cs lN lL
        (walk P data ⟨p, lN, cp, cs, ll, nl⟩ probe depth tN ptr0 ptr1 len0 len1 curN st lg).1
        (walk P data ⟨p, lL, cp, cs, ll, nl⟩ probe depth tL ptr0 ptr1 len0 len1 curL st lg).1 ∧
      (walk P data ⟨p, lN, cp, cs, ll, nl⟩ probe depth tN ptr0 ptr1 len0 len1 curN st lg).2 =
        (walk P data ⟨p, lL, cp, cs, ll, nl⟩ probe depth tL ptr0 ptr1 len0 len1 curL st lg).2 := by
  intro depth
  induction depth with
  | zero =>
    intro tN tL ptr0 ptr1 len0 len1 curN curL st lg hT _
    exact ⟨(terminate_sim hN hL hT ptr0 ptr1 lg).1, rfl⟩
  | succ depth ih =>
    intro tN tL ptr0 ptr1 len0 len1 curN curL st lg hT hcur
    by_cases hs : geOrGt P.treeStopGe (lL - curL) cs = true
    · have hsN : geOrGt P.treeStopGe (lN - curN) cs = true :=
        (ok_stop_iff hP).2 (Nat.le_of_not_lt (fun h => Nat.not_le_of_lt (hcur.lt_iff.mp h) ((ok_stop_iff hP).1 hs)))
      rw [walk_stop (k := ⟨p, lN, cp, cs, ll, nl⟩) (tree := tN) rfl hsN,
        walk_stop (k := ⟨p, lL, cp, cs, ll, nl⟩) (tree := tL) rfl hs]
      exact ⟨(terminate_sim hN hL hT ptr0 ptr1 lg).1, rfl⟩
    · have hd : lN - curN = lL - curL :=
        hcur.delta_eq (Nat.lt_of_not_le (fun h => hs ((ok_stop_iff hP).2 h)))
      by_cases hr : (probe st lg (min len0 len1) (lL - curL)).2.1 = true
      · rw [walk_relink (k := ⟨p, lN, cp, cs, ll, nl⟩) (tree := tN) hd rfl hs hr,
          walk_relink (k := ⟨p, lL, cp, cs, ll, nl⟩) (tree := tL) rfl rfl hs hr]
        exact ⟨(relink_sim hT ptr0 ptr1 (pairOf P ⟨p, lL, cp, cs, ll, nl⟩ (lL - curL))
          (probe st lg (min len0 len1) (lL - curL)).2.2.2).1, rfl⟩
      · by_cases hlt : byteAt data (p + (probe st lg (min len0 len1) (lL - curL)).1 - (lL - curL)) <
            byteAt data (p + (probe st lg (min len0 len1) (lL - curL)).1)
        · rw [walk_right (k := ⟨p, lN, cp, cs, ll, nl⟩) (tree := tN) hd rfl hs hr hlt,
            walk_right (k := ⟨p, lL, cp, cs, ll, nl⟩) (tree := tL) rfl rfl hs hr hlt]
          exact ih _ _ _ _ _ _ _ _ _ _ (hT.set hcur _) ((hT.set hcur _).get _)
        · rw [walk_left (k := ⟨p, lN, cp, cs, ll, nl⟩) (tree := tN) hd rfl hs hr hlt,
            walk_left (k := ⟨p, lL, cp, cs, ll, nl⟩) (tree := tL) rfl rfl hs hr hlt]
          exact ih _ _ _ _ _ _ _ _ _ _ (hT.set hcur _) ((hT.set hcur _).get _)

theorem hashStage_sim {cs : Nat} {sN sL : St}
    (h : Sim cs sN sL) :
    Sim cs (hashStage P c data sN).st (hashStage P c data sL).st ∧
    DRel cs (hashStage P c data sN).delta2 (hashStage P c data sL).delta2 ∧
    DRel cs (hashStage P c data sN).delta3 (hashStage P c data sL).delta3 ∧
    ERel cs (hashStage P c data sN).st.lzPos (hashStage P c data sL).st.lzPos
      (hashStage P c data sN).cur (hashStage P c data sL).cur := by
  obtain ⟨a2, a3, a4, at_, acp, alz, apos, alog⟩ := sN
  obtain ⟨b2, b3, b4, bt, bcp, blz, bpos, blog⟩ := sL
  obtain ⟨hpos, hcp, hlN, hlL, h2, h3, h4, ht, hlog⟩ := h
  have e1 : apos = bpos := hpos
  have e2 : acp = bcp := hcp
  have e3 : alog = blog := hlog
  subst e1 e2 e3
  exact ⟨⟨rfl, rfl, hlN, hlL, h2.set (ERel.self _ _ _) _, h3.set (ERel.self _ _ _) _,
    h4.set (ERel.self _ _ _) _, ht, rfl⟩, DRel.of (h2.get _), DRel.of (h3.get _), h4.get _⟩

/-- the carried `delta2` may differ when no candidate was accepted; it is not used then -/
theorem cands_sim (hP : P.ok) (p cs ll : Nat) {d2N d2L d3N d3L : Nat}
    (h2 : DRel cs d2N d2L) (h3 : DRel cs d3N d3L) (lg : Log) :
    (extendCands data p ll (hashCands P data p cs d2N d3N lg)).lenBest =
      (extendCands data p ll (hashCands P data p cs d2L d3L lg)).lenBest ∧
    (extendCands data p ll (hashCands P data p cs d2N d3N lg)).ms =
      (extendCands data p ll (hashCands P data p cs d2L d3L lg)).ms ∧
    (extendCands data p ll (hashCands P data p cs d2N d3N lg)).log =
      (extendCands data p ll (hashCands P data p cs d2L d3L lg)).log := by
  by_cases n2 : d2L < cs
  · have e2 := h2.eq_of_lt n2
    subst e2
    by_cases n3 : d3L < cs
    · have e3 := h3.eq_of_lt n3
      subst e3
      exact ⟨rfl, rfl, rfl⟩
    · have n3N := h3.not_lt n3
      simp only [hashCands, ok_d2 hP, ok_d3 hP, ltOrLe_true, decide_eq_false n3, decide_eq_false n3N,
        Bool.and_false, Bool.false_and, Bool.false_eq_true, if_false, and_self]
  · have n2N := h2.not_lt n2
    by_cases n3 : d3L < cs
    · have e3 := h3.eq_of_lt n3
      subst e3
      have neN : (d2N != d3N) = true := by simp only [bne_iff_ne, ne_eq]; omega
      have neL : (d2L != d3N) = true := by simp only [bne_iff_ne, ne_eq]; omega
      simp only [hashCands, ok_d2 hP, ok_d3 hP, ltOrLe_true, decide_eq_false n2, decide_eq_false n2N, neN, neL,
        Bool.false_and, Bool.true_and, Bool.false_eq_true, if_false]
      split
      · exact ⟨rfl, rfl, rfl⟩
      · simp only [extendCands, List.size_toArray, List.length_nil, Nat.lt_irrefl, gt_iff_lt, if_false, and_self]
    · have n3N := h3.not_lt n3
      simp only [hashCands, ok_d2 hP, ok_d3 hP, ltOrLe_true, decide_eq_false n2, decide_eq_false n2N,
        decide_eq_false n3, decide_eq_false n3N, Bool.and_false, Bool.false_and, Bool.false_eq_true, if_false,
        extendCands, List.size_toArray, List.length_nil, Nat.lt_irrefl, gt_iff_lt, and_self]

theorem skipTree_sim (hP : P.ok) {sN sL : St}
    (h : Sim (cyclicSize P c) sN sL) (nl : Nat) {curN curL : Nat}
    (hcur : ERel (cyclicSize P c) sN.lzPos sL.lzPos curN curL) :
    Sim (cyclicSize P c) (skipTree P c data sN nl curN) (skipTree P c data sL nl curL) := by
  rw [skipTree_eq, skipTree_eq]
  unfold ctxOf
  rw [h.pos, h.cp, h.log]
  rw [skipLoop_eq_walk, skipLoop_eq_walk]
  have key := walk_sim hP (data := data) h.lzN h.lzL (sL.pos - 1) sL.cyclicPos 0 nl (skipProbe data (sL.pos - 1) nl)
    (depthLimit P c) sN.tree sL.tree (shl P sL.cyclicPos + 1) (shl P sL.cyclicPos) 0 0 curN curL () sL.log h.tree hcur
  exact ⟨rfl, rfl, h.lzN, h.lzL, h.h2, h.h3, h.h4, key.1, congrArg (·.2) key.2⟩

theorem findTail_sim (hP : P.ok) {sN sL : St}
    (h : Sim (cyclicSize P c) sN sL) {curN curL : Nat}
    (hcur : ERel (cyclicSize P c) sN.lzPos sL.lzPos curN curL) (ll nl lb : Nat) (ms : Array Match) (lg : Log) :
    Sim (cyclicSize P c) (findTail P c data sN curN ll nl lb ms lg).1 (findTail P c data sL curL ll nl lb ms lg).1 ∧
    (findTail P c data sN curN ll nl lb ms lg).2 = (findTail P c data sL curL ll nl lb ms lg).2 := by
  unfold findTail
  by_cases hcond : ms.size > 0 ∧ geOrGt P.niceStopGe lb nl = true
  · rw [if_pos hcond, if_pos hcond]
    refine ⟨?_, rfl⟩
    exact skipTree_sim hP (sN := { sN with log := lg }) (sL := { sL with log := lg })
      ⟨h.pos, h.cp, h.lzN, h.lzL, h.h2, h.h3, h.h4, h.tree, rfl⟩ _ hcur
  · rw [if_neg hcond, if_neg hcond]
    unfold ctxOf
    rw [h.pos, h.cp]
    rw [findLoop_eq_walk, findLoop_eq_walk]
    have key := walk_sim hP (data := data) h.lzN h.lzL (sL.pos - 1) sL.cyclicPos ll nl
      (findProbe P data (sL.pos - 1) ll nl)
      (depthLimit P c) sN.tree sL.tree (shl P sL.cyclicPos + 1) (shl P sL.cyclicPos) 0 0 curN curL
      (startLenBest P lb, ms) lg h.tree hcur
    exact ⟨⟨rfl, rfl, h.lzN, h.lzL, h.h2, h.h3, h.h4, key.1, congrArg (·.2) key.2⟩, congrArg (·.1.2) key.2⟩

theorem findAfter_sim (hP : P.ok) {rN rL : St × Nat}
    (h : Sim (cyclicSize P c) rN.1 rL.1 ∧ rN.2 = rL.2) :
    Sim (cyclicSize P c) (findAfter P c data rN).1 (findAfter P c data rL).1 ∧
    (findAfter P c data rN).2 = (findAfter P c data rL).2 := by
  obtain ⟨sN, avail⟩ := rN
  obtain ⟨sL, avail'⟩ := rL
  obtain ⟨h, rfl⟩ : Sim (cyclicSize P c) sN sL ∧ avail = avail' := h
  rw [findAfter_eq, findAfter_eq]
  split
  · exact ⟨h, rfl⟩
  · obtain ⟨hS, hd2, hd3, hcur⟩ := hashStage_sim (P := P) (c := c) (data := data) h
    obtain ⟨c1, c2, c3⟩ := cands_sim hP (data := data) ((hashStage P c data sL).st.pos - 1) (cyclicSize P c)
      (lenLimitOf c avail) hd2 hd3 (hashStage P c data sL).st.log
    simp only [hS.pos, hS.log, c1, c2, c3]
    exact findTail_sim hP hS hcur _ _ _ _ _

theorem findN_sim (hN : N.ok) (hP : P.ok)
    {sN sL : St} (h : Sim (cyclicSize P c) sN sL) :
    Sim (cyclicSize P c) (findN N P c data sN).1 (find P c data sL).1 ∧
    (findN N P c data sN).2 = (find P c data sL).2 := by
  rw [find_eq_findAfter]
  exact findAfter_sim hP (movePosN_sim hN data.size h)

theorem skipOneN_sim (hN : N.ok) (hP : P.ok)
    {sN sL : St} (h : Sim (cyclicSize P c) sN sL) :
    Sim (cyclicSize P c) (skipOneN N P c data sN) (skipOne P c data sL) := by
  rw [skipOne_eq_skipOneAfter]
  unfold skipOneN
  obtain ⟨hm1, hm2⟩ := movePosN_sim hN data.size h
  generalize movePosN N P c data.size sN = rN at hm1 hm2
  generalize movePos P c data.size sL = rL at hm1 hm2
  obtain ⟨sN', avail⟩ := rN
  obtain ⟨sL', avail'⟩ := rL
  obtain rfl : avail = avail' := hm2
  rw [skipOneAfter_eq, skipOneAfter_eq]
  split
  · exact hm1
  · obtain ⟨hS, _, _, hcur⟩ := hashStage_sim (P := P) (c := c) (data := data) hm1
    exact skipTree_sim hP hS _ hcur

theorem skipN_sim (hN : N.ok) (hP : P.ok)
    (n : Nat) : ∀ {sN sL : St}, Sim (cyclicSize P c) sN sL →
      Sim (cyclicSize P c) (skipN N P c data n sN) (skip P c data n sL) := by
  induction n with
  | zero => intro sN sL h; exact h
  | succ n ih => intro sN sL h; exact ih (skipOneN_sim hN hP h)

theorem runOpN_sim (hN : N.ok) (hP : P.ok)
    (op : Nat) {sN sL : St} (h : Sim (cyclicSize P c) sN sL) (tr : Array (Nat × List Match)) :
    Sim (cyclicSize P c) (runOpN N P c data op sN tr).1 (runOp P c data op sL tr).1 ∧
    (runOpN N P c data op sN tr).2 = (runOp P c data op sL tr).2 := by
  unfold runOpN runOp
  by_cases h0 : op = 0
  · simp only [h0, if_true]
    obtain ⟨f1, f2⟩ := findN_sim (data := data) hN hP h
    exact ⟨f1, by rw [f2, h.pos]⟩
  · simp only [h0, if_false]
    exact ⟨skipN_sim hN hP op h, trivial⟩

theorem runOpsN_sim (hN : N.ok) (hP : P.ok)
    (script : List Nat) : ∀ {sN sL : St} (tr : Array (Nat × List Match)), Sim (cyclicSize P c) sN sL →
      Sim (cyclicSize P c) (runOpsN N P c data script sN tr).1 (runOps P c data script sL tr).1 ∧
      (runOpsN N P c data script sN tr).2 = (runOps P c data script sL tr).2 := by
  induction script with
  | nil => intro sN sL tr h; exact ⟨h, rfl⟩
  | cons op rest ih =>
    intro sN sL tr h
    simp only [runOpsN, runOps, h.pos]
    split
    · exact ⟨h, rfl⟩
    · obtain ⟨r1, r2⟩ := runOpN_sim (data := data) hN hP op h tr
      rw [show runOpN N P c data op sN tr = ((runOpN N P c data op sN tr).1, (runOpN N P c data op sN tr).2) from rfl,
        show runOp P c data op sL tr = ((runOp P c data op sL tr).1, (runOp P c data op sL tr).2) from rfl, r2]
      exact ih _ r1

theorem movePosN_lz_bounds (hN : N.ok) (dsize : Nat) (s : St)
    (hlo : cyclicSize P c ≤ s.lzPos) (hhi : s.lzPos < N.maxPos) :
    cyclicSize P c ≤ (movePosN N P c dsize s).1.lzPos ∧ (movePosN N P c dsize s).1.lzPos < N.maxPos := by
  have hstep : (movePos P c dsize s).1.lzPos = s.lzPos ∨
      ((movePos P c dsize s).2 ≠ 0 ∧ (movePos P c dsize s).1.lzPos = s.lzPos + 1) := by
    rw [movePos_eq]
    split
    · exact Or.inl rfl
    · rename_i h
      exact Or.inr ⟨fun h0 => h (Or.inr h0), rfl⟩
  unfold movePosN
  by_cases hc : (movePos P c dsize s).2 ≠ 0 ∧ (movePos P c dsize s).1.lzPos = N.maxPos
  · simp only [if_pos hc, normalizeSt, show N.offBase = N.maxPos from hN]
    rw [hc.2]
    rcases hstep with h1 | h1 <;> constructor <;> omega
  · simp only [if_neg hc]
    rcases hstep with h1 | h1
    · rw [h1]; exact ⟨hlo, hhi⟩
    · have : (movePos P c dsize s).1.lzPos ≠ N.maxPos := fun e => hc ⟨h1.1, e⟩
      constructor <;> omega

def LzB (N : NormParams) (P : Bt4Params) (c : Cfg) (s : St) : Prop :=
  cyclicSize P c ≤ s.lzPos ∧ s.lzPos < N.maxPos

theorem findN_lzB (hN : N.ok) (s : St)
    (h : LzB N P c s) : LzB N P c (findN N P c data s).1 := by
  unfold LzB findN
  rw [(findAfter_frame ..).1]
  exact movePosN_lz_bounds hN data.size s h.1 h.2

theorem skipN_lzB (hN : N.ok) (n : Nat) :
    ∀ s, LzB N P c s → LzB N P c (skipN N P c data n s) := by
  induction n with
  | zero => intro s h; exact h
  | succ n ih =>
    intro s h
    refine ih _ ?_
    unfold LzB skipOneN
    rw [(skipOneAfter_frame ..).1]
    exact movePosN_lz_bounds hN data.size s h.1 h.2

theorem runOpsN_lzB (hN : N.ok)
    (script : List Nat) : ∀ (s : St) (tr : Array (Nat × List Match)), LzB N P c s →
      LzB N P c (runOpsN N P c data script s tr).1 := by
  induction script with
  | nil => intro s tr h; exact h
  | cons op rest ih =>
    intro s tr h
    simp only [runOpsN]
    split
    · exact h
    · rw [show runOpN N P c data op s tr = ((runOpN N P c data op s tr).1, (runOpN N P c data op s tr).2) from rfl]
      refine ih _ _ ?_
      unfold runOpN
      split
      · exact findN_lzB hN s h
      · exact skipN_lzB hN op s h

theorem runScriptN_lz_lt (hN : N.ok)
    (lzStart : Nat) (script : List Nat) (logging : Bool)
    (hs : cyclicSize P c ≤ lzStart) (hlt : lzStart < N.maxPos) :
    (runScriptN N P c data lzStart script logging).1.lzPos < N.maxPos := by
  unfold runScriptN
  exact (runOpsN_lzB hN script _ #[] ⟨hs, hlt⟩).2

end LzmaVerif.Mf.Bt4
