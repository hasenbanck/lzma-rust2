import LzmaVerif.Model.Lzma2
import LzmaVerif.Proofs.TotalLzma
/-!
Reader side of the LZMA2 chunk framing: what one iteration of `chunkLoop` does.  No encoder here.

* `ChunkAt s cap inp s' inp'`: from reader state `s`, `inp` starts with a chunk that the reader accepts under the cap
  `cap`, leaving state `s'` and input `inp'`.  Two constructors (LZMA chunk, stored chunk); their premises are the tests
  the loop body makes on the way to its recursive call, the facts about the range decoder run among them.
* `ChunkAt.loop`: on a `ChunkAt` every iteration goes on behind the chunk (the forward equations).
* `chunkLoop_cases`: an iteration stands at the end marker, or reads a `ChunkAt`, or answers by itself (`Stops`).

Only `ChunkAt.loop` and `chunkLoop_cases` unfold the loop body (and `chunkLoop_end`, by `rfl`, for the end marker).
-/
namespace LzmaVerif.Lzma2
open LzmaVerif Lzma Prog Rc

theorem chunkLoop_end (fuel : Nat) (s : RState) (tail : List Nat) (cap : Nat) :
    chunkLoop (fuel + 1) s (0 :: tail) cap = .ok s tail := rfl

theorem pushAll_eq (l : List Nat) : ∀ (a : Array Nat), pushAll a l = a ++ l.toArray := by
  induction l with
  | nil => intro a; simp [pushAll]
  | cons b bs ih => intro a; simp [pushAll, ih]

def resetR (s : RState) : RState := { s with needProps := true, needDictReset := false, hist := #[] }

/-- the state `chunkLoop` goes on with after its reset decision (`let s := if isReset then .. else s`) -/
def resetBy (control : Nat) (s : RState) : RState :=
  if control ≥ 0xE0 ∨ control = 1 then resetR s else s

theorem resetBy_out (control : Nat) (s : RState) : (resetBy control s).out = s.out := by
  unfold resetBy
  split <;> rfl

theorem resetBy_chunks (control : Nat) (s : RState) : (resetBy control s).chunks = s.chunks := by
  unfold resetBy
  split <;> rfl

theorem pushAll_size (l : List Nat) (a : Array Nat) : (pushAll a l).size = a.size + l.length := by
  rw [pushAll_eq]
  simp

inductive ChunkAt (s : RState) (cap : Nat) : List Nat → RState → List Nat → Prop
  | lzma {control u1 u2 c1 c2 unc comp : Nat} {inp body tail : List Nat} {s1 : RState} {props : Option Nat}
      {d0 d' : Dec} {r : LoopRes} {ps' : Probs}
      (hunc : (control % 32) * 65536 + be16 u1 u2 + 1 = unc) (hcompv : be16 c1 c2 + 1 = comp)
      (hc : control ≥ 0x80) (hreset : (control ≥ 0xE0 ∨ control = 1) ∨ s.needDictReset = false)
      (hprops : chunkProps (resetBy control s) control inp = .ok (s1, body ++ tail, props))
      (hcomp : body.length = comp) (hinit : Dec.init body = some d0) (hcap : s1.out.size + unc ≤ cap)
      (hdec : (loopProg s1.params s1.dictBuf (unc + 1) (some unc) s1.coder s1.hist [] 0).decRun s1.probs d0
        = (r, ps', d'))
      (hstop : r.stop = .limit) (hfin : d'.normalize.isFinished = true) :
      ChunkAt s cap (control :: u1 :: u2 :: c1 :: c2 :: inp)
        { s1 with
          hist := r.hist, probs := ps', coder := r.coder,
          out := s1.out ++ r.hist.extract s1.hist.size r.hist.size,
          chunks := { control := control, unc := unc, comp := comp, props := props,
                      parse := r.parse.reverse, raw := [] } :: s1.chunks }
        tail
  | stored {ctl u1 u2 : Nat} {raw tail : List Nat}
      (hctl : ctl = 1 ∨ ctl = 2) (hnd : (resetBy ctl s).needDictReset = false)
      (hlen : be16 u1 u2 + 1 = raw.length) (hcap : s.out.size + raw.length ≤ cap) :
      ChunkAt s cap (ctl :: u1 :: u2 :: (raw ++ tail))
        { resetBy ctl s with
          hist := pushAll (resetBy ctl s).hist raw,
          out := pushAll s.out raw,
          chunks := { control := ctl, unc := raw.length, comp := 0, props := none, parse := [], raw := raw }
                      :: s.chunks }
        tail

theorem init_cons {inp : List Nat} {d0 : Dec} (h : Dec.init inp = some d0) : ∃ tl, inp = 0 :: tl ∧ 4 ≤ tl.length := by
  obtain ⟨b1, b2, b3, b4, rest, rfl, _⟩ := init_inv h
  exact ⟨_, rfl, by simp⟩

/-- the `show` / `rw` chain follows the tests of `Model/Lzma2.chunkLoop` in order: a change of the model shows up here and in
`chunkLoop_cases` -/
theorem ChunkAt.loop {s : RState} {cap : Nat} {inp : List Nat} {s' : RState} {inp' : List Nat}
    (h : ChunkAt s cap inp s' inp') (fuel : Nat) : chunkLoop (fuel + 1) s inp cap = chunkLoop fuel s' inp' cap := by
  cases h with
  | @lzma control u1 u2 c1 c2 unc comp inp body tail s1 props d0 d' r ps' hunc hcompv hc hreset hprops hcomp hinit
      hcap hdec hstop hfin =>
    subst hunc hcompv
    have hc0 : control ≠ 0 := by omega
    have hr : ¬ (¬(control ≥ 224 ∨ control = 1) ∧ s.needDictReset = true) :=
      fun ⟨h1, h2⟩ => hreset.elim h1 fun h => nomatch h.symm.trans h2
    obtain ⟨btl, rfl, h4⟩ := init_cons hinit
    -- The body of `chunkLoop` is peeled one test at a time: `show` states the shape of the head (reached by reducing
    -- a `let` or a `match` on a constructor) and `rw` decides the test.  Simplifying the whole body at once is to be
    -- avoided: it leaves the kernel a conversion problem in which it weak-head normalises
    -- `match (loopProg ..).decRun .. with`, i.e. unfolds the symbol loop on an open decoder state.  (`body` is kept as
    -- `0 :: btl`: on five literal conses `show` would evaluate `Dec.init`.)
    rw [chunkLoop, if_neg hc0]
    show (if ¬(control ≥ 0xE0 ∨ control = 1) ∧ s.needDictReset = true then _ else _) = _
    rw [if_neg hr]
    show (if control ≥ 0x80 then _ else _) = _
    rw [if_pos hc]
    show (match chunkProps (if control ≥ 0xE0 ∨ control = 1 then resetR s else s) control inp with
      | .error e => Res.err e
      | .ok (s, inp, props) => _) = _
    rw [show chunkProps (if control ≥ 0xE0 ∨ control = 1 then resetR s else s) control inp = _ from hprops]
    show (if be16 c1 c2 + 1 < 5 then _ else _) = _
    rw [← hcomp, if_neg (by simp only [List.length_cons]; omega)]
    show (if (0 : Nat) ≠ 0 then _ else _) = _
    rw [if_neg (by simp)]
    show (if ((0 :: btl) ++ inp').length < (0 :: btl).length
      then _ else _) = _
    rw [if_neg (by simp)]
    show (match Dec.init (((0 :: btl) ++ inp').take (0 :: btl).length) with
      | none => Res.err .eof
      | some d0 => _) = _
    rw [List.take_left, hinit]
    show (if s1.out.size + (control % 32 * 65536 + be16 u1 u2 + 1) > cap then _ else _) = _
    rw [if_neg (Nat.not_lt.mpr hcap), hdec]
    simp only [hstop, hfin, not_true_eq_false, if_false, List.drop_left]
  | @stored ctl u1 u2 raw tail hctl hnd hlen hcap =>
    have hl : ¬ (raw ++ inp').length < raw.length := by rw [List.length_append]; omega
    have hcap' : ¬ s.out.size + raw.length > cap := by omega
    rcases hctl with rfl | rfl
    · rw [chunkLoop]
      simp only [resetBy, resetR, hlen, Nat.one_ne_zero, if_false, or_true, not_true_eq_false, false_and, if_true,
        ge_iff_le, Nat.reduceLeDiff, gt_iff_lt, Nat.reduceLT, if_neg hl, if_neg hcap',
        List.take_left, List.drop_left]
    · have hnd' : s.needDictReset = false := hnd
      rw [chunkLoop]
      simp only [resetBy, hlen, hnd', Nat.reduceEqDiff, ge_iff_le, Nat.reduceLeDiff, gt_iff_lt, Nat.lt_irrefl, if_false,
        or_self, Bool.false_eq_true, and_false, if_neg hl, if_neg hcap', List.take_left, List.drop_left]


theorem chunkProps_reads {s s' : RState} {control : Nat} {inp inp' : List Nat} {p : Option Nat}
    (h : chunkProps s control inp = .ok (s', inp', p)) :
    s'.out = s.out ∧ ∃ pre, inp = pre ++ inp' ∧ ∀ y, chunkProps s control (pre ++ y) = .ok (s', y, p) := by
  unfold chunkProps at h ⊢
  by_cases hc : control ≥ 0xC0
  · rw [if_pos hc] at h
    cases inp with
    | nil => cases h
    | cons b inp =>
      dsimp only at h
      by_cases hp : b > 224
      · rw [if_pos hp] at h; cases h
      rw [if_neg hp] at h
      by_cases hl : (paramsOfProps b).lc + (paramsOfProps b).lp > 4
      · rw [if_pos hl] at h; cases h
      rw [if_neg hl] at h
      cases h
      exact ⟨rfl, [b], rfl, fun y => by
        simp only [if_pos hc, List.cons_append, List.nil_append, if_neg hp, if_neg hl]⟩
  · rw [if_neg hc] at h
    by_cases hn : s.needProps = true
    · rw [if_pos hn] at h; cases h
    rw [if_neg hn] at h
    by_cases ha : control ≥ 0xA0
    · rw [if_pos ha] at h
      cases h
      exact ⟨rfl, [], rfl, fun y => by simp only [if_neg hc, if_neg hn, if_pos ha, List.nil_append]⟩
    · rw [if_neg ha] at h
      cases h
      exact ⟨rfl, [], rfl, fun y => by simp only [if_neg hc, if_neg hn, if_neg ha, List.nil_append]⟩

/-- The iteration that gave the answers `a`, `b` for two amounts of fuel answered by itself: the same for both, not `.ok`,
and `.capped` only because the cap check `out.size + unc > cap` of a chunk fired. -/
def Stops (s : RState) (inp : List Nat) (cap : Nat) (a b : Res) : Prop :=
  a = b ∧ (∀ s' r, a ≠ .ok s' r) ∧
    (a = .capped → ∃ unc, ((∀ x ∈ inp, x < 256) → unc ≤ 2 ^ 21 * inp.length) ∧ cap < s.out.size + unc)

/-- `a`, `b`: the answers for two amounts of fuel -/
def Cases (s : RState) (inp : List Nat) (cap : Nat) (a b : Res) : Prop :=
  (∃ s' inp', ChunkAt s cap inp s' inp') ∨ Stops s inp cap a b

theorem Cases.err {s : RState} {inp : List Nat} {cap : Nat} (e : Err) : Cases s inp cap (.err e) (.err e) :=
  .inr ⟨rfl, nofun, nofun⟩

theorem Cases.ite {s : RState} {inp : List Nat} {cap : Nat} {c : Prop} [Decidable c] {e : Err} {a b : Res}
    (hn : ¬c → Cases s inp cap a b) : Cases s inp cap (if c then .err e else a) (if c then .err e else b) := by
  by_cases hc : c
  · rw [if_pos hc, if_pos hc]
    exact .err e
  · rw [if_neg hc, if_neg hc]
    exact hn hc

theorem Cases.cap {s : RState} {inp : List Nat} {cap unc : Nat} {o : Array Nat} {a b : Res} (ho : o.size = s.out.size)
    (hu : (∀ x ∈ inp, x < 256) → unc ≤ 2 ^ 21 * inp.length) (hn : o.size + unc ≤ cap → Cases s inp cap a b) :
    Cases s inp cap (if o.size + unc > cap then .capped else a) (if o.size + unc > cap then .capped else b) := by
  by_cases hc : o.size + unc > cap
  · rw [if_pos hc, if_pos hc]
    exact .inr ⟨rfl, nofun, fun _ => ⟨unc, hu, ho ▸ hc⟩⟩
  · rw [if_neg hc, if_neg hc]
    exact hn (Nat.le_of_not_lt hc)

/-- **Completeness.**  `f`, `f'` are two amounts of fuel, so that the one lemma serves fuel independence (`f ≠ f'`) and facts
about a single run (`f' := f`). -/
theorem chunkLoop_cases (f f' : Nat) (s : RState) (inp : List Nat) (cap : Nat) :
    (∃ tail, inp = 0 :: tail) ∨ Cases s inp cap (chunkLoop (f + 1) s inp cap) (chunkLoop (f' + 1) s inp cap) := by
  cases inp with
  | nil => exact .inr (.err _)
  | cons control inp =>
    by_cases h0 : control = 0
    · exact .inl ⟨inp, by rw [h0]⟩
    refine .inr ?_
    rw [chunkLoop, chunkLoop, if_neg h0, if_neg h0]
    extract_lets isReset s1
    refine .ite fun hr => ?_
    have hreset : (control ≥ 0xE0 ∨ control = 1) ∨ s.needDictReset = false :=
      Decidable.or_iff_not_imp_left.mpr fun hR => Bool.eq_false_iff.mpr fun hn => hr ⟨hR, hn⟩
    have hs1 : s1 = resetBy control s := rfl
    by_cases h80 : control ≥ 0x80
    · rw [if_pos h80, if_pos h80]
      split
      · next u1 u2 c1 c2 inp4 =>
        extract_lets unc comp
        split
        · exact .err _
        next s2 inp5 props hprops =>
        refine .ite fun h5 => ?_
        split
        · exact .err _
        next b0 bs =>
        refine .ite fun hb0 => .ite fun hlen => ?_
        extract_lets body inp6
        split
        · exact .err _
        next d0 hinit =>
        refine .cap (by rw [(chunkProps_reads hprops).1, hs1, resetBy_out]) (fun hb => ?_) fun hcap => ?_
        · have := hb u1 (by simp)
          have := hb u2 (by simp)
          show control % 32 * 65536 + be16 u1 u2 + 1 ≤ _
          simp only [List.length_cons]
          unfold be16; omega
        split
        next r probs d hrun =>
        split
        · next hlimit =>
          refine .ite fun hfin => .inl ⟨_, _, .lzma (props := props) (tail := inp6) rfl rfl h80 hreset
            ((List.take_append_drop _ _).symm ▸ hprops) ?_ hinit hcap hrun hlimit (Decidable.not_not.mp hfin)⟩
          show (List.take _ _).length = _
          rw [List.length_take]; omega
        · exact .err _
        · next hfuel =>
          refine .inr ⟨rfl, nofun, fun _ => absurd hfuel ?_⟩
          have := Total.loop_no_fuel_stop s2.params s2.dictBuf unc _ (Nat.lt_succ_self _) s2.coder s2.hist [] 0 s2.probs d0
          rwa [hrun] at this
        · exact .err _
      · exact .err _
    rw [if_neg h80, if_neg h80]
    refine .ite fun h2 => ?_
    split
    · next u1 u2 inp2 =>
      extract_lets unc
      refine .ite fun hlen => .cap (by rw [hs1, resetBy_out]) (fun _ => ?_) fun hcap => ?_
      · simp only [List.length_cons]; omega
      · have hl : (inp2.take unc).length = unc := by rw [List.length_take]; omega
        have hnd : (resetBy control s).needDictReset = false := by
          unfold resetBy
          split
          · rfl
          · next hR => exact hreset.resolve_left hR
        rw [hs1, resetBy_out] at hcap
        exact .inl ⟨_, _, List.take_append_drop unc inp2 ▸
          ChunkAt.stored (tail := inp2.drop unc) (by omega) hnd hl.symm (hl.symm ▸ hcap)⟩
    · exact .err _

/-- `inp'` is a suffix (bytes stay bytes) and shorter (fuel `|inp|` suffices); the output grows and stays within the cap;
`|out| + 2^21 · |inp|` does not grow: the measure of the `capped` analysis (`2^21`: the largest size a chunk header can
announce, `control % 32`, two size bytes, plus one). -/
theorem ChunkAt.progress {s : RState} {cap : Nat} {inp : List Nat} {s' : RState} {inp' : List Nat}
    (h : ChunkAt s cap inp s' inp') :
    inp' <:+ inp ∧ inp'.length < inp.length ∧ s.out.size ≤ s'.out.size ∧ s'.out.size ≤ cap ∧
      ((∀ x ∈ inp, x < 256) → s'.out.size + 2 ^ 21 * inp'.length ≤ s.out.size + 2 ^ 21 * inp.length) := by
  cases h with
  | @lzma control u1 u2 c1 c2 unc comp inp body tail s1 props d0 d' r ps' hunc hcompv hc hreset hprops hcomp hinit
      hcap hdec hstop hfin =>
    obtain ⟨ho, pre, rfl, _⟩ := chunkProps_reads hprops
    rw [resetBy_out] at ho
    have hloop := Total.loop_symbols_le_bytes s1.params s1.dictBuf (unc + 1) (some unc) s1.coder s1.hist s1.probs d0
    simp only [hdec] at hloop
    have hem := (hloop.2.2.2.1 unc rfl).2 hstop
    have hh := hloop.2.2.1
    have hsz : (s1.out ++ r.hist.extract s1.hist.size r.hist.size).size = s.out.size + unc := by
      rw [Array.size_append, Array.size_extract, ho]; omega
    refine ⟨?_, ?_, ?_, ?_, fun hb => ?_⟩
    · exact (List.suffix_append body inp').trans
        ((List.suffix_append pre _).trans (List.suffix_append [control, u1, u2, c1, c2] _))
    · simp only [List.length_cons, List.length_append]; omega
    · show s.out.size ≤ (s1.out ++ r.hist.extract s1.hist.size r.hist.size).size
      omega
    · show (s1.out ++ r.hist.extract s1.hist.size r.hist.size).size ≤ cap
      rw [ho] at hcap; omega
    · show (s1.out ++ r.hist.extract s1.hist.size r.hist.size).size + _ ≤ _
      have := hb u1 (by simp)
      have := hb u2 (by simp)
      have : unc ≤ 2 ^ 21 := by rw [← hunc]; unfold be16; omega
      simp only [List.length_cons, List.length_append]; omega
  | @stored ctl u1 u2 raw tail hctl hnd hlen hcap =>
    refine ⟨(List.suffix_append raw inp').trans (List.suffix_append [ctl, u1, u2] _), ?_, ?_, ?_, fun hb => ?_⟩
    · simp only [List.length_cons, List.length_append]; omega
    · show _ ≤ (pushAll s.out raw).size
      rw [pushAll_size]; omega
    · show (pushAll s.out raw).size ≤ cap
      rw [pushAll_size]; omega
    · show (pushAll s.out raw).size + _ ≤ _
      have := hb u1 (by simp)
      have := hb u2 (by simp)
      have : raw.length ≤ 2 ^ 21 := by rw [← hlen]; unfold be16; omega
      simp only [pushAll_size, List.length_cons, List.length_append]; omega

/-- every read of the iteration is a pattern match on header bytes or a length-checked `take` -/
theorem ChunkAt.ext {s : RState} {cap : Nat} {inp : List Nat} {s' : RState} {inp' : List Nat}
    (h : ChunkAt s cap inp s' inp') (x : List Nat) {cap' : Nat} (hcap' : cap ≤ cap') :
    ChunkAt s cap' (inp ++ x) s' (inp' ++ x) := by
  cases h with
  | @lzma control u1 u2 c1 c2 unc comp inp body tail s1 props d0 d' r ps' hunc hcompv hc hreset hprops hcomp hinit
      hcap hdec hstop hfin =>
    obtain ⟨_, pre, rfl, hp⟩ := chunkProps_reads hprops
    refine .lzma hunc hcompv hc hreset ?_ hcomp hinit (Nat.le_trans hcap hcap') hdec hstop hfin
    show chunkProps _ _ (pre ++ (body ++ inp') ++ x) = _
    rw [List.append_assoc, List.append_assoc]
    exact hp _
  | @stored ctl u1 u2 raw tail hctl hnd hlen hcap =>
    rw [List.cons_append, List.cons_append, List.cons_append, List.append_assoc]
    exact .stored hctl hnd hlen (Nat.le_trans hcap hcap')


/-- **The chunk loop is monotone in its input** (and in fuel and cap) -/
theorem chunkLoop_ext : ∀ (fuel : Nat) (s : RState) (p : List Nat) (cap : Nat) (s' : RState) (rest : List Nat),
    chunkLoop fuel s p cap = .ok s' rest →
    ∀ (x : List Nat) (fuel' cap' : Nat), fuel ≤ fuel' → cap ≤ cap' →
      chunkLoop fuel' s (p ++ x) cap' = .ok s' (rest ++ x)
  | 0, _, _, _, _, _, h => nomatch h
  | f + 1, s, p, cap, s', rest, h => by
    intro x fuel' cap' hf hcap
    obtain ⟨f', rfl⟩ : ∃ f', fuel' = f' + 1 := ⟨fuel' - 1, by omega⟩
    rcases chunkLoop_cases f f s p cap with ⟨tail, rfl⟩ | ⟨s1, p1, hc⟩ | ⟨_, hno, _⟩
    · cases (chunkLoop_end f s tail cap).symm.trans h
      exact chunkLoop_end f' s _ cap'
    · rw [(hc.ext x hcap).loop]
      exact chunkLoop_ext f s1 p1 cap s' rest (hc.loop f ▸ h) x f' cap' (by omega) hcap
    · exact absurd h (hno _ _)

theorem decode_ext {dict : Nat} {preset : Array Nat} {inp : List Nat} {cap : Nat} {r : DecOk}
    (h : decode dict preset inp cap = .ok r) (x : List Nat) {cap' : Nat} (hc : cap ≤ cap') :
    decode dict preset (inp ++ x) cap' = .ok r := by
  unfold decode at h ⊢
  split at h
  · next s rest hl =>
    cases h
    rw [chunkLoop_ext _ _ _ _ _ _ hl x _ cap' (by rw [List.length_append]; omega) hc]
    simp only [List.length_append, Nat.add_sub_add_right]
  · cases h
  · cases h

end LzmaVerif.Lzma2
