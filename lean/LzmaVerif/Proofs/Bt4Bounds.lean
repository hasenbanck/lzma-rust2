/-
  (B2) (`bt4_find_bounds`, `Props/C01Bt4.lean`) bounds on the matches reported by `find`: lengths, distances, strictly
  increasing lengths, count.  For the hash candidates they are part of their validity (`CandsOk`,
  `Proofs/Bt4Hash.lean`); the tree walk adds matches that are longer than everything before them.
-/
import LzmaVerif.Proofs.Bt4Hash
namespace LzmaVerif.Mf.Bt4

variable {P : Bt4Params} {c : Cfg} {data : Array UInt8}

def MatchOk (c : Cfg) (k : Ctx) (m : Match) : Prop :=
  2 ≤ m.1 ∧ m.1 ≤ k.lenLimit ∧ m.2 + 1 ≤ k.p ∧ m.2 + 1 ≤ c.dict

def MsInv (c : Cfg) (k : Ctx) (lb : Nat) (ms : Array Match) : Prop :=
  (∀ m ∈ ms.toList, MatchOk c k m ∧ m.1 ≤ lb) ∧ ms.toList.Pairwise (fun a b => a.1 < b.1) ∧
  ms.size + 1 ≤ lb ∧ ms.size + 2 ≤ k.niceLimit

def MsFinal (c : Cfg) (k : Ctx) (ms : Array Match) : Prop :=
  (∀ m ∈ ms.toList, MatchOk c k m) ∧ ms.toList.Pairwise (fun a b => a.1 < b.1) ∧ ms.size + 1 ≤ k.niceLimit

theorem MsInv.final {c : Cfg} {k : Ctx} {lb : Nat} {ms : Array Match} (h : MsInv c k lb ms) : MsFinal c k ms :=
  ⟨fun m hm => (h.1 m hm).1, h.2.1, by have := h.2.2.2; omega⟩

theorem MsInv.push {c : Cfg} {k : Ctx} {lb : Nat} {ms : Array Match} (h : MsInv c k lb ms) (m : Match)
    (hm : MatchOk c k m) (hlt : lb < m.1) :
    (∀ x ∈ (ms.push m).toList, MatchOk c k x ∧ x.1 ≤ m.1) ∧ (ms.push m).toList.Pairwise (fun a b => a.1 < b.1) ∧
    (ms.push m).size + 1 ≤ m.1 ∧ (ms.push m).size + 1 ≤ k.niceLimit := by
  obtain ⟨h1, h2, h3, h4⟩ := h
  rw [Array.toList_push, Array.size_push]
  refine ⟨?_, ?_, by omega, by omega⟩
  · intro x hx
    rcases List.mem_append.1 hx with hx | hx
    · exact ⟨(h1 x hx).1, by have := (h1 x hx).2; omega⟩
    · rw [List.mem_singleton] at hx; subst hx; exact ⟨hm, Nat.le_refl _⟩
  · exact List.pairwise_append.2 ⟨h2, List.pairwise_singleton _ _, fun x hx y hy => by
      rw [List.mem_singleton.1 hy]; have := (h1 x hx).2; omega⟩

theorem findProbe_ms (hok : P.ok) {k : Ctx} {lb : Nat} {ms : Array Match} (lg : Log) {m delta : Nat}
    (d1 : 1 ≤ delta) (d2 : delta ≤ k.p) (d3 : delta ≤ c.dict) (hm : m ≤ k.lenLimit) (h : MsInv c k lb ms)
    {r : Nat × Bool × (Nat × Array Match) × Log}
    (hr : findProbe P data k.p k.lenLimit k.niceLimit (lb, ms) lg m delta = r) :
    r.1 ≤ k.lenLimit ∧ (r.2.1 = true → MsFinal c k r.2.2.1.2) ∧ (r.2.1 = false → MsInv c k r.2.2.1.1 r.2.2.1.2) := by
  subst hr
  have hlen := extendMatch_le data k.p delta k.lenLimit m hm
  by_cases hit : lb < extendMatch data k.p delta k.lenLimit m
  · rw [findProbe_hit hok hit]
    have hp := h.push (extendMatch data k.p delta k.lenLimit m, delta - 1)
      ⟨by have := h.2.2.1; show 2 ≤ extendMatch _ _ _ _ _; omega, hlen, by show delta - 1 + 1 ≤ _; omega,
        by show delta - 1 + 1 ≤ _; omega⟩ hit
    refine ⟨hlen, fun _ => ⟨fun x hx => (hp.1 x hx).1, hp.2.1, hp.2.2.2⟩, fun hn => ⟨hp.1, hp.2.1, hp.2.2.1, ?_⟩⟩
    have h1 : (ms.push (extendMatch data k.p delta k.lenLimit m, delta - 1)).size + 1 ≤
      extendMatch data k.p delta k.lenLimit m := hp.2.2.1
    have h2 : ¬ k.niceLimit ≤ extendMatch data k.p delta k.lenLimit m := of_decide_eq_false hn
    show (ms.push (extendMatch data k.p delta k.lenLimit m, delta - 1)).size + 2 ≤ k.niceLimit
    omega
  · rw [findProbe_miss hok hit]
    exact ⟨hlen, fun hn => by simp at hn, fun _ => h⟩

theorem walk_ms (hok : P.ok) (k : Ctx) {hi : Nat}
    (hk : KFacts P c data k hi)
    (depth : Nat) (tree : Array Nat) (ptr0 ptr1 len0 len1 cur : Nat) (st : Nat × Array Match) (lg : Log) :
    TblOk k.cs hi tree → EntryOk k.cs hi cur → len0 ≤ k.lenLimit → len1 ≤ k.lenLimit →
    MsInv c k st.1 st.2 →
    MsFinal c k (walk P data k (findProbe P data k.p k.lenLimit k.niceLimit) depth tree ptr0 ptr1 len0 len1 cur
      st lg).2.1.2 := by
  fun_induction walk P data k (findProbe P data k.p k.lenLimit k.niceLimit) depth tree ptr0 ptr1 len0 len1 cur
    st lg with
  | case1 => intro _ _ _ _ h; exact h.final
  | case2 => intro _ _ _ _ h; exact h.final
  | case3 depth tree ptr0 ptr1 len0 len1 cur st lg delta hstop pair r hnice =>
    intro ht hc h0 h1 h
    obtain ⟨_, d1, d2, d3⟩ := walk_cand hok hk.toKCore hc hstop
    exact (findProbe_ms hok lg d1 d2 d3 (by omega) h rfl).2.1 hnice
  | case4 depth tree ptr0 ptr1 len0 len1 cur st lg delta hstop pair r hnice lg1 hlt tree1 ih =>
    intro ht hc h0 h1 h
    obtain ⟨_, d1, d2, d3⟩ := walk_cand hok hk.toKCore hc hstop
    obtain ⟨hlen, _, hms⟩ := findProbe_ms hok lg d1 d2 d3 (by omega : min len0 len1 ≤ k.lenLimit) h rfl
    have ht1 : TblOk k.cs hi tree1 := ht.set ptr1 cur hc
    exact ih ht1 (ht1 _) h0 hlen (hms (Bool.eq_false_iff.2 hnice))
  | case5 depth tree ptr0 ptr1 len0 len1 cur st lg delta hstop pair r hnice lg1 hlt tree1 ih =>
    intro ht hc h0 h1 h
    obtain ⟨_, d1, d2, d3⟩ := walk_cand hok hk.toKCore hc hstop
    obtain ⟨hlen, _, hms⟩ := findProbe_ms hok lg d1 d2 d3 (by omega : min len0 len1 ≤ k.lenLimit) h rfl
    have ht1 : TblOk k.cs hi tree1 := ht.set ptr0 cur hc
    exact ih ht1 (ht1 _) hlen h1 (hms (Bool.eq_false_iff.2 hnice))

theorem matchOk_of_valid {k : Ctx} {hi : Nat}
    (hk : KFacts P c data k hi) {m : Match}
    (h : ValidMatch data c.dict k.p (min c.mlmax (data.size - k.p)) m) : MatchOk c k m :=
  ⟨h.1, by rw [hk.lenLim]; exact h.2.1, h.2.2.2.1, h.2.2.2.2.1⟩

/-- (B2) for one `find`; `niceLen - 1` is the capacity of `Matches::new(nice_len - 1)` -/
theorem find_bounds (hH : Hyp P c data) {s : St}
    (hI : Inv P c data s) :
    (∀ m ∈ (find P c data s).2.toList,
      2 ≤ m.1 ∧ m.1 ≤ min c.mlmax (data.size - s.pos) ∧ m.2 + 1 ≤ s.pos ∧ m.2 + 1 ≤ c.dict) ∧
    lensIncreasing (find P c data s).2.toList = true ∧
    (find P c data s).2.size ≤ c.niceLen - 1 := by
  by_cases hp : pending P c data s.pos
  · rw [find_pending hH hp]
    exact ⟨fun m hm => by simp at hm, rfl, Nat.zero_le _⟩
  · have S := step hH hI hp
    have hcd := stepCd_ok hH hI hp
    have hn3 : 3 ≤ niceLimitOf c (data.size - s.pos) := S.facts.nice3
    have hmo : ∀ m ∈ (stepCd P c data s).ms.toList,
        MatchOk c (stepK P c data s) m ∧ m.1 ≤ (stepCd P c data s).lenBest :=
      fun m hm => ⟨matchOk_of_valid S.facts (hcd.valid m hm).1, (hcd.valid m hm).2⟩
    have hf : MsFinal c (stepK P c data s) (find P c data s).2 := by
      rw [find_tail hH hp, findTail]
      by_cases hne : (stepCd P c data s).ms.size > 0 ∧
          geOrGt P.niceStopGe (stepCd P c data s).lenBest (niceLimitOf c (data.size - s.pos)) = true
      · -- the early exit returns the candidates
        rw [if_pos hne]
        show MsFinal c (stepK P c data s) (stepCd P c data s).ms
        exact ⟨fun m hm => (hmo m hm).1, hcd.incr, by
          show (stepCd P c data s).ms.size + 1 ≤ niceLimitOf c _; have := hcd.count; omega⟩
      · rw [if_neg hne, findLoop_eq_walk]
        obtain ⟨s1, _, s3, s4, _⟩ := hcd.start hH.ok hne hn3
        -- with the invariant stated first the walk lemma is matched against the goal without unfolding the step
        have hms : MsInv c (stepK P c data s) (startLenBest P (stepCd P c data s).lenBest) (stepCd P c data s).ms :=
          ⟨fun m hm => ⟨(hmo m hm).1, Nat.le_trans (hmo m hm).2 s1⟩, hcd.incr, s3, s4⟩
        exact walk_ms hH.ok (stepK P c data s) S.facts (depthLimit P c) _ _ _ 0 0 _ (_, _) _ S.inv.treeok S.cur
          (Nat.zero_le _) (Nat.zero_le _) hms
    obtain ⟨f1, f2, f3⟩ := hf
    refine ⟨fun m hm => ?_, lensIncreasing_of_pairwise _ f2, ?_⟩
    · obtain ⟨g1, g2, g3, g4⟩ := f1 m hm
      rw [S.facts.lenLim, S.p] at g2
      rw [S.p] at g3
      exact ⟨g1, g2, g3, g4⟩
    · have := S.facts.niceLe
      omega

end LzmaVerif.Mf.Bt4
