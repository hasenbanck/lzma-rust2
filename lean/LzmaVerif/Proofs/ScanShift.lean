import LzmaVerif.Proofs.TotalGuards
/-!
# `LZIPReaderMT::scan_members`: junk in front of an acceptable file is reported

`scan_members` walks the trailers from the end of the file.  If the file is `junk ++ rest`, where the scan accepts
`rest` on its own, the walk over `junk ++ rest` makes exactly the decisions of the walk over `rest` (all positions
shifted by `|junk|`) until it stands at position `|junk|`; with `0 < |junk| < 20` that is the `leading` error
("Data in front of the first LZIP member").  (With 20 or more bytes in front the answer depends on those bytes - they
are read as a trailer -; `Total.scanFile_tiles` says that whatever is accepted is tiled by members from byte 0.)
-/
namespace LzmaVerif.Total
open LzmaVerif Guards

section Shift
variable (fileSize : Nat) (msA msA' : Nat → Nat) (mgA mgA' : Nat → Bool) (j : Nat)

theorem scanLoop_shift (hj0 : 0 < j) (hj : j < 20)
    (hsz : ∀ p, 20 ≤ p → msA' (p + j) = msA p) (hmg : ∀ p, mgA' (p + j) = mgA p) :
    ∀ (fuel cur : Nat) (acc acc' ms : List Member),
      scanLoop fileSize msA mgA fuel cur acc = .ok ms →
      scanLoop (fileSize + j) msA' mgA' (fuel + j) (cur + j) acc' = .error .leading := by
  intro fuel
  induction fuel with
  | zero => intro cur acc acc' ms h; cases h
  | succ f ih =>
    intro cur acc acc' ms h
    rcases scanLoop_step fileSize msA mgA f f cur acc with ⟨_, hok, _⟩ | ⟨h20, h1, h2, h3, h4, e, _⟩
    · obtain ⟨rfl, _⟩ := hok ms h
      rw [Nat.zero_add, show f + 1 + j = (f + j) + 1 by omega]
      exact scanLoop_leading (f + j) j acc' hj0 hj
    · have es : cur + j - msA cur = (cur - msA cur) + j := by omega
      rw [show f + 1 + j = (f + j) + 1 by omega, scanLoop_succ, if_neg (by omega), if_neg (by omega),
        hsz cur h20, if_neg (by omega), es, if_neg (by omega), hmg, if_neg (by rw [h4]; decide)]
      exact ih _ _ _ ms (e ▸ h)

end Shift

theorem memberSizeOf_append (junk rest : List Nat) (p : Nat) (hp : 8 ≤ p) :
    memberSizeOf (junk ++ rest) (p + junk.length) = memberSizeOf rest p := by
  unfold memberSizeOf
  have : p + junk.length - 8 = junk.length + (p - 8) := by omega
  rw [this, List.drop_append, List.drop_eq_nil_of_le (Nat.le_add_right _ _), Nat.add_sub_cancel_left,
    List.nil_append]

theorem magicOf_append (junk rest : List Nat) (p : Nat) :
    magicOf (junk ++ rest) (p + junk.length) = magicOf rest p := by
  unfold magicOf
  rw [Nat.add_comm p, List.drop_append, List.drop_eq_nil_of_le (Nat.le_add_right _ _), Nat.add_sub_cancel_left,
    List.nil_append]

theorem scanFile_leading_junk (junk rest : List Nat) (ms : List Member) (h : scanFile rest = .ok ms)
    (h0 : 0 < junk.length) (h20 : junk.length < 20) :
    scanFile (junk ++ rest) = .error .leading := by
  unfold scanFile at h
  obtain ⟨h26, _, hl⟩ := scanMembers_eq_ok h
  have hlen : (junk ++ rest).length = rest.length + junk.length := by
    rw [List.length_append, Nat.add_comm]
  unfold scanFile scanMembers scanMembersFuel
  rw [hlen, if_neg (by omega), Nat.add_right_comm,
    scanLoop_shift rest.length (memberSizeOf rest) (memberSizeOf (junk ++ rest)) (magicOf rest)
      (magicOf (junk ++ rest)) junk.length h0 h20 (fun p hp => memberSizeOf_append junk rest p (by omega))
      (fun p => magicOf_append junk rest p) (rest.length + 1) rest.length [] [] ms hl]

/-- non-vacuity: three bytes in front of the two-member file of `exScan` -/
example : scanFile ([9, 9, 9] ++ (exMember ++ exMember)) = .error .leading :=
  scanFile_leading_junk [9, 9, 9] (exMember ++ exMember) _ exScan (by decide) (by decide)

end LzmaVerif.Total

#print axioms LzmaVerif.Total.scanLoop_shift
#print axioms LzmaVerif.Total.scanFile_leading_junk
