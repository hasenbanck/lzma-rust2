import LzmaVerif.Proofs.FiltersFields
/-!
RISC-V BCJ filter (`riscv_code`).  Every value the filter computes is written as bit fields of its inputs
(`*_fields`).  An AUIPC+inst2 pair converted by encoder branch 1 is recognised and undone by decoder branch 2 (`b1_*`), a
"special" AUIPC converted by encoder branch 2 by decoder branch 1 (`b2_*`).  The window is 8 bytes, the advance 2, 4, 6
or 8; after an advance of 6 the pair test has read the low nibble of the byte behind it, which is the signature of
`StepOK`.  Core Lean only.
-/
namespace LzmaVerif.Filters
open LzmaVerif.Bits

theorem mask_7F (x : Nat) : x &&& 0x7F = fld x 0 7 := and_ones x 7
theorem mask_F0 (x : Nat) : x &&& 0xF0 = fld x 4 4 <<< 4 := and_ones_shl x 4 4
theorem mask_10 (x : Nat) : x &&& 0x10 = fld x 4 1 <<< 4 := and_ones_shl x 1 4
theorem mask_E0 (x : Nat) : x &&& 0xE0 = fld x 5 3 <<< 5 := and_ones_shl x 3 5
theorem mask_80 (x : Nat) : x &&& 0x80 = fld x 7 1 <<< 7 := and_ones_shl x 1 7

def jalAE (b1 b2 b3 : Nat) : Nat :=
  ((b1 &&& 0xF0) <<< 8) ||| ((b2 &&& 0x0F) <<< 16) ||| ((b2 &&& 0x10) <<< 7) |||
    ((b2 &&& 0xE0) >>> 4) ||| ((b3 &&& 0x7F) <<< 4) ||| ((b3 &&& 0x80) <<< 13)
def jalAD (b1 b2 b3 : Nat) : Nat := ((b1 &&& 0xF0) <<< 13) ||| (b2 <<< 9) ||| (b3 <<< 1)
def jalE1 (b1 a : Nat) : Nat := (b1 &&& 0x0F) ||| ((a >>> 13) &&& 0xF0)
def jalD1 (b1 a : Nat) : Nat := (b1 &&& 0x0F) ||| ((a >>> 8) &&& 0xF0)
def jalD2 (a : Nat) : Nat := ((a >>> 16) &&& 0x0F) ||| ((a >>> 7) &&& 0x10) ||| ((a <<< 4) &&& 0xE0)
def jalD3 (a : Nat) : Nat := ((a >>> 4) &&& 0x7F) ||| ((a >>> 13) &&& 0x80)

theorem jalAE_fields (b1 b2 b3 : Nat) : jalAE b1 b2 b3 =
    fld b1 4 4 <<< 12 ||| fld b2 0 4 <<< 16 ||| fld b2 4 1 <<< 11 ||| fld b2 5 3 <<< 1 |||
      fld b3 0 7 <<< 4 ||| fld b3 7 1 <<< 20 := by
  fld_simp [jalAE, mask_F0, mask_F, mask_10, mask_E0, mask_7F, mask_80]

theorem jalAD_fields (c1 c2 c3 : Nat) : jalAD c1 c2 c3 = fld c1 4 4 <<< 17 ||| c2 <<< 9 ||| c3 <<< 1 := by
  fld_simp [jalAD, mask_F0]
theorem jalE1_fields (b1 a : Nat) : jalE1 b1 a = fld b1 0 4 ||| fld a 17 4 <<< 4 := by
  fld_simp [jalE1, mask_F, mask_F0]
theorem jalD1_fields (b1 a : Nat) : jalD1 b1 a = fld b1 0 4 ||| fld a 12 4 <<< 4 := by
  fld_simp [jalD1, mask_F, mask_F0]
theorem jalD2_fields (a : Nat) : jalD2 a = fld a 16 4 ||| fld a 11 1 <<< 4 ||| fld a 1 3 <<< 5 := by
  fld_simp [jalD2, mask_F, mask_10, mask_E0]
theorem jalD3_fields (a : Nat) : jalD3 a = fld a 4 7 ||| fld a 20 1 <<< 7 := by
  fld_simp [jalD3, mask_7F, mask_80]

/-- the decoder reads back bits 1..20 of the address the encoder stored -/
theorem jalAD_jalE (b1 a : Nat) (ha : a % 2 = 0) :
    jalAD (jalE1 b1 a % 256) (a >>> 9 % 256) (a >>> 1 % 256) % 2 ^ 21 = a % 2 ^ 21 := by
  have e : ∀ x, x % 2 ^ 21 = fld x 0 1 ||| (fld x 1 8 ||| (fld x 9 8 ||| fld x 17 4 <<< 8) <<< 8) <<< 1 := by
    intro x
    rw [fld_cat x 9 8 17 4 rfl, fld_cat x 1 8 9 _ rfl, fld_cat x 0 1 1 _ rfl, fld_zero]
  have h0 : fld a 0 1 = 0 := by rw [fld_zero]; exact ha
  rw [e, e a, h0]
  fld_simp [jalAD_fields, jalE1_fields, mod256_fld]

theorem jalD_jalAE (b1 b2 b3 c1 x : Nat) (h : x % 2 ^ 21 = jalAE b1 b2 b3 % 2 ^ 21) :
    jalD1 c1 x = fld c1 0 4 ||| fld b1 4 4 <<< 4 ∧ jalD2 x = fld b2 0 8 ∧ jalD3 x = fld b3 0 8 := by
  have e : ∀ lo n, lo + n ≤ 21 → fld x lo n = fld (jalAE b1 b2 b3) lo n := fun lo n => fld_congr h lo n
  fld_simp [jalD1_fields, jalD2_fields, jalD3_fields, e, jalAE_fields, fld_cat, true_and]

/-- `0x0D` tests the bits of `rd` (bits 7..11 of the instruction) that are in the second byte: `rd ∈ {x1, x5}` -/
theorem mask_0D (x : Nat) : x &&& 0x0D = fld x 0 4 &&& 0x0D := and_shl x 0x0D 0 4 (by decide)

theorem jal_round (p b1 b2 b3 a c1 a' : Nat) (hp : p % 2 = 0) (h1 : b1 < 256) (h2 : b2 < 256) (h3 : b3 < 256)
    (ha : a = wadd (jalAE b1 b2 b3) p) (hc1 : c1 = jalE1 b1 a % 256)
    (ha' : a' = wsub (jalAD c1 (a >>> 9 % 256) (a >>> 1 % 256)) p) :
    c1 &&& 0x0D = b1 &&& 0x0D ∧ jalD1 c1 a' % 256 = b1 ∧ jalD2 a' % 256 = b2 ∧ jalD3 a' % 256 = b3 := by
  have he : a % 2 = 0 := by
    have : fld (jalAE b1 b2 b3) 0 1 = 0 := by fld_simp [jalAE_fields]
    simp only [fld, wadd] at this ha
    omega
  obtain ⟨d1, d2, d3⟩ := jalD_jalAE b1 b2 b3 c1 a'
    (ha' ▸ wsub_wadd_low (2 ^ 21) (by decide) _ _ p (ha ▸ hc1 ▸ jalAD_jalE b1 a he))
  have hc : fld c1 0 4 = fld b1 0 4 := by fld_simp [hc1, mod256_fld, jalE1_fields]
  rw [mask_0D c1, mask_0D b1, d1, d2, d3, hc, fld_cat b1 0 4 4 4 rfl]
  fld_simp [mod256_fld, fld_of_lt (n := 8) h1, fld_of_lt (n := 8) h2, fld_of_lt (n := 8) h3, and_self]

def auF1 (inst2 : Nat) : Nat := u32 (0x17 ||| (2 <<< 7) ||| (inst2 <<< 12))
def auAE (full inst2 pc : Nat) : Nat := wadd (wadd (full &&& 0xFFFFF000) (sar20 inst2)) pc
def auAD (full inst2 : Nat) : Nat := wadd (full &&& 0xFFFFF000) (inst2 >>> 20)
def auI2 (full a : Nat) : Nat := u32 ((full >>> 12) ||| (a <<< 20))
def auF2 (full fa : Nat) : Nat := 0x17 ||| ((full >>> 27) <<< 7) ||| (fa &&& 0xFFFFF000)
def auSkip (full : Nat) : Prop := (wsub full 0x3100) &&& 0x3F80 ≥ (full >>> 27) &&& 0x1D
instance (full : Nat) : Decidable (auSkip full) :=
  inferInstanceAs (Decidable ((wsub full 0x3100) &&& 0x3F80 ≥ (full >>> 27) &&& 0x1D))
def rvPair (full inst2 : Nat) : Prop := ((u32 (full <<< 8)) ^^^ inst2) &&& 0xF8003 = 3
instance (full inst2 : Nat) : Decidable (rvPair full inst2) :=
  inferInstanceAs (Decidable (((u32 (full <<< 8)) ^^^ inst2) &&& 0xF8003 = 3))

theorem mask_FFFFF000 (x : Nat) : x &&& 0xFFFFF000 = fld x 12 20 <<< 12 := and_ones_shl x 20 12
theorem mask_3F80 (x : Nat) : x &&& 0x3F80 = fld x 7 7 <<< 7 := and_ones_shl x 7 7
/-- `0xE80` tests the bits `0x1D` of the register field `rd` (bits 7..11): `rd ∉ {x0, x2}` -/
theorem mask_E80 (x : Nat) : x &&& 0xE80 = (fld x 7 5 &&& 0x1D) <<< 7 := and_shl x 0x1D 7 5 (by decide)
theorem mask_F8003 (x : Nat) : x &&& 0xF8003 = fld x 0 2 ||| fld x 15 5 <<< 15 := by
  rw [show (0xF8003 : Nat) = (2 ^ 2 - 1) ||| (2 ^ 5 - 1) * 2 ^ 15 from rfl, Nat.and_or_distrib_left, and_ones,
    and_ones_shl]

/-- the pair test looks at the low two bits of `inst2` and compares its `rs1` with the `rd` of the AUIPC -/
theorem rvPair_iff (full inst2 : Nat) :
    rvPair full inst2 ↔ fld inst2 0 2 = 3 ∧ fld inst2 15 5 = fld full 7 5 := by
  rw [rvPair, mask_F8003, or_shl_eq_iff (fld_lt_of_le _ 0 (by decide)) (by decide), u32, fld_xor, fld_xor,
    fld_mod _ 32 0 2 (by decide), fld_mod _ 32 15 5 (by decide), fld_shl_lt _ 8 0 2 (by decide),
    fld_shl_ge _ 8 15 5 (by decide), Nat.zero_xor, xor_eq_zero, eq_comm (a := fld full _ _)]

theorem auF1_fields (inst2 : Nat) : auF1 inst2 = 0x17 ||| 2 <<< 7 ||| fld inst2 0 20 <<< 12 := by
  rw [auF1, u32, ← fld_zero, fld_or, fld_shl_lo _ 12 32 (by decide), fld_of_lt (by decide)]

theorem auI2_fields (full a : Nat) (hf : full < 2 ^ 32) : auI2 full a = fld full 12 20 ||| fld a 0 12 <<< 20 := by
  rw [auI2, u32, ← fld_zero, fld_or, fld_shl_lo _ 20 32 (by decide), shr_eq_fld (lo := 12) (n := 20) hf,
    fld_of_lt (fld_lt_of_le full 12 (by decide))]

theorem auF2_fields (full fa : Nat) (hf : full < 2 ^ 32) :
    auF2 full fa = 0x17 ||| fld full 27 5 <<< 7 ||| fld fa 12 20 <<< 12 := by
  rw [auF2, mask_FFFFF000, shr_eq_fld (lo := 27) (n := 5) hf]

/-- a special AUIPC is one that looks like the first word of a converted pair: `rd = x2`, the two bits above it
    set (the low bits of the former `inst2`), and in the `rs1` position a register other than `x0`, `x2` -/
theorem auSkip_iff (full : Nat) (hf : full < 2 ^ 32) :
    ¬ auSkip full ↔ fld full 7 5 = 2 ∧ fld full 12 2 = 3 ∧ fld full 27 5 &&& 0x1D ≠ 0 := by
  have key : fld (wsub full 0x3100) 7 7 = 0 ↔ fld full 7 5 = 2 ∧ fld full 12 2 = 3 := by
    simp only [fld, wsub]
    omega
  have hR : fld full 27 5 &&& 0x1D < 2 ^ 7 := Nat.lt_of_le_of_lt Nat.and_le_right (by decide)
  rw [auSkip, mask_3F80, shr_eq_fld (lo := 27) (n := 5) hf, Nat.shiftLeft_eq, ← and_assoc, ← key]
  omega

/-- AUIPC + I-type pair: the address is `hi + sext lo`; `(a + 0x800) >> 12` and `a & 0xFFF` recover the parts -/
theorem sar20_round (h x : Nat) (hh : h < 2 ^ 20) (hx : x < 2 ^ 32) :
    fld (wadd (h <<< 12) (sar20 x)) 0 12 = fld x 20 12 ∧
    fld (wadd (wadd (h <<< 12) (sar20 x)) 0x800) 12 20 = h := by
  simp only [fld, wadd, sar20, Nat.shiftLeft_eq, Nat.shiftRight_eq_div_pow]
  split <;> omega

theorem auF1_lt (inst2 : Nat) : auF1 inst2 < 2 ^ 32 := Nat.mod_lt _ (by decide)
theorem auI2_lt (full a : Nat) : auI2 full a < 2 ^ 32 := Nat.mod_lt _ (by decide)

theorem auF2_lt (full fa : Nat) (hf : full < 2 ^ 32) : auF2 full fa < 2 ^ 32 := by
  rw [auF2_fields full fa hf]
  exact Nat.or_lt_two_pow (Nat.or_lt_two_pow (by decide) (fld_shl_lt_two_pow _ _ _ _ _ (by decide)))
    (fld_shl_lt_two_pow _ _ _ _ _ (by decide))

theorem b1_op (inst2 : Nat) : fld (auF1 inst2) 0 7 = 0x17 := by
  fld_simp [auF1_fields]
  decide

theorem b1_rd (inst2 : Nat) : auF1 inst2 &&& 0xE80 = 0 := by
  fld_simp [mask_E80, auF1_fields]
  decide

theorem b1_special (full inst2 : Nat) (hp : rvPair full inst2) (hrd : full &&& 0xE80 ≠ 0) :
    ¬ auSkip (auF1 inst2) := by
  obtain ⟨p1, p2⟩ := (rvPair_iff full inst2).mp hp
  rw [mask_E80, Ne, Nat.shiftLeft_eq_zero_iff] at hrd
  rw [auSkip_iff _ (auF1_lt inst2)]
  fld_simp [auF1_fields, p1, p2]
  exact ⟨by decide, by decide, hrd⟩

theorem b1_inst2 (full inst2 pc : Nat) (hi : inst2 < 2 ^ 32) :
    auI2 (auF1 inst2) (wsub (auAE full inst2 pc) pc) = inst2 := by
  rw [auAE, wsub_wadd _ _ (wadd_lt _ _), auI2_fields _ _ (auF1_lt _), mask_FFFFF000,
    (sar20_round _ inst2 (fld_lt _ _ _) hi).1]
  fld_simp [auF1_fields]
  rw [fld_cat _ 0 20 20 12 rfl, fld_of_lt hi]

theorem b1_full (full inst2 pc : Nat) (hf : full < 2 ^ 32) (hi : inst2 < 2 ^ 32) (h17 : fld full 0 7 = 0x17)
    (hp : rvPair full inst2) :
    auF2 (auF1 inst2) (wadd (wsub (auAE full inst2 pc) pc) 0x800) = full := by
  rw [auAE, wsub_wadd _ _ (wadd_lt _ _), auF2_fields _ _ (auF1_lt _), mask_FFFFF000,
    (sar20_round _ inst2 (fld_lt _ _ _) hi).2]
  fld_simp [auF1_fields]
  rw [((rvPair_iff full inst2).mp hp).2, ← h17, fld_cat _ 0 7 7 5 rfl, fld_cat _ 0 12 12 20 rfl, fld_of_lt hf]

theorem b2_op (full fa : Nat) : fld (auF2 full fa) 0 7 = 0x17 := by
  fld_simp [auF2, mask_FFFFF000]
  decide

theorem b2_rd (full fa : Nat) (hf : full < 2 ^ 32) (hs : ¬ auSkip full) : auF2 full fa &&& 0xE80 ≠ 0 := by
  rw [mask_E80, Ne, Nat.shiftLeft_eq_zero_iff]
  fld_simp [auF2_fields _ _ hf]
  exact ((auSkip_iff full hf).mp hs).2.2

theorem b2_pair (full fa : Nat) (hf : full < 2 ^ 32) (hs : ¬ auSkip full) :
    rvPair (auF2 full fa) (auI2 full fa) := by
  rw [rvPair_iff]
  fld_simp [auF2_fields _ _ hf, auI2_fields _ _ hf, ((auSkip_iff full hf).mp hs).2.1, and_self]

theorem b2_full (full fa : Nat) (hf : full < 2 ^ 32) (h17 : fld full 0 7 = 0x17) (hs : ¬ auSkip full) :
    auF1 (auI2 full fa) = full := by
  fld_simp [auF1_fields, auI2_fields _ _ hf]
  rw [← ((auSkip_iff full hf).mp hs).1, ← h17, fld_cat _ 0 7 7 5 rfl, fld_cat _ 0 12 12 20 rfl, fld_of_lt hf]

theorem b2_addr (full fa : Nat) (hf : full < 2 ^ 32) (hfa : fa < 2 ^ 32) :
    auAD (auF2 full fa) (auI2 full fa) = fa := by
  rw [auAD, mask_FFFFF000, shr_eq_fld (lo := 20) (n := 12) (auI2_lt _ _), wadd,
    Nat.shiftLeft_add_eq_or_of_lt (fld_lt _ _ _), Nat.or_comm]
  fld_simp [auF2_fields _ _ hf, auI2_fields _ _ hf]
  rw [fld_cat _ 0 12 12 20 rfl, fld_zero, Nat.mod_mod, Nat.mod_eq_of_lt hfa]

/-- what the filter writes for a JAL, for an AUIPC with its second instruction, and for a special AUIPC -/
def rvJal (enc : Bool) (st : St) (i : Nat) (b : Buf) : Buf :=
  if enc then
    let A := wadd (jalAE (gb b (i + 1)) (gb b (i + 2)) (gb b (i + 3))) (posAt st i)
    sb (sb (sb b (i + 1) (jalE1 (gb b (i + 1)) A)) (i + 2) (A >>> 9)) (i + 3) (A >>> 1)
  else
    let A := wsub (jalAD (gb b (i + 1)) (gb b (i + 2)) (gb b (i + 3))) (posAt st i)
    sb (sb (sb b (i + 1) (jalD1 (gb b (i + 1)) A)) (i + 2) (jalD2 A)) (i + 3) (jalD3 A)

def rvPairOut (enc : Bool) (st : St) (i : Nat) (b : Buf) : Buf :=
  put4 (put4 b i (le4 (auF1 (le32 b (i + 4))))) (i + 4)
    (if enc then be4 (auAE (le32 b i) (le32 b (i + 4)) (posAt st i)) else le4 (auAD (le32 b i) (le32 b (i + 4))))

def rvSpecOut (enc : Bool) (st : St) (i : Nat) (b : Buf) : Buf :=
  let A := if enc then le32 b (i + 4) else wsub (be32 b (i + 4)) (posAt st i)
  put4 (put4 b i (le4 (auF2 (le32 b i) (if enc then A else wadd A 0x800)))) (i + 4) (le4 (auI2 (le32 b i) A))

/-- the body of `riscvLoop`, with `k` for the recursive call -/
def riscvK {α : Type} (enc : Bool) (st : St) (i : Nat) (b : Buf) (k : Buf → Nat → α) : α :=
  if gb b i = 0xEF then
    if gb b (i + 1) &&& 0x0D = 0 then k (rvJal enc st i b) 4 else k b 2
  else if gb b i &&& 0x7F = 0x17 then
    if le32 b i &&& 0xE80 = 0 then
      if auSkip (le32 b i) then k b 4 else k (rvSpecOut enc st i b) 8
    else
      if rvPair (le32 b i) (le32 b (i + 4)) then k (rvPairOut enc st i b) 8 else k b 6
  else k b 2

def riscvStep (enc : Bool) (st : St) (i : Nat) (b : Buf) : Buf × Nat := riscvK enc st i b Prod.mk

theorem riscvK_eq {α : Type} (enc : Bool) (st : St) (i : Nat) (b : Buf) (f : Buf × Nat → α) :
    f (riscvStep enc st i b) = riscvK enc st i b (fun b' a => f (b', a)) := by
  simp only [riscvStep, riscvK, apply_ite f]

theorem riscvLoop_eq_scan (enc : Bool) (st : St) : ∀ fuel i b,
    riscvLoop enc st fuel i b = scan 8 (riscvStep enc st) fuel i b :=
  eq_scan _ (fun _ _ => rfl) (fun n i b => by
    rw [riscvLoop, riscvK_eq enc st i b (fun r => riscvLoop enc st n (i + r.2) r.1)]
    cases enc <;>
      simp only [riscvK, rvJal, rvPairOut, rvSpecOut, rvPair, auSkip, ne_eq, ite_not, Bool.false_eq_true, if_false,
        if_true, jalE1, jalAE, jalAD, jalD1, jalD2, jalD3, auF1, auAE, auAD, auF2, auI2, put4, le4, be4, setLe32,
        setBe32])

theorem riscvK_leaf {α : Type} (P : α → Prop) (enc : Bool) (st : St) (i : Nat) (b : Buf) (k : Buf → Nat → α)
    (h0 : P (k b 2) ∧ P (k b 4) ∧ P (k b 6))
    (hj : ∀ v1 v2 v3, P (k (sb (sb (sb b (i + 1) v1) (i + 2) v2) (i + 3) v3) 4))
    (hw : ∀ c c', P (k (put4 (put4 b i c) (i + 4) c') 8)) : P (riscvK enc st i b k) := by
  cases enc <;>
    simp only [riscvK, rvJal, rvPairOut, rvSpecOut, Bool.false_eq_true, if_false, if_true, apply_ite P, h0, hj, hw,
      ite_self]

theorem rvJal_agree (enc : Bool) (st : St) {i : Nat} {b b' : Buf} (h : Agree i 4 b b') :
    Agree i 4 (rvJal enc st i b) (rvJal enc st i b') := by
  unfold rvJal
  rw [h.2 (i + 1) (by omega) (by omega), h.2 (i + 2) (by omega) (by omega), h.2 (i + 3) (by omega) (by omega)]
  split
  · exact ((h.sb _ _).sb _ _).sb _ _
  · exact ((h.sb _ _).sb _ _).sb _ _

theorem rvPairOut_agree (enc : Bool) (st : St) {i : Nat} {b b' : Buf} (h : Agree i 8 b b') :
    Agree i 8 (rvPairOut enc st i b) (rvPairOut enc st i b') := by
  unfold rvPairOut
  rw [show le32 b' i = le32 b i from h.wdAt w4 i (by omega) (by omega),
    show le32 b' (i + 4) = le32 b (i + 4) from h.wdAt w4 (i + 4) (by omega) (by omega)]
  exact (h.put4 _ _).put4 _ _

theorem rvSpecOut_agree (enc : Bool) (st : St) {i : Nat} {b b' : Buf} (h : Agree i 8 b b') :
    Agree i 8 (rvSpecOut enc st i b) (rvSpecOut enc st i b') := by
  unfold rvSpecOut
  rw [show le32 b' i = le32 b i from h.wdAt w4 i (by omega) (by omega),
    show le32 b' (i + 4) = le32 b (i + 4) from h.wdAt w4 (i + 4) (by omega) (by omega),
    show be32 b' (i + 4) = be32 b (i + 4) from h.wdAt w4be (i + 4) (by omega) (by omega)]
  exact (h.put4 _ _).put4 _ _

theorem le32_lt (b : Buf) (o : Nat) (h : BBytes b) : le32 b o < 2 ^ 32 :=
  w4_le.lt _ _ _ _ (h _) (h _) (h _) (h _)

theorem Agree.setBe32 {i w : Nat} {b b' : Buf} (h : Agree i w b b') (o v : Nat) :
    Agree i w (setBe32 b o v) (setBe32 b' o v) := h.put4 o (be4 v)

theorem gb_put4_le32 (b E : Buf) (o k : Nat) (hB : BBytes b) (h : o + 4 ≤ E.size) :
    gb (put4 E o (le4 (le32 b o))) k = if o ≤ k ∧ k < o + 4 then gb b k else gb E k := by
  obtain ⟨e0, e1, e2, e3⟩ := put4_get E o (le4 (le32 b o)) h
  obtain ⟨d0, d1, d2, d3⟩ := le4_w4 _ _ _ _ (hB o) (hB (o + 1)) (hB (o + 2)) (hB (o + 3))
  split
  · have : k = o ∨ k = o + 1 ∨ k = o + 2 ∨ k = o + 3 := by omega
    rcases this with rfl | rfl | rfl | rfl
    · exact e0.trans d0
    · exact e1.trans d1
    · exact e2.trans d2
    · exact e3.trans d3
  · exact put4_frame _ _ _ _ (by omega)

theorem restore8 (b E : Buf) (i : Nat) (hB : BBytes b) (hw : i + 8 ≤ b.size) (hs : E.size = b.size)
    (hout : ∀ k, (k < i ∨ i + 8 ≤ k) → gb E k = gb b k) :
    put4 (put4 E i (le4 (le32 b i))) (i + 4) (le4 (le32 b (i + 4))) = b := by
  apply buf_ext
  · rw [put4_size, put4_size, hs]
  · intro k _
    rw [gb_put4_le32 b _ (i + 4) k hB (by rw [put4_size]; omega), gb_put4_le32 b E i k hB (by omega)]
    split
    · rfl
    · split
      · rfl
      · exact hout k (by omega)

theorem put8_facts (b : Buf) (i F : Nat) (c : Nat × Nat × Nat × Nat) (hw : i + 8 ≤ b.size) (hF : F < 2 ^ 32)
    (E : Buf) (hE : put4 (put4 b i (le4 F)) (i + 4) c = E) :
    E.size = b.size ∧ gb E i = F % 256 ∧ le32 E i = F ∧ (∀ wd, wdAt wd E (i + 4) = wdOut wd c) ∧
      ∀ k, (k < i ∨ i + 8 ≤ k) → gb E k = gb b k := by
  subst hE
  refine ⟨by rw [put4_size, put4_size], ?_, ?_, fun wd => wdAt_put4 wd _ _ _ (by rw [put4_size]; omega), ?_⟩
  · rw [put4_frame _ _ _ _ (by omega), (put4_get _ _ _ (by omega)).1]
    rfl
  · exact (wdAt_congr w4 (put4 b i (le4 F)) _ i (fun k _ _ => put4_frame _ _ _ _ (by omega))).trans
      ((wdAt_put4 w4 b i _ (by omega)).trans ((wdOut_le4 F).trans (Nat.mod_eq_of_lt hF)))
  · intro k hk
    rw [put4_frame _ _ _ _ (by omega), put4_frame _ _ _ _ (by omega)]

theorem riscvStep_size (enc : Bool) (st : St) (i : Nat) (b : Buf) : (riscvStep enc st i b).1.size = b.size := by
  unfold riscvStep
  exact riscvK_leaf (fun r => r.1.size = b.size) enc st i b Prod.mk ⟨rfl, rfl, rfl⟩
    (fun _ _ _ => by simp only [size_sb]) (fun _ _ => by simp only [put4_size])

theorem riscvStep_adv (enc : Bool) (st : St) (i : Nat) (b : Buf) :
    ∃ m, (riscvStep enc st i b).2 = 2 * (m + 1) := by
  unfold riscvStep
  exact riscvK_leaf (fun r => ∃ m, r.2 = 2 * (m + 1)) enc st i b Prod.mk ⟨⟨0, rfl⟩, ⟨1, rfl⟩, ⟨2, rfl⟩⟩
    (fun _ _ _ => ⟨1, rfl⟩) (fun _ _ => ⟨3, rfl⟩)

theorem riscvStep_bytes (enc : Bool) (st : St) (i : Nat) (b : Buf) (h : BBytes b) :
    BBytes (riscvStep enc st i b).1 := by
  unfold riscvStep
  refine riscvK_leaf (fun r => BBytes r.1) enc st i b Prod.mk ?_ ?_ ?_
  · with_reducible exact ⟨h, h, h⟩
  · intro _ _ _
    with_reducible exact BBytes_sb _ _ _ (BBytes_sb _ _ _ (BBytes_sb _ _ _ h))
  · intro _ _
    with_reducible exact put4_bytes _ _ _ (put4_bytes _ _ _ h)

theorem riscvStep_frame (enc : Bool) (st : St) (i : Nat) (b : Buf) (k : Nat) :
    (k < i ∨ i + (riscvStep enc st i b).2 ≤ k) → gb (riscvStep enc st i b).1 k = gb b k := by
  unfold riscvStep
  exact riscvK_leaf (fun r => (k < i ∨ i + r.2 ≤ k) → gb r.1 k = gb b k) enc st i b Prod.mk
    ⟨fun _ => rfl, fun _ => rfl, fun _ => rfl⟩
    (fun _ _ _ hk => by
      rw [gb_sb_ne _ _ _ _ (by omega), gb_sb_ne _ _ _ _ (by omega), gb_sb_ne _ _ _ _ (by omega)])
    (fun _ _ hk => by rw [put4_frame _ _ _ _ (by omega), put4_frame _ _ _ _ (by omega)])

def riscvSig (r x : Nat) : Nat := if r = 0 then x % 16 else 0

theorem step_nibble (st : St) (i : Nat) (b : Buf) (hw : i + 8 ≤ b.size) :
    gb (riscvStep true st i b).1 i % 16 = gb b i % 16 := by
  have key : ∀ x y, fld x 0 7 = 0x17 → y &&& 0x7F = 0x17 → x % 256 % 16 = y % 16 := by
    intro x y hx hy
    rw [mask_7F] at hy
    simp only [fld] at hx hy
    omega
  rw [riscvStep, riscvK]
  split
  · split
    · simp only [rvJal, ↓reduceIte]
      rw [gb_sb_ne _ _ _ _ (by omega), gb_sb_ne _ _ _ _ (by omega), gb_sb_ne _ _ _ _ (by omega)]
    · rfl
  · split
    next h1 =>
      split
      · split
        · rfl
        · simp only [rvSpecOut, ↓reduceIte]
          rw [put4_frame _ _ _ _ (by omega), (put4_get _ _ _ (by omega)).1]
          exact key _ _ (b2_op _ _) h1
      · split
        · simp only [rvPairOut, ↓reduceIte]
          rw [put4_frame _ _ _ _ (by omega), (put4_get _ _ _ (by omega)).1]
          exact key _ _ (b1_op _) h1
        · rfl
    next => rfl

/-- the pair test reads `inst2` only below bit 20: the low nibble of its third byte is the last thing it sees -/
theorem rvPair_congr (full x y : Nat) (h : x % 2 ^ 20 = y % 2 ^ 20) : rvPair full x ↔ rvPair full y := by
  rw [rvPair_iff, rvPair_iff, fld_congr h 0 2 (by decide), fld_congr h 15 5 (by decide)]

theorem riscvStep_loc (st : St) (i : Nat) (b b' : Buf) (hs : b.size = b'.size)
    (hag : ∀ k, i ≤ k → k < i + (riscvStep false st i b).2 → gb b' k = gb b k)
    (hsig : ∀ r, riscvSig r (gb b (i + (riscvStep false st i b).2 + r)) =
      riscvSig r (gb b' (i + (riscvStep false st i b).2 + r))) :
    (riscvStep false st i b').2 = (riscvStep false st i b).2 ∧
      ∀ k, i ≤ k → k < i + (riscvStep false st i b).2 →
        gb (riscvStep false st i b').1 k = gb (riscvStep false st i b).1 k := by
  obtain ⟨m, e⟩ := riscvStep_adv false st i b
  have g0 := hag i (by omega) (by omega)
  have g1 := hag (i + 1) (by omega) (by omega)
  clear e
  rw [riscvStep.eq_def false st i b', riscvK, g0, g1]
  rw [riscvStep.eq_def false st i b, riscvK] at hag hsig ⊢
  by_cases h0 : gb b i = 0xEF
  · by_cases h1 : gb b (i + 1) &&& 0x0D = 0
    · simp only [h0, h1, ↓reduceIte] at hag hsig ⊢
      exact ⟨trivial, (rvJal_agree false st ⟨hs, hag⟩).2⟩
    · simp only [h0, h1, ↓reduceIte] at hag hsig ⊢
      exact ⟨trivial, hag⟩
  · by_cases h1 : gb b i &&& 0x7F = 0x17
    · by_cases h2 : le32 b i &&& 0xE80 = 0
      · by_cases h3 : auSkip (le32 b i)
        · simp only [h0, h1, h2, h3, ↓reduceIte] at hag hsig
          have gf : le32 b' i = le32 b i := Agree.wdAt ⟨hs, hag⟩ w4 i (by omega) (by omega)
          simp only [h0, h1, gf, h2, h3, ↓reduceIte]
          exact ⟨trivial, hag⟩
        · simp only [h0, h1, h2, h3, ↓reduceIte] at hag hsig
          have hA : Agree i 8 b b' := ⟨hs, hag⟩
          have gf : le32 b' i = le32 b i := hA.wdAt w4 i (by omega) (by omega)
          simp only [h0, h1, gf, h2, h3, ↓reduceIte]
          exact ⟨trivial, (rvSpecOut_agree false st hA).2⟩
      · by_cases h3 : rvPair (le32 b i) (le32 b (i + 4))
        · simp only [h0, h1, h2, h3, ↓reduceIte] at hag hsig
          have hA : Agree i 8 b b' := ⟨hs, hag⟩
          have gf : le32 b' i = le32 b i := hA.wdAt w4 i (by omega) (by omega)
          have gi : le32 b' (i + 4) = le32 b (i + 4) := hA.wdAt w4 (i + 4) (by omega) (by omega)
          simp only [h0, h1, gf, gi, h2, h3, ↓reduceIte]
          exact ⟨trivial, (rvPairOut_agree false st hA).2⟩
        · -- advance 6: the pair test sees the nibble behind
          simp only [h0, h1, h2, h3, ↓reduceIte] at hag hsig
          have gf : le32 b' i = le32 b i := Agree.wdAt ⟨hs, hag⟩ w4 i (by omega) (by omega)
          have g4 := hag (i + 4) (by omega) (by omega)
          have g5 := hag (i + 4 + 1) (by omega) (by omega)
          have g6 : gb b (i + 4 + 2) % 16 = gb b' (i + 4 + 2) % 16 := hsig 0
          have h3' : ¬ rvPair (le32 b i) (le32 b' (i + 4)) := by
            rw [rvPair_congr _ _ (le32 b (i + 4))]
            · exact h3
            · simp only [le32]
              omega
          simp only [h0, h1, gf, h2, h3, h3', ↓reduceIte]
          exact ⟨trivial, hag⟩
    · simp only [h0, h1, ↓reduceIte] at hag hsig ⊢
      exact ⟨trivial, hag⟩

theorem put4_first (b : Buf) (i v1 v2 v3 : Nat) (h : gb b i < 256) :
    put4 b i (gb b i, v1, v2, v3) = sb (sb (sb b (i + 1) v1) (i + 2) v2) (i + 3) v3 := by
  rw [put4, sb_same b i h]

theorem op_byte (x : Nat) (h : fld x 0 7 = 0x17) : x % 256 ≠ 0xEF ∧ x % 256 &&& 0x7F = 0x17 := by
  rw [mask_7F, mod256_fld, fld_fld_in _ 0 8 0 7 (by decide), h]
  refine ⟨fun e => ?_, rfl⟩
  have := fld_fld_in x 0 8 0 7 (by decide)
  rw [e, h] at this
  exact absurd this (by decide)

theorem op_of_byte (b : Buf) (i : Nat) (h : gb b i &&& 0x7F = 0x17) : fld (le32 b i) 0 7 = 0x17 := by
  rw [mask_7F] at h
  simp only [fld, le32] at h ⊢
  omega

theorem riscvStep_inv (st : St) (hp : st.pos % 2 = 0) (i : Nat) (b : Buf) (hi : i % 2 = 0) (hB : BBytes b)
    (hw : i + 8 ≤ b.size) :
    riscvStep false st i (riscvStep true st i b).1 = (b, (riscvStep true st i b).2) := by
  have hpe := posAt_aligned st i 2 (by decide) hp hi
  by_cases h0 : gb b i = 0xEF
  · by_cases h1 : gb b (i + 1) &&& 0x0D = 0
    · rw [riscvStep.eq_def true st i b, riscvK, if_pos h0, if_pos h1]
      simp only [rvJal, ↓reduceIte]
      generalize hA : wadd (jalAE (gb b (i + 1)) (gb b (i + 2)) (gb b (i + 3))) (posAt st i) = A
      -- with the first byte stored over itself the three stores are a window store
      rw [← put4_first b i _ _ _ (hB i)]
      generalize hE : put4 b i (gb b i, jalE1 (gb b (i + 1)) A, A >>> 9, A >>> 1) = E
      obtain ⟨e0, e1, e2, e3⟩ := put4_get b i (gb b i, jalE1 (gb b (i + 1)) A, A >>> 9, A >>> 1) (by omega)
      rw [hE] at e0 e1 e2 e3
      simp only [Nat.mod_eq_of_lt (hB i)] at e0 e1 e2 e3
      obtain ⟨r0, r1, r2, r3⟩ := jal_round (posAt st i) (gb b (i + 1)) (gb b (i + 2)) (gb b (i + 3)) A
        (gb E (i + 1)) _ hpe (hB _) (hB _) (hB _) hA.symm e1 (by rw [← e2, ← e3])
      rw [h1] at r0
      rw [riscvStep.eq_def false st i E, riscvK, if_pos (e0.trans h0), if_pos r0]
      simp only [rvJal, Bool.false_eq_true, ↓reduceIte]
      generalize wsub (jalAD (gb E (i + 1)) (gb E (i + 2)) (gb E (i + 3))) (posAt st i) = A' at r1 r2 r3 ⊢
      rw [← put4_first E i _ _ _ (e0 ▸ hB i)]
      have hd0 : gb E i % 256 = gb b i := by rw [e0]; exact Nat.mod_eq_of_lt (hB i)
      -- by `rw`: unifying through `Prod.ext` unfolds the stores
      rw [put4_put4_back b i _ (gb E i, jalD1 (gb E (i + 1)) A', jalD2 A', jalD3 A') (by omega) hE ⟨hd0, r1, r2, r3⟩]
    · simp only [riscvStep, riscvK, h0, h1, ↓reduceIte]
  · by_cases h1 : gb b i &&& 0x7F = 0x17
    · have hf := le32_lt b i hB
      have hi2 := le32_lt b (i + 4) hB
      have h17 := op_of_byte b i h1
      by_cases h2 : le32 b i &&& 0xE80 = 0
      · by_cases h3 : auSkip (le32 b i)
        · simp only [riscvStep, riscvK, h0, h1, h2, h3, ↓reduceIte]
        · -- special AUIPC: the decoder sees a pair
          rw [riscvStep.eq_def true st i b, riscvK, if_neg h0, if_pos h1, if_pos h2, if_neg h3]
          simp only [rvSpecOut, ↓reduceIte]
          have q1 := auF2_lt (le32 b i) (le32 b (i + 4)) hf
          have q2 := auI2_lt (le32 b i) (le32 b (i + 4))
          obtain ⟨q3, q4⟩ := op_byte _ (b2_op (le32 b i) (le32 b (i + 4)))
          have q5 := b2_rd _ (le32 b (i + 4)) hf h3
          have q6 := b2_pair _ (le32 b (i + 4)) hf h3
          have q8 := b2_full _ (le32 b (i + 4)) hf h17 h3
          have q9 := b2_addr _ _ hf hi2
          generalize hF : auF2 (le32 b i) (le32 b (i + 4)) = F at q1 q3 q4 q5 q6 q9 ⊢
          generalize hI : auI2 (le32 b i) (le32 b (i + 4)) = I at q2 q6 q8 q9 ⊢
          generalize hE : put4 (put4 b i (le4 F)) (i + 4) (le4 I) = E
          obtain ⟨hsz, e0, el, e4, eout⟩ := put8_facts b i F _ hw q1 E hE
          have ei : le32 E (i + 4) = I := (e4 w4).trans ((wdOut_le4 I).trans (Nat.mod_eq_of_lt q2))
          rw [riscvStep.eq_def false st i E, riscvK, e0, el, ei, if_neg q3, if_pos q4, if_neg q5, if_pos q6]
          simp only [rvPairOut, el, ei, Bool.false_eq_true, ↓reduceIte]
          rw [q8, q9, restore8 b E i hB hw hsz eout]
      · by_cases h3 : rvPair (le32 b i) (le32 b (i + 4))
        · -- AUIPC pair: the decoder sees a special AUIPC
          rw [riscvStep.eq_def true st i b, riscvK, if_neg h0, if_pos h1, if_neg h2, if_pos h3]
          simp only [rvPairOut, ↓reduceIte]
          have q1 := auF1_lt (le32 b (i + 4))
          have q2 : auAE (le32 b i) (le32 b (i + 4)) (posAt st i) < 2 ^ 32 := wadd_lt _ _
          obtain ⟨q3, q3'⟩ := op_byte _ (b1_op (le32 b (i + 4)))
          have q4 := b1_rd (le32 b (i + 4))
          have q5 := b1_special _ _ h3 h2
          have q6 := b1_inst2 (le32 b i) (le32 b (i + 4)) (posAt st i) hi2
          have q7 := b1_full (le32 b i) (le32 b (i + 4)) (posAt st i) hf hi2 h17 h3
          generalize hF : auF1 (le32 b (i + 4)) = F at q1 q3 q3' q4 q5 q6 q7 ⊢
          generalize hA : auAE (le32 b i) (le32 b (i + 4)) (posAt st i) = A at q2 q6 q7 ⊢
          generalize hE : put4 (put4 b i (le4 F)) (i + 4) (be4 A) = E
          obtain ⟨hsz, e0, el, e4, eout⟩ := put8_facts b i F _ hw q1 E hE
          have eb : be32 E (i + 4) = A := (e4 w4be).trans ((wdOut_be4 A).trans (Nat.mod_eq_of_lt q2))
          rw [riscvStep.eq_def false st i E, riscvK, e0, el, if_neg q3, if_pos q3', if_pos q4, if_neg q5]
          simp only [rvSpecOut, el, eb, Bool.false_eq_true, ↓reduceIte]
          rw [q6, q7, restore8 b E i hB hw hsz eout]
        · simp only [riscvStep, riscvK, h0, h1, h2, h3, ↓reduceIte]
    · simp only [riscvStep, riscvK, h0, h1, ↓reduceIte]

theorem riscv_stepOK (st : St) (hp : st.pos % 2 = 0) :
    StepOK 8 (fun i => i % 2 = 0) riscvSig (riscvStep true st) (riscvStep false st) where
  size_e := riscvStep_size _ _
  size_d := riscvStep_size _ _
  adv_V := fun i b h => by
    obtain ⟨m, e⟩ := riscvStep_adv true st i b
    omega
  frame_e := riscvStep_frame _ _
  frame_d := riscvStep_frame _ _
  bytes_e := riscvStep_bytes _ _
  sig_e := by
    intro j b E _ hw hE r
    unfold riscvSig
    by_cases hr : r = 0
    · subst hr
      rw [if_pos rfl, if_pos rfl, Nat.add_zero]
      have h2 : j < j + (riscvStep true st j b).2 := by
        obtain ⟨m, e⟩ := riscvStep_adv true st j b
        omega
      rw [hE _ h2, step_nibble st j b hw]
    · rw [if_neg hr, if_neg hr]
  loc_d := fun i b b' _ hs _ hag hsig => riscvStep_loc st i b b' hs hag hsig
  inv := fun i b hi hB hw => riscvStep_inv st hp i b hi hB hw

theorem riscv_inv (start : Nat) (hs : start % 2 = 0) (xs : List Nat) (h : Bytes xs) :
    oneShot .riscv false start (oneShot .riscv true start xs) = xs := by
  have hp : (St.init .riscv start).pos % 2 = 0 := by simp only [St.init]; exact hs
  simp only [oneShot, code, riscvLoop_eq_scan]
  exact scan_inv_list (riscv_stepOK _ hp) (by rfl) xs h

end LzmaVerif.Filters
