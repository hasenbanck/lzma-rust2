/-
  (H3) `find` in a state satisfying the invariant reports only valid matches; (H5) the lift to scripts.
-/
import LzmaVerif.Proofs.Hc4Find
import LzmaVerif.Proofs.Hc4View

namespace LzmaVerif.Mf.Hc4

theorem TblOk.entryOk {dict p : Nat} {R : Nat → Nat → Prop} {t : Array Nat}
    (h : TblOk (dict + 1) (dict + 1 + p) R t) (i : Nat) : EntryOk dict p (t.getD i 0) := by
  rcases h i with h0 | ⟨h1, h2, _⟩
  · exact Or.inl h0
  · exact Or.inr ⟨by omega, h2⟩

/-- an entry of a table, read as a candidate: if it passes the distance test it stands for the position
    `q = p - δ`, of which `R` holds; `hR` says how many bytes `R` makes repeat -/
theorem TblOk.cand {dict p n i : Nat} {R : Nat → Nat → Prop} {t : Array Nat}
    (h : TblOk (dict + 1) (dict + 1 + p) R t) (d : Array UInt8)
    (hR : ∀ q, R q i → byteAt d q = byteAt d p → ∀ k, k < n → byteAt d (q + k) = byteAt d (p + k)) :
    CandOk d dict p n (dict + 1 + p + 1 - t.getD i 0) := by
  intro hlt
  rcases h i with h0 | ⟨h1, h2, h3⟩
  · omega
  · refine ⟨by omega, by omega, fun hb k hk => ?_⟩
    have e : t.getD i 0 - (dict + 1) - 1 = p - (dict + 1 + p + 1 - t.getD i 0) := by omega
    rw [show p + k - (dict + 1 + p + 1 - t.getD i 0) = p - (dict + 1 + p + 1 - t.getD i 0) + k by omega]
    exact (hR _ (e ▸ h3) hb k hk).symm

section
variable (P : Hc4Params) (c : Cfg) (d : Array UInt8)

/-- same first byte, hence (H1) same second byte -/
theorem hash2_cand (hho : hashOk P.hash) {p : Nat} {t : Array Nat}
    (h : TblOk (c.dict + 1) (c.dict + 1 + p) (fun q i => (hashesAt P c d q).h2 = i) t) :
    CandOk d c.dict p 2 (c.dict + 1 + p + 1 - t.getD (hashesAt P c d p).h2 0) :=
  h.cand d fun q hq hb k hk => by
    unfold hashesAt at hq
    rw [hb] at hq
    have := hash2_sound P.hash hho _ _ _ _ _ _ _ _ _ (byteAt_lt _ _) (byteAt_lt _ _) hq
    obtain rfl | rfl : k = 0 ∨ k = 1 := by omega
    · exact hb
    · exact this

theorem hash3_cand (hho : hashOk P.hash) {p : Nat} {t : Array Nat}
    (h : TblOk (c.dict + 1) (c.dict + 1 + p) (fun q i => (hashesAt P c d q).h3 = i) t) :
    CandOk d c.dict p 3 (c.dict + 1 + p + 1 - t.getD (hashesAt P c d p).h3 0) :=
  h.cand d fun q hq hb k hk => by
    unfold hashesAt at hq
    rw [hb] at hq
    have := hash3_sound P.hash hho _ _ _ _ _ _ _ _ _ (byteAt_lt _ _) (byteAt_lt _ _) (byteAt_lt _ _)
      (byteAt_lt _ _) hq
    obtain rfl | rfl | rfl : k = 0 ∨ k = 1 ∨ k = 2 := by omega
    · exact hb
    · exact this.1
    · exact this.2

/-- the tables of a state in which position `s.pos` is about to be inserted, in the coordinates of the search
    (`cs = dict + 1`, `lz_pos = dict + 1 + p`) -/
theorem Inv.tables {P : Hc4Params} (hP : P.ok) {c : Cfg} {d : Array UInt8} {s : State} (h : Inv P c d s)
    (hge : P.minAvail ≤ d.size - s.pos) :
    s.lzPos = c.dict + 1 + s.pos ∧
    TblOk (c.dict + 1) (c.dict + 1 + s.pos) (fun q i => (hashesAt P c d q).h2 = i) s.h2 ∧
    TblOk (c.dict + 1) (c.dict + 1 + s.pos) (fun q i => (hashesAt P c d q).h3 = i) s.h3 ∧
    TblOk (c.dict + 1) (c.dict + 1 + s.pos) (fun q i => (hashesAt P c d q).h4 = i) s.h4 ∧
    TblOk (c.dict + 1) (c.dict + 1 + s.pos) (fun _ _ => True) s.chain := by
  have hlz := h.lzPos_eq hP hge
  have t2 := h.t2; have t3 := h.t3; have t4 := h.t4; have ch := h.ch
  rw [cyclicSize_eq hP, hlz] at t2 t3 t4 ch
  exact ⟨hlz, t2, t3, t4, ch⟩

theorem find_sound (hP : P.ok) (s : State)
    (hinv : Inv P c d s) (hml : 3 ≤ c.mlmax) :
    (∀ m ∈ (find P c d s).1, ValidMatch d c.dict s.pos (min c.mlmax (d.size - s.pos)) m) ∧
    lensIncreasing (find P c d s).1 = true ∧
    (3 ≤ c.niceLen → (find P c d s).1.length ≤ c.niceLen - 1) := by
  have hm4 : 4 ≤ P.minAvail := hP.minAvail
  have hho : hashOk P.hash := hP.hash
  rw [view_find P c d s (by omega)]
  rcases encMovePos_cases P d s.pos hm4 with ⟨h0, _⟩ | ⟨he, hge, hne⟩
  · rw [show s.view.find P c d = [] from if_pos h0]
    exact ⟨fun m hm => (nomatch hm), rfl, fun _ => Nat.zero_le _⟩
  · obtain ⟨hlz, t2, t3, t4, ch⟩ := hinv.tables hP hge
    rw [show s.view.find P c d = _ from if_neg hne]
    dsimp only [State.view]
    rw [he, hlz]
    exact findMatches_sound P c d hP _ _ s.pos (d.size - s.pos) _ _ _ rfl hge hml
      (hash2_cand P c d hho t2) (hash3_cand P c d hho t3) (t4.entryOk _) (t4.setFrom ch _ _).entryOk

end

/-- `f` = `(position, matches)`, one entry of a trace -/
def FindOk (c : Cfg) (d : Array UInt8) (f : Nat × List Match) : Prop :=
  (∀ m ∈ f.2, ValidMatch d c.dict f.1 (min c.mlmax (d.size - f.1)) m) ∧
  lensIncreasing f.2 = true ∧
  (3 ≤ c.niceLen → f.2.length ≤ c.niceLen - 1)

inductive Reachable (P : Hc4Params) (c : Cfg) (d : Array UInt8) : State → Prop
  | init : Reachable P c d (init P c)
  | find (s : State) : Reachable P c d s → Reachable P c d (find P c d s).2
  | skip (s : State) (n : Nat) : Reachable P c d s → Reachable P c d (skip P c d n s)

theorem Reachable.inv {P : Hc4Params} (hP : P.ok) {c : Cfg} {d : Array UInt8}
    (hm : 1 ≤ c.mlmax) {s : State} (h : Reachable P c d s) : Inv P c d s := by
  induction h with
  | init => exact init_inv P hP c d
  | find s _ ih => exact find_inv P hP c d s ih hm
  | skip s n _ ih => exact skip_inv P hP c d n s ih

theorem runScriptAux_sound (P : Hc4Params) (hP : P.ok) (c : Cfg) (d : Array UInt8) (hml : 3 ≤ c.mlmax) :
    ∀ (script : List Nat) (s : State) (acc : List (Nat × List Match)),
      Reachable P c d s → (∀ f ∈ acc, FindOk c d f) →
      (∀ f ∈ (runScriptAux P c d script s acc).1, FindOk c d f) ∧
      Reachable P c d (runScriptAux P c d script s acc).2 := by
  intro script
  induction script with
  | nil =>
    intro s acc hr hacc
    simp only [runScriptAux]
    exact ⟨fun f hf => hacc f (List.mem_reverse.mp hf), hr⟩
  | cons op rest ih =>
    intro s acc hr hacc
    simp only [runScriptAux]
    split
    · exact ⟨fun f hf => hacc f (List.mem_reverse.mp hf), hr⟩
    · split
      · apply ih _ _ (Reachable.find s hr)
        intro f hf
        rcases List.mem_cons.mp hf with h | h
        · subst h
          exact find_sound P c d hP s (hr.inv hP (by omega)) hml
        · exact hacc f h
      · exact ih _ _ (Reachable.skip s op hr) hacc

end LzmaVerif.Mf.Hc4
