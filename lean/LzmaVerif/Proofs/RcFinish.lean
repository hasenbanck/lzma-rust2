import LzmaVerif.Proofs.RcRoundtrip
/-!
What LZMA2 chunks need of the range coder round trip: `rc_roundtrip_fin` (unused bits allowed, `code = 0` at the end, see
`rc_roundtrip_full`), and `encRun_probsOk`: the tables the encoder leaves satisfy `ProbsOk` again, so a chunk may
continue with the tables of the previous one.
-/
namespace LzmaVerif
open Rc Rc.Ideal

namespace Prog

theorem encRun_probsOk {α : Type} (prog : Prog α) : ∀ (bits : List Bool) (ps : Probs) (e : Enc)
    (a : α) (bs' : List Bool) (ps' : Probs) (e' : Enc),
    prog.encRun bits ps e = some (a, bs', ps', e') → ProbsOk ps → ProbsOk ps' := by
  intro bits ps e a bs' ps' e' h hps
  rw [encRun_eq_run] at h
  exact run_inv (I := fun s => ProbsOk s.2.1) (fun q s b s₁ hq hs => (encSrc_eq hq).2.1 ▸ ProbsOk_upd hs q b) h hps

end Prog

namespace Rc

theorem rc_roundtrip_fin {α : Type} (prog : Prog α) (bits : List Bool) (ps : Probs) (hps : ProbsOk ps)
    (a : α) (bs' : List Bool) (ps' : Probs) (e' : Enc)
    (henc : prog.encRun bits ps Enc.init = some (a, bs', ps', e')) (rest : List Nat) :
    ∃ d0 d', Dec.init (e'.bytes ++ rest) = some d0 ∧
      prog.decRun ps d0 = (a, ps', d') ∧
      d'.normalize.inp = rest ∧ d'.normalize.over = 0 ∧ d'.normalize.code = 0 ∧
      e'.bytes.head? = some 0 ∧ (∀ b ∈ e'.bytes, b < 256) ∧
      e'.bytes.length = e'.pendingSize ∧ 5 ≤ e'.bytes.length := by
  obtain ⟨d0, d', h1, _, _, h2, h3, h4, _, h6, h7⟩ :=
    rc_roundtrip_full prog bits ps hps a bs' ps' e' henc rest
  exact ⟨d0, d', h1, h2, h3, h4, h6, h7⟩

end Rc
end LzmaVerif

#print axioms LzmaVerif.Rc.rc_roundtrip_fin
#print axioms LzmaVerif.Prog.encRun_probsOk
