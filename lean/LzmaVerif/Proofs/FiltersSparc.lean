import LzmaVerif.Proofs.FiltersFields
/-!
SPARC BCJ filter (`sparc_code`).  The model assembles the window into a big-endian word, and on words the filter is
`sparcT`: a `call` whose displacement is the sign extension of its low 23 bits is rewritten in the normal form
`sparcNF` of the moved displacement.  `sparcNF` depends on the displacement modulo `2 ^ 23` only and keeps it
(`sparcNF_mod`, `sparcNF_congr`, `sparcNF_self`), so the two directions cancel (`sparcT_inv`); `Round.of_acts`.
Core Lean only.
-/
namespace LzmaVerif.Filters
open LzmaVerif.Bits

def sparcRec (b0 b1 _ _ : Nat) : Prop := (b0 = 0x40 ∧ b1 &&& 0xC0 = 0) ∨ (b0 = 0x7F ∧ b1 &&& 0xC0 = 0xC0)

instance (b0 b1 b2 b3 : Nat) : Decidable (sparcRec b0 b1 b2 b3) :=
  inferInstanceAs (Decidable ((b0 = 0x40 ∧ b1 &&& 0xC0 = 0) ∨ (b0 = 0x7F ∧ b1 &&& 0xC0 = 0xC0)))

def sparcDest (enc : Bool) (p b0 b1 b2 b3 : Nat) : Nat :=
  let dest := shiftBy 4 enc p ((b0 <<< 24) ||| (b1 <<< 16) ||| (b2 <<< 8) ||| b3)
  let sign := (dest >>> 22) &&& 1
  ((if sign = 1 then 0x3FC00000 else 0) ||| (dest &&& 0x3FFFFF)) ||| 0x40000000

/-- the four bytes `sparc_code` stores for a recognised window -/
def sparcOut (enc : Bool) (st : St) (i b0 b1 b2 b3 : Nat) : Nat × Nat × Nat × Nat :=
  be4 (sparcDest enc (posAt st i) b0 b1 b2 b3)

def sparcStep (enc : Bool) (st : St) : Nat → Buf → Buf :=
  winStep sparcRec (sparcOut enc st)

theorem sparcLoop_eq_scan (enc : Bool) (st : St) : ∀ fuel i b,
    sparcLoop enc st fuel i b = scan 4 (fun i b => (sparcStep enc st i b, 4)) fuel i b :=
  eq_scan _ (fun _ _ => rfl) (fun n i b => by
    rw [sparcLoop]
    refine ite_congr rfl (fun _ => rfl) (fun _ => ?_)
    exact (apply_ite (sparcLoop enc st n (i + 4)) _ _ _).symm)

theorem sparcStep_bytes (enc : Bool) (st : St) (i : Nat) (b : Buf) (h : BBytes b) :
    BBytes (sparcStep enc st i b) :=
  winStep_bytes i b h

/-- the normal form of a `call` word: `01`, then bit 22 of the displacement `d` eight times, then bits 21..0 -/
def sparcNF (d : Nat) : Nat := 2 ^ 30 + d / 2 ^ 22 % 2 * 0x3FC00000 + d % 2 ^ 22

/-- The big-endian window word `W` is taken for a `call` if its 30-bit displacement (in words) is the sign
    extension of its low 23 bits. -/
def sparcT (enc : Bool) (p W : Nat) : Nat :=
  if W / 2 ^ 22 = 0x100 ∨ W / 2 ^ 22 = 0x1FF then
    sparcNF (shiftBy 4 enc p W)
  else W

theorem sparcRec_iff (b0 b1 b2 b3 : Nat) (h1 : b1 < 256) (h2 : b2 < 256) (h3 : b3 < 256) :
    sparcRec b0 b1 b2 b3 ↔ w4be b0 b1 b2 b3 / 2 ^ 22 = 0x100 ∨ w4be b0 b1 b2 b3 / 2 ^ 22 = 0x1FF := by
  unfold sparcRec w4be w4
  rw [and_mask_shl b1 2 6]
  omega

theorem sparcDest_eq (enc : Bool) (p b0 b1 b2 b3 : Nat) (h1 : b1 < 256) (h2 : b2 < 256) (h3 : b3 < 256) :
    sparcDest enc p b0 b1 b2 b3 =
      sparcNF (shiftBy 4 enc p (w4be b0 b1 b2 b3)) := by
  have hW : (b0 <<< 24) ||| (b1 <<< 16) ||| (b2 <<< 8) ||| b3 = w4be b0 b1 b2 b3 := by
    rw [or_fields _ _ _ _ 24 16 8 (by decide) (by decide) (by omega) (by omega) (by omega)]
    unfold w4be w4
    omega
  simp only [sparcDest]
  rw [hW, shr_eq, and_mask _ 1, and_mask _ 22]
  generalize shiftBy 4 enc p (w4be b0 b1 b2 b3) = d
  clear hW h1 h2 h3
  unfold sparcNF
  have hs : d / 2 ^ 22 % 2 = 0 ∨ d / 2 ^ 22 % 2 = 1 := by omega
  rcases hs with hs | hs
  · rw [hs, if_neg (by decide), Nat.zero_or, Nat.or_comm, or_disj 0x40000000 _ 30 (by decide) (by omega)]
  · rw [hs, if_pos rfl, or_disj 0x3FC00000 _ 22 (by decide) (by omega), Nat.or_comm,
      or_disj 0x40000000 _ 30 (by decide) (by omega)]
    omega

theorem sparcNF_lt (d : Nat) : sparcNF d < 2 ^ 32 := by
  unfold sparcNF
  omega

theorem sparc_acts (enc : Bool) (st : St) (i : Nat) :
    ActsAs w4be sparcRec (sparcOut enc st i) (sparcT enc (posAt st i)) where
  pos := fun b0 b1 b2 b3 _ h1 h2 h3 hr => by
    have hd := sparcDest_eq enc (posAt st i) b0 b1 b2 b3 h1 h2 h3
    rw [sparcT, if_pos ((sparcRec_iff b0 b1 b2 b3 h1 h2 h3).mp hr), ← hd]
    refine (wdOut_be4 _).trans (Nat.mod_eq_of_lt ?_)
    show sparcDest enc (posAt st i) b0 b1 b2 b3 < 2 ^ 32
    rw [hd]
    exact sparcNF_lt _
  neg := fun b0 b1 b2 b3 _ h1 h2 h3 hr => by
    rw [sparcRec_iff b0 b1 b2 b3 h1 h2 h3] at hr
    rw [sparcT, if_neg hr]

theorem sparcNF_self (W : Nat) (hr : W / 2 ^ 22 = 0x100 ∨ W / 2 ^ 22 = 0x1FF) :
    sparcNF W = W := by
  unfold sparcNF
  omega

theorem sparcNF_mod (d : Nat) : sparcNF d % 2 ^ 23 = d % 2 ^ 23 := by
  unfold sparcNF
  omega

theorem sparcNF_rec (d : Nat) : sparcNF d / 2 ^ 22 = 0x100 ∨ sparcNF d / 2 ^ 22 = 0x1FF := by
  unfold sparcNF
  omega

theorem sparcNF_congr (a b : Nat) (h : a % 2 ^ 23 = b % 2 ^ 23) : sparcNF a = sparcNF b := by
  unfold sparcNF
  omega

theorem sparcT_inv (p W : Nat) (hp : p % 4 = 0) : sparcT false p (sparcT true p W) = W := by
  unfold sparcT
  by_cases hr : W / 2 ^ 22 = 0x100 ∨ W / 2 ^ 22 = 0x1FF
  · rw [if_pos hr, if_pos (sparcNF_rec _),
      sparcNF_congr _ W (shiftBy_inv 4 (2 ^ 23) (by decide) (by decide) p hp W _ (sparcNF_mod _)), sparcNF_self W hr]
  · simp only [if_neg hr]

theorem sparc_stepOK (st : St) (hp : st.pos % 4 = 0) :
    StepOK 4 (fun i => i % 4 = 0) (fun _ _ => 0) (fun i b => (sparcStep true st i b, 4))
      (fun i b => (sparcStep false st i b, 4)) :=
  winStep_stepOK (O := fun enc => sparcOut enc st) (fun i h => by omega)
    (fun i hi => Round.of_acts w4_be (sparc_acts true st i) (sparc_acts false st i)
      (fun W _ => sparcT_inv _ W (posAt_aligned st i 4 (by decide) hp hi)))

theorem sparc_inv (start : Nat) (hs : start % 4 = 0) (xs : List Nat) (h : Bytes xs) :
    oneShot .sparc false start (oneShot .sparc true start xs) = xs := by
  have hp : (St.init .sparc start).pos % 4 = 0 := by simp only [St.init]; omega
  simp only [oneShot, code, sparcLoop_eq_scan]
  exact scan_inv_list (sparc_stepOK _ hp) (by rfl) xs h

end LzmaVerif.Filters
