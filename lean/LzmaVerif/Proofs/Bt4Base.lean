/-
  `find_matches` (bt4.rs:231-283) and the private `skip` (bt4.rs:95-140) walk down the tree in the same way: stop at
  an empty or too old candidate, compare, replace the candidate when `nice_len_limit` bytes agree, otherwise hang it
  into one of the two holes and go on with its child on the other side.  They differ in the comparison (`extend_match`
  up to `match_len_limit` with a report of the match / byte by byte up to `nice_len_limit`) and in what they carry
  (`len_best` and the matches / nothing).  `walk` is the common part with the comparison as a parameter (`Probe`); the
  properties of both walks are proved for `walk` from what they need to know of the comparison.
-/
import LzmaVerif.Model.Bt4
import LzmaVerif.Proofs.MfBase
namespace LzmaVerif.Mf

theorem getD_of_size_le (a : Array Nat) (i : Nat) (h : a.size ≤ i) : a.getD i 0 = 0 := by
  simp only [Array.getD_eq_getD_getElem?]
  rw [Array.getElem?_eq_none h]; rfl

namespace Bt4

theorem ltOrLe_true (a b : Nat) : ltOrLe true a b = decide (a < b) := rfl
theorem geOrGt_true (a b : Nat) : geOrGt true a b = decide (a ≥ b) := rfl
theorem geOrGt_false (a b : Nat) : geOrGt false a b = decide (a > b) := rfl

section ok
variable {P : Bt4Params} (h : P.ok)
include h
theorem ok_d2 : P.d2Strict = true := h.1
theorem ok_d3 : P.d3Strict = true := h.2.1
theorem ok_stop : P.treeStopGe = true := h.2.2.1
theorem ok_pairSel : P.pairSelGt = true := h.2.2.2.1
theorem ok_nice : P.niceStopGe = true := h.2.2.2.2.1
theorem ok_best : P.bestStrict = true := h.2.2.2.2.2.1
theorem ok_extra : P.cyclicExtra = 1 := h.2.2.2.2.2.2.1
theorem ok_factor : 2 ≤ P.treeFactor := h.2.2.2.2.2.2.2.1
theorem ok_shl : P.shLeft = 1 := h.2.2.2.2.2.2.2.2.1
theorem ok_dist : P.distSub = 1 := h.2.2.2.2.2.2.2.2.2.1
theorem ok_h2Len : P.h2Len = 2 := h.2.2.2.2.2.2.2.2.2.2.1
theorem ok_h3Len : P.h3Len = 3 := h.2.2.2.2.2.2.2.2.2.2.2.1
theorem ok_floor : 2 ≤ P.lenBestFloor := h.2.2.2.2.2.2.2.2.2.2.2.2.1
theorem ok_floor_lt : P.lenBestFloor < P.minAvailFinishing := h.2.2.2.2.2.2.2.2.2.2.2.2.2.1
theorem ok_hash2 : 0 < P.hash.hash2Size ∧ P.hash.hash2Size % 256 = 0 :=
  ⟨h.2.2.2.2.2.2.2.2.2.2.2.2.2.2.1, h.2.2.2.2.2.2.2.2.2.2.2.2.2.2.2.1⟩
theorem ok_hash3 : 0 < P.hash.hash3Size ∧ P.hash.hash3Size % 65536 = 0 ∧ P.hash.shift3 = 8 :=
  ⟨h.2.2.2.2.2.2.2.2.2.2.2.2.2.2.2.2.1, h.2.2.2.2.2.2.2.2.2.2.2.2.2.2.2.2.2.1, h.2.2.2.2.2.2.2.2.2.2.2.2.2.2.2.2.2.2.1⟩
theorem ok_avail4 : 4 ≤ P.minAvailFinishing := h.2.2.2.2.2.2.2.2.2.2.2.2.2.2.2.2.2.2.2

theorem ok_stop_iff {a b : Nat} : geOrGt P.treeStopGe a b = true ↔ b ≤ a := by
  rw [ok_stop h, geOrGt_true, decide_eq_true_eq]
theorem ok_nice_iff {a b : Nat} : geOrGt P.niceStopGe a b = true ↔ b ≤ a := by
  rw [ok_nice h, geOrGt_true, decide_eq_true_eq]
theorem ok_best_iff {a b : Nat} : ltOrLe P.bestStrict a b = true ↔ a < b := by
  rw [ok_best h, ltOrLe_true, decide_eq_true_eq]
theorem ok_d2_iff {a b : Nat} : ltOrLe P.d2Strict a b = true ↔ a < b := by
  rw [ok_d2 h, ltOrLe_true, decide_eq_true_eq]
theorem ok_d3_iff {a b : Nat} : ltOrLe P.d3Strict a b = true ↔ a < b := by
  rw [ok_d3 h, ltOrLe_true, decide_eq_true_eq]
end ok

/-- an entry of a table / of the tree: nothing, or the `lz_pos` of an inserted position, at most `hi` -/
def EntryOk (cs hi e : Nat) : Prop := e = 0 ∨ (cs < e ∧ e ≤ hi)

def TblOk (cs hi : Nat) (a : Array Nat) : Prop := ∀ i, EntryOk cs hi (a.getD i 0)

theorem EntryOk.mono {cs hi hi' e : Nat} (h : EntryOk cs hi e) (hh : hi ≤ hi') : EntryOk cs hi' e := by
  rcases h with h | h
  · exact Or.inl h
  · exact Or.inr ⟨h.1, by omega⟩

theorem TblOk.mono {cs hi hi' : Nat} {a : Array Nat} (h : TblOk cs hi a) (hh : hi ≤ hi') : TblOk cs hi' a :=
  fun i => (h i).mono hh

theorem EntryOk.zero (cs hi : Nat) : EntryOk cs hi 0 := Or.inl rfl

theorem EntryOk.le {cs hi e : Nat} (h : EntryOk cs hi e) : e ≤ hi := by
  rcases h with h | h
  · exact h ▸ Nat.zero_le _
  · exact h.2

theorem TblOk.set {cs hi : Nat} {a : Array Nat} (h : TblOk cs hi a) (i v : Nat) (hv : EntryOk cs hi v) :
    TblOk cs hi (a.setIfInBounds i v) := by
  intro j
  rw [getD_set]
  split
  · exact hv
  · exact h j

theorem TblOk.replicate (cs hi n : Nat) : TblOk cs hi (Array.replicate n 0) := by
  intro i; rw [getD_replicate]; exact EntryOk.zero _ _

/-- the comparison with one candidate: own state, log, bytes known equal (`min(len0, len1)`), `delta` ↦ bytes found
    equal, whether the candidate is replaced, new state, new log -/
abbrev Probe (σ : Type) := σ → Log → Nat → Nat → Nat × Bool × σ × Log

def walk {σ : Type} (P : Bt4Params) (data : Array UInt8) (k : Ctx) (probe : Probe σ) :
    Nat → Array Nat → Nat → Nat → Nat → Nat → Nat → σ → Log → Array Nat × σ × Log
  | 0, tree, ptr0, ptr1, _, _, _, st, lg =>
    ((terminate tree ptr0 ptr1 lg).1, st, (terminate tree ptr0 ptr1 lg).2)
  | depth + 1, tree, ptr0, ptr1, len0, len1, cur, st, lg =>
    let delta := k.lzPos - cur
    if geOrGt P.treeStopGe delta k.cs then
      ((terminate tree ptr0 ptr1 lg).1, st, (terminate tree ptr0 ptr1 lg).2)
    else
      let pair := pairOf P k delta
      let r := probe st lg (min len0 len1) delta
      if r.2.1 then
        ((relink tree ptr0 ptr1 pair r.2.2.2).1, r.2.2.1, (relink tree ptr0 ptr1 pair r.2.2.2).2)
      else
        let lg := (r.2.2.2.push (.byte k.p r.1 delta)).push (.byte k.p r.1 0)
        if byteAt data (k.p + r.1 - delta) < byteAt data (k.p + r.1) then
          let tree := tree.setIfInBounds ptr1 cur
          walk P data k probe depth tree ptr0 (pair + 1) len0 r.1 (tree.getD (pair + 1) 0) r.2.2.1
            ((lg.push (.tree ptr1)).push (.tree (pair + 1)))
        else
          let tree := tree.setIfInBounds ptr0 cur
          walk P data k probe depth tree pair ptr1 r.1 len1 (tree.getD pair 0) r.2.2.1
            ((lg.push (.tree ptr0)).push (.tree pair))

/-! `delta` and the result `r` of the comparison are variables so that the equations can be used where these are
    known under another form -/
section
variable {σ : Type} {P : Bt4Params} {data : Array UInt8} {k : Ctx} {probe : Probe σ} {depth : Nat}
  {tree : Array Nat} {ptr0 ptr1 len0 len1 cur : Nat} {st : σ} {lg : Log} {delta : Nat} {r : Nat × Bool × σ × Log}
  (hd : k.lzPos - cur = delta) (hp : probe st lg (min len0 len1) delta = r)
include hd

theorem walk_stop (h : geOrGt P.treeStopGe delta k.cs = true) :
    walk P data k probe (depth + 1) tree ptr0 ptr1 len0 len1 cur st lg =
      ((terminate tree ptr0 ptr1 lg).1, st, (terminate tree ptr0 ptr1 lg).2) := by
  subst hd; rw [walk]; exact if_pos h

include hp

theorem walk_relink (h : ¬ geOrGt P.treeStopGe delta k.cs = true) (hr : r.2.1 = true) :
    walk P data k probe (depth + 1) tree ptr0 ptr1 len0 len1 cur st lg =
      ((relink tree ptr0 ptr1 (pairOf P k delta) r.2.2.2).1, r.2.2.1,
        (relink tree ptr0 ptr1 (pairOf P k delta) r.2.2.2).2) := by
  subst hd hp; rw [walk]; exact (if_neg h).trans (if_pos hr)

/-- the candidate is smaller than the new string (bt4.rs:129-133 / :272-276) -/
theorem walk_right (h : ¬ geOrGt P.treeStopGe delta k.cs = true) (hr : ¬ r.2.1 = true)
    (hlt : byteAt data (k.p + r.1 - delta) < byteAt data (k.p + r.1)) :
    walk P data k probe (depth + 1) tree ptr0 ptr1 len0 len1 cur st lg =
      walk P data k probe depth (tree.setIfInBounds ptr1 cur) ptr0 (pairOf P k delta + 1) len0 r.1
        ((tree.setIfInBounds ptr1 cur).getD (pairOf P k delta + 1) 0) r.2.2.1
        ((((r.2.2.2.push (.byte k.p r.1 delta)).push (.byte k.p r.1 0)).push (.tree ptr1)).push
          (.tree (pairOf P k delta + 1))) := by
  subst hd hp; rw [walk]; exact (if_neg h).trans ((if_neg hr).trans (if_pos hlt))

/-- the candidate is larger (bt4.rs:134-138 / :277-281) -/
theorem walk_left (h : ¬ geOrGt P.treeStopGe delta k.cs = true) (hr : ¬ r.2.1 = true)
    (hlt : ¬ byteAt data (k.p + r.1 - delta) < byteAt data (k.p + r.1)) :
    walk P data k probe (depth + 1) tree ptr0 ptr1 len0 len1 cur st lg =
      walk P data k probe depth (tree.setIfInBounds ptr0 cur) (pairOf P k delta) ptr1 r.1 len1
        ((tree.setIfInBounds ptr0 cur).getD (pairOf P k delta) 0) r.2.2.1
        ((((r.2.2.2.push (.byte k.p r.1 delta)).push (.byte k.p r.1 0)).push (.tree ptr0)).push
          (.tree (pairOf P k delta))) := by
  subst hd hp; rw [walk]; exact (if_neg h).trans ((if_neg hr).trans (if_neg hlt))
end

/-- bt4.rs:247-265; the state is `(len_best, matches)` -/
def findProbe (P : Bt4Params) (data : Array UInt8) (p lenLimit niceLimit : Nat) : Probe (Nat × Array Match) :=
  fun st lg m delta =>
    let len := extendMatch data p delta lenLimit m
    let hit := ltOrLe P.bestStrict st.1 len
    (len, hit && geOrGt P.niceStopGe len niceLimit,
      (if hit then len else st.1, if hit then st.2.push (len, delta - P.distSub) else st.2),
      lg.push (.extend p m delta lenLimit))

/-- bt4.rs:108-127 -/
def skipProbe (data : Array UInt8) (p niceLimit : Nat) : Probe Unit :=
  fun _ lg m delta =>
    let lg := (lg.push (.byte p m delta)).push (.byte p m 0)
    let r := if byteAt data (p + m - delta) = byteAt data (p + m) then skipInner data p delta niceLimit niceLimit m lg
      else (m, false, lg)
    (r.1, r.2.1, (), r.2.2)

theorem findLoop_eq_walk (P : Bt4Params) (data : Array UInt8) (k : Ctx)
    (depth : Nat) (tree : Array Nat) (ptr0 ptr1 len0 len1 cur lenBest : Nat) (ms : Array Match) (lg : Log) :
    findLoop P data k depth tree ptr0 ptr1 len0 len1 cur lenBest ms lg =
      let r := walk P data k (findProbe P data k.p k.lenLimit k.niceLimit) depth tree ptr0 ptr1 len0 len1 cur
        (lenBest, ms) lg
      (r.1, r.2.1.2, r.2.2) := by
  fun_induction findLoop P data k depth tree ptr0 ptr1 len0 len1 cur lenBest ms lg with
  | case1 tree ptr0 ptr1 len0 len1 cur lenBest ms lg tree' lg' hx => rw [walk, hx]
  | case2 depth tree ptr0 ptr1 len0 len1 cur lenBest ms lg delta hstop tree' lg' hx =>
    rw [walk_stop rfl hstop, hx]
  | case3 depth tree ptr0 ptr1 len0 len1 cur lenBest ms lg delta hstop pair len lg1 hit ms1 hnice tree' lg' hx =>
    rw [walk_relink (probe := findProbe P data k.p k.lenLimit k.niceLimit) (st := (lenBest, ms)) rfl rfl hstop
      hnice]
    exact (congrArg (fun r => (r.1, ms1, r.2)) hx).symm
  | case4 depth tree ptr0 ptr1 len0 len1 cur lenBest ms lg delta hstop pair len lg1 hit ms1 hnice lenBest1 lg2 hlt
      tree1 lg3 ih =>
    rw [walk_right (probe := findProbe P data k.p k.lenLimit k.niceLimit) (st := (lenBest, ms)) rfl rfl hstop
      hnice hlt]
    exact ih
  | case5 depth tree ptr0 ptr1 len0 len1 cur lenBest ms lg delta hstop pair len lg1 hit ms1 hnice lenBest1 lg2 hlt
      tree1 lg3 ih =>
    rw [walk_left (probe := findProbe P data k.p k.lenLimit k.niceLimit) (st := (lenBest, ms)) rfl rfl hstop
      hnice hlt]
    exact ih

theorem skipLoop_eq_walk (P : Bt4Params) (data : Array UInt8) (k : Ctx)
    (depth : Nat) (tree : Array Nat) (ptr0 ptr1 len0 len1 cur : Nat) (lg : Log) :
    skipLoop P data k depth tree ptr0 ptr1 len0 len1 cur lg =
      let r := walk P data k (skipProbe data k.p k.niceLimit) depth tree ptr0 ptr1 len0 len1 cur () lg
      (r.1, r.2.2) := by
  fun_induction skipLoop P data k depth tree ptr0 ptr1 len0 len1 cur lg with
  | case1 => rfl
  | case2 depth tree ptr0 ptr1 len0 len1 cur lg delta hstop =>
    rw [walk_stop rfl hstop]
  | case3 depth tree ptr0 ptr1 len0 len1 cur lg delta hstop pair len0' lg1 len lg2 hx =>
    have hr : skipProbe data k.p k.niceLimit () lg (min len0 len1) (k.lzPos - cur) = (len, true, (), lg2) :=
      congrArg (fun r => (r.1, r.2.1, (), r.2.2)) hx
    rw [walk_relink rfl hr hstop rfl]
  | case4 depth tree ptr0 ptr1 len0 len1 cur lg delta hstop pair len0' lg1 len nice lg2 hx hnice lg3 hlt tree1 lg4 ih =>
    have hr : skipProbe data k.p k.niceLimit () lg (min len0 len1) (k.lzPos - cur) = (len, nice, (), lg2) :=
      congrArg (fun r => (r.1, r.2.1, (), r.2.2)) hx
    rw [walk_right rfl hr hstop hnice hlt]
    exact ih
  | case5 depth tree ptr0 ptr1 len0 len1 cur lg delta hstop pair len0' lg1 len nice lg2 hx hnice lg3 hlt tree1 lg4 ih =>
    have hr : skipProbe data k.p k.niceLimit () lg (min len0 len1) (k.lzPos - cur) = (len, nice, (), lg2) :=
      congrArg (fun r => (r.1, r.2.1, (), r.2.2)) hx
    rw [walk_left rfl hr hstop hnice hlt]
    exact ih

theorem findProbe_hit {P : Bt4Params} (hok : P.ok) {data : Array UInt8} {p ll nl lb : Nat} {ms : Array Match}
    {lg : Log} {m delta : Nat} (h : lb < extendMatch data p delta ll m) :
    findProbe P data p ll nl (lb, ms) lg m delta =
      (extendMatch data p delta ll m, decide (nl ≤ extendMatch data p delta ll m),
        (extendMatch data p delta ll m, ms.push (extendMatch data p delta ll m, delta - 1)),
        lg.push (.extend p m delta ll)) := by
  simp only [findProbe, (ok_best_iff hok).2 h, ok_nice hok, geOrGt_true, ok_dist hok, Bool.true_and, if_true, ge_iff_le]

theorem findProbe_miss {P : Bt4Params} (hok : P.ok) {data : Array UInt8} {p ll nl lb : Nat} {ms : Array Match}
    {lg : Log} {m delta : Nat} (h : ¬ lb < extendMatch data p delta ll m) :
    findProbe P data p ll nl (lb, ms) lg m delta =
      (extendMatch data p delta ll m, false, (lb, ms), lg.push (.extend p m delta ll)) := by
  have : ltOrLe P.bestStrict lb (extendMatch data p delta ll m) = false :=
    Bool.eq_false_iff.2 (fun h' => h ((ok_best_iff hok).1 h'))
  simp only [findProbe, this, Bool.false_and, Bool.false_eq_true, if_false]

theorem relink_fst (tree : Array Nat) (ptr0 ptr1 pair : Nat) (lg : Log) :
    (relink tree ptr0 ptr1 pair lg).1 =
      (tree.setIfInBounds ptr1 (tree.getD pair 0)).setIfInBounds ptr0
        ((tree.setIfInBounds ptr1 (tree.getD pair 0)).getD (pair + 1) 0) := rfl

end Bt4
end LzmaVerif.Mf
