import LzmaVerif.Proofs.XzStream
/-! C04: rejection of non-XZ input, consumption bound, and the auditing reader (acceptance implies that every
stored check was compared with — and equals — the check computed over the block data). -/
namespace LzmaVerif.Xz
open LzmaVerif Lzma Checks

/-- **C04**: input that does not start with the XZ magic is rejected (also when shorter than the magic). -/
theorem decode_rejects_non_xz (multi : Bool) (inp : List Nat) (cap : Nat) (h : inp.take 6 ≠ Consts.XZ_MAGIC) :
    ∃ e, Xz.decode multi inp cap = .err e := by
  unfold Xz.decode parseStreamHeader takeN
  by_cases hl : inp.length < 6
  · exact ⟨.eof, by simp [hl, bind, Except.bind]⟩
  · exact ⟨.invalidData, by simp [hl, h, bind, Except.bind]; rfl⟩

/-- one audited check comparison: the check type of the stream, the bytes read from the input, the block data -/
structure Audit where
  chk : Check
  stored : List Nat
  data : List Nat

/-- `decodeBlockBody`, additionally returning the stored check bytes it read from the input
    (`[]` when it did not get that far) -/
def decodeBlockBodyA (chk : Check) (h : BlockHeader) (consumedBefore : Nat) (inp : List Nat) (cap : Nat) :
    BRes × List Nat :=
  if (h.filters.dropLast.any fun f => match f with | .lzma2 _ => true | _ => false) then (.capped, []) else
  match Lzma2.decode (lzma2Dict h.filters) #[] inp cap with
  | .capped => (.capped, [])
  | .err e => (.err e, [])
  | .ok r =>
    let rest := inp.drop r.consumed
    let data := unfilter h.filters r.out.toList
    let total := consumedBefore + r.consumed
    let padN := (4 - total % 4) % 4
    match takeN padN rest with
    | .error e => (.err e, [])
    | .ok (pad, rest) =>
      if pad.any (· ≠ 0) then (.err .invalidData, []) else
      match takeN chk.size rest with
      | .error e => (.err e, [])
      | .ok (stored, rest) =>
        if stored ≠ chk.compute data then (.err .invalidData, stored)
        else if declaredMismatch h.compSize r.consumed then (.err .invalidData, stored)
        else if declaredMismatch h.uncompSize data.length then (.err .invalidData, stored)
        else (.ok { header := h, data, payload := inp.take r.consumed } rest, stored)

/-- the same outcome, and for an accepted block the bytes reported were read from the input right before the unread rest
and equal the check computed over the block's (unfiltered) data -/
def AuditedBody (chk : Check) (inp : List Nat) (r : BRes × List Nat) (o : BRes) : Prop :=
  ∃ stored, r = (o, stored) ∧ ∀ blk rest, o = .ok blk rest →
    stored = chk.compute blk.data ∧ stored.length = chk.size ∧ ∃ front, inp = front ++ stored ++ rest

theorem AuditedBody.err {chk : Check} {inp : List Nat} (e : Err) (stored : List Nat) :
    AuditedBody chk inp (.err e, stored) (.err e) :=
  ⟨stored, rfl, nofun⟩

theorem AuditedBody.capped {chk : Check} {inp : List Nat} : AuditedBody chk inp (.capped, []) .capped :=
  ⟨[], rfl, nofun⟩

theorem decodeBlockBodyA_audited (chk : Check) (h : BlockHeader) (cb : Nat) (inp : List Nat) (cap : Nat) :
    AuditedBody chk inp (decodeBlockBodyA chk h cb inp cap) (decodeBlockBody chk h cb inp cap) := by
  unfold decodeBlockBodyA decodeBlockBody
  -- the two guards are the same predicate, compiled twice
  generalize hA : h.filters.dropLast.any _ = gA
  generalize hB : h.filters.dropLast.any _ = gB
  obtain rfl : gA = gB := hA.symm.trans hB
  cases gA with
  | true => exact AuditedBody.capped
  | false =>
    simp only [Bool.false_eq_true, if_false]
    generalize Lzma2.decode (lzma2Dict h.filters) #[] inp cap = R
    cases R with
    | capped => exact AuditedBody.capped
    | err e => exact AuditedBody.err e []
    | ok r =>
      simp only []
      generalize hT : takeN ((4 - (cb + r.consumed) % 4) % 4) (List.drop r.consumed inp) = T
      cases T with
      | error e => exact AuditedBody.err e []
      | ok v =>
        obtain ⟨pad, rest1⟩ := v
        refine rel_ite (AuditedBody.err _ []) fun _ => ?_
        generalize hT2 : takeN chk.size rest1 = T2
        cases T2 with
        | error e => exact AuditedBody.err e []
        | ok v2 =>
          obtain ⟨stored, rest2⟩ := v2
          refine rel_ite (AuditedBody.err _ stored) fun hne => ?_
          refine rel_ite (AuditedBody.err _ stored) fun _ => ?_
          refine rel_ite (AuditedBody.err _ stored) fun _ => ?_
          refine ⟨stored, rfl, fun blk rest hb => ?_⟩
          cases hb
          obtain ⟨e1, -⟩ := takeN_ok hT
          obtain ⟨e2, l2⟩ := takeN_ok hT2
          refine ⟨Decidable.not_not.mp hne, l2, inp.take r.consumed ++ pad, ?_⟩
          rw [List.append_assoc, List.append_assoc, ← e2, ← e1, List.take_append_drop]

/-- `readBlocks` with an audit log of every check comparison that succeeded -/
def readBlocksA (multi : Bool) (total : Nat) :
    Nat → Check → List Nat → List Nat → List Block → List Audit → Nat → Out × List Audit
  | 0, _, _, _, _, log, _ => (.capped, log)
  | fuel+1, chk, inp, acc, blks, log, cap =>
    match parseBlockHeader inp with
    | .error e => (.err e, log)
    | .ok (some h, inp') =>
      let r := decodeBlockBodyA chk h (total - inp'.length) inp' cap
      match r.1 with
      | .capped => (.capped, log)
      | .err e => (.err e, log)
      | .ok blk rest =>
        if acc.length + blk.data.length > cap then (.capped, log) else
        readBlocksA multi total fuel chk rest (acc ++ blk.data) (blk :: blks)
          (log ++ [{ chk := chk, stored := r.2, data := blk.data }]) cap
    | .ok (none, inp') =>
      match parseIndex inp' with
      | .error e => (.err e, log)
      | .ok (recs, isize, inp'') =>
        if recs.length ≠ blks.length then (.err .invalidData, log) else
        if recs ≠ (blks.map (blockRecord chk)).reverse then (.err .invalidData, log) else
        match parseFooter inp'' with
        | .error e => (.err e, log)
        | .ok (bs, flags, rest) =>
          if (bs + 1) * 4 ≠ isize then (.err .invalidData, log) else
          if flags ≠ [0, chk.toByte] then (.err .invalidData, log) else
          if ¬ multi then (.ok acc (total - rest.length) blks, log) else
          match nextStream (rest.length + 1) rest 0 with
          | .error e => (.err e, log)
          | .ok none => (.ok acc total blks, log)
          | .ok (some (chk', rest')) => readBlocksA multi total fuel chk' rest' acc [] log cap

def decodeA (multi : Bool) (inp : List Nat) (cap : Nat) : Out × List Audit :=
  match parseStreamHeader inp with
  | .error e => (.err e, [])
  | .ok (chk, rest) => readBlocksA multi inp.length (inp.length + 2) chk rest [] [] [] cap

def Audit.Verified (a : Audit) : Prop := a.stored = a.chk.compute a.data ∧ a.stored.length = a.chk.size

/-- the same outcome, the log extended, and on acceptance every new entry is a verified check, the output grew by exactly
the audited data, and no more than `total` bytes are claimed -/
def Audited (total : Nat) (acc : List Nat) (log : List Audit) (r : Out × List Audit) (o : Out) : Prop :=
  ∃ new, r = (o, log ++ new) ∧
    ∀ d n b, o = .ok d n b → (∀ a ∈ new, a.Verified) ∧ d = acc ++ (new.map (·.data)).flatten ∧ n ≤ total

theorem Audited.err {total : Nat} {acc : List Nat} {log : List Audit} (e : Err) :
    Audited total acc log (.err e, log) (.err e) :=
  ⟨[], by rw [List.append_nil], nofun⟩

theorem Audited.capped {total : Nat} {acc : List Nat} {log : List Audit} :
    Audited total acc log (.capped, log) .capped :=
  ⟨[], by rw [List.append_nil], nofun⟩

theorem Audited.ok {total n : Nat} {acc : List Nat} {log : List Audit} {blks : List Block} (hn : n ≤ total) :
    Audited total acc log (.ok acc n blks, log) (.ok acc n blks) := by
  refine ⟨[], by rw [List.append_nil], fun d n' b h => ?_⟩
  cases h
  exact ⟨nofun, by simp, hn⟩

theorem Audited.block {total : Nat} {acc : List Nat} {log : List Audit} {r : Out × List Audit} {o : Out}
    {a : Audit} (hv : a.Verified) (h : Audited total (acc ++ a.data) (log ++ [a]) r o) :
    Audited total acc log r o := by
  obtain ⟨new, h1, h2⟩ := h
  refine ⟨a :: new, by rw [h1, List.append_assoc]; rfl, fun d n b ho => ?_⟩
  obtain ⟨hnew, hd, hn⟩ := h2 d n b ho
  refine ⟨fun x hx => ?_, by rw [hd]; simp, hn⟩
  rcases List.mem_cons.mp hx with rfl | hx
  · exact hv
  · exact hnew x hx

theorem readBlocksA_audited (multi : Bool) (total cap : Nat) : ∀ (fuel : Nat) (chk : Check) (inp acc : List Nat)
    (blks : List Block) (log : List Audit),
    Audited total acc log (readBlocksA multi total fuel chk inp acc blks log cap)
      (readBlocks multi total fuel chk inp acc blks cap) := by
  intro fuel
  induction fuel with
  | zero => intro chk inp acc blks log; exact Audited.capped
  | succ fuel ih =>
    intro chk inp acc blks log
    unfold readBlocksA readBlocks
    generalize parseBlockHeader inp = H
    cases H with
    | error e => exact Audited.err e
    | ok v =>
      obtain ⟨oh, inp'⟩ := v
      cases oh with
      | some h =>
        obtain ⟨stored, hA, hok⟩ := decodeBlockBodyA_audited chk h (total - inp'.length) inp' cap
        simp only [hA]
        generalize hB : decodeBlockBody chk h (total - inp'.length) inp' cap = B at hok ⊢
        cases B with
        | capped => exact Audited.capped
        | err e => exact Audited.err e
        | ok blk rest =>
          obtain ⟨hv, hl, -⟩ := hok blk rest rfl
          exact rel_ite Audited.capped fun _ =>
            Audited.block (a := ⟨chk, stored, blk.data⟩) ⟨hv, hl⟩ (ih _ _ _ _ _)
      | none =>
        simp only []
        generalize parseIndex inp' = I
        cases I with
        | error e => exact Audited.err e
        | ok v =>
          obtain ⟨recs, isize, inp''⟩ := v
          refine rel_ite (Audited.err _) fun _ => ?_
          refine rel_ite (Audited.err _) fun _ => ?_
          generalize parseFooter inp'' = F
          cases F with
          | error e => exact Audited.err e
          | ok v =>
            obtain ⟨bs, flags, rest⟩ := v
            refine rel_ite (Audited.err _) fun _ => ?_
            refine rel_ite (Audited.err _) fun _ => ?_
            refine rel_ite (Audited.ok (Nat.sub_le _ _)) fun _ => ?_
            generalize nextStream (rest.length + 1) rest 0 = N
            cases N with
            | error e => exact Audited.err e
            | ok o =>
              cases o with
              | none => exact Audited.ok (Nat.le_refl _)
              | some p =>
                obtain ⟨chk', rest'⟩ := p
                exact ih _ _ _ _ _

theorem decodeA_audited (multi : Bool) (inp : List Nat) (cap : Nat) :
    Audited inp.length [] [] (decodeA multi inp cap) (Xz.decode multi inp cap) := by
  unfold decodeA Xz.decode
  generalize parseStreamHeader inp = H
  cases H with
  | error e => exact Audited.err e
  | ok v => exact readBlocksA_audited ..

theorem decodeA_fst (multi : Bool) (inp : List Nat) (cap : Nat) :
    (decodeA multi inp cap).1 = Xz.decode multi inp cap := by
  obtain ⟨new, h, -⟩ := decodeA_audited multi inp cap
  rw [h]

/-- **C04 / C16**: the reader never claims to have consumed more than it was given (the count comes from the same
run as the audit log). -/
theorem decode_consumed_le (multi : Bool) (inp : List Nat) (cap : Nat) (d : List Nat) (n : Nat) (b : List Block)
    (h : Xz.decode multi inp cap = .ok d n b) : n ≤ inp.length := by
  obtain ⟨new, -, hok⟩ := decodeA_audited multi inp cap
  exact (hok d n b h).2.2

/-- **C04: acceptance implies verified checks.**  Whenever the reader accepts an input, the auditing reader (which returns
the same result) has logged, for every block it output, `chk.size` stored bytes equal to the check computed over that
block's data (that they are the bytes read from the input is the definition of `decodeBlockBodyA`); the output is the
concatenation of the audited blocks' data. -/
theorem decode_accepts_verified (multi : Bool) (inp : List Nat) (cap : Nat) (d : List Nat) (n : Nat) (b : List Block)
    (h : Xz.decode multi inp cap = .ok d n b) :
    ∃ log, decodeA multi inp cap = (.ok d n b, log) ∧ (∀ a ∈ log, a.Verified) ∧ d = (log.map (·.data)).flatten := by
  obtain ⟨new, hr, hok⟩ := decodeA_audited multi inp cap
  obtain ⟨hv, hd, -⟩ := hok d n b h
  exact ⟨new, hr.trans (by rw [h, List.nil_append]), hv, hd⟩

end LzmaVerif.Xz
