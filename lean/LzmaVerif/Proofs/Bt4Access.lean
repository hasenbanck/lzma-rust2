/-
  (B4) (`bt4_indices_in_bounds`, `Props/C01Bt4.lean`) every array index and every data index the model (hence
  `find_matches` / `skip` of bt4.rs) computes is in bounds.  Stated over the explicit access log `St.log`: `LogOk` is
  carried through the hash stage, the hash candidates and the tree walk (`walk_log`, from what the log needs to know
  of the comparison, `ProbeLog`).
-/
import LzmaVerif.Proofs.Bt4Hash
namespace LzmaVerif.Mf.Bt4

/-- additional hypotheses of (B4): `minAvailFinishing ≤ nice_len` (4 in bt4.rs; the crate enforces
    `8 ≤ nice_len ≤ 273`) and `nice_len ≤ match_len_max` (the LZMA encoders pass `match_len_max = 273`) -/
structure HypA (P : Bt4Params) (c : Cfg) (data : Array UInt8) : Prop extends Hyp P c data where
  niceAvail : P.minAvailFinishing ≤ c.niceLen
  niceMl : c.niceLen ≤ c.mlmax

def AccessOk (P : Bt4Params) (c : Cfg) (data : Array UInt8) : Access → Prop
  | .h2 i => i < P.hash.hash2Size
  | .h3 i => i < P.hash.hash3Size
  | .h4 i => i < hash4Size P.hash c.dict
  | .tree i => i < cyclicSize P c * P.treeFactor
  -- `buf[read_pos + fwd - back]`: no underflow, inside the data, not further back than the dictionary
  | .byte p fwd back => back ≤ p + fwd ∧ p + fwd < data.size ∧ p ≤ p + fwd - back + c.dict
  -- `extend_match(buf, p, cur, delta, limit)`: both slices `[p+cur-delta .. p+limit-delta)`, `[p+cur .. p+limit)`
  | .extend p cur delta limit => delta ≤ p + cur ∧ cur ≤ limit ∧ p + limit ≤ data.size ∧ delta ≤ c.dict

def LogOk (P : Bt4Params) (c : Cfg) (data : Array UInt8) (lg : Log) : Prop :=
  ∀ l, lg = some l → ∀ a ∈ l, AccessOk P c data a

variable {P : Bt4Params} {c : Cfg} {data : Array UInt8}

theorem LogOk.push {lg : Log} (h : LogOk P c data lg) {a : Access}
    (ha : AccessOk P c data a) : LogOk P c data (lg.push a) := by
  intro l hl
  cases lg with
  | none => simp [Log.push] at hl
  | some xs =>
    simp only [Log.push, Option.some.injEq] at hl
    subst hl
    intro b hb
    rcases List.mem_cons.1 hb with rfl | hb
    · exact ha
    · exact h xs rfl b hb

theorem shl_eq {P : Bt4Params} (hok : P.ok) (x : Nat) : shl P x = 2 * x := by
  unfold shl; rw [ok_shl hok, Nat.shiftLeft_eq]; omega

theorem pairOf_lt {P : Bt4Params} (hok : P.ok) (k : Ctx) (delta : Nat) (hc : k.cyclicPos < k.cs)
    (hd : delta < k.cs) : pairOf P k delta + 1 < 2 * k.cs := by
  unfold pairOf
  rw [shl_eq hok, ok_pairSel hok]
  show 2 * (k.cyclicPos + (if geOrGt false delta k.cyclicPos = true then k.cs else 0) - delta) + 1 < _
  rw [geOrGt_false]
  split
  · rename_i h; rw [decide_eq_true_eq] at h; omega
  · rename_i h; rw [decide_eq_true_eq] at h; omega

theorem treeIdx_ok (hok : P.ok) {k : Ctx} (hcs : k.cs = cyclicSize P c)
    {i : Nat} (h : i < 2 * k.cs) : AccessOk P c data (.tree i) := by
  show i < cyclicSize P c * P.treeFactor
  have := ok_factor hok
  rw [← hcs]
  calc i < 2 * k.cs := h
    _ = k.cs * 2 := Nat.mul_comm _ _
    _ ≤ k.cs * P.treeFactor := Nat.mul_le_mul_left _ this

theorem terminate_log (tree : Array Nat) {ptr0 ptr1 : Nat} {lg : Log} (h : LogOk P c data lg)
    (h0 : AccessOk P c data (.tree ptr0)) (h1 : AccessOk P c data (.tree ptr1)) :
    LogOk P c data (terminate tree ptr0 ptr1 lg).2 :=
  (h.push h0).push h1

theorem relink_log (tree : Array Nat) {ptr0 ptr1 pair : Nat} {lg : Log} (h : LogOk P c data lg)
    (h0 : AccessOk P c data (.tree ptr0)) (h1 : AccessOk P c data (.tree ptr1))
    (hp : AccessOk P c data (.tree pair)) (hp1 : AccessOk P c data (.tree (pair + 1))) :
    LogOk P c data (relink tree ptr0 ptr1 pair lg).2 :=
  (((h.push hp).push h1).push hp1).push h0

theorem byte_ok (p len delta : Nat) (d2 : delta ≤ p) (d3 : delta ≤ c.dict)
    (hl : p + len < data.size) :
    AccessOk P c data (.byte p len delta) ∧ AccessOk P c data (.byte p len 0) :=
  ⟨⟨by omega, hl, by omega⟩, ⟨by omega, hl, by omega⟩⟩

/-- what the access log needs of the comparison: from at most `L` bytes known equal it logs accesses in bounds and,
    unless it asks for the replacement, returns at most `L` equal bytes with the byte after them inside the data; `J`
    holds of its state throughout -/
def ProbeLog {σ : Type} (P : Bt4Params) (c : Cfg) (data : Array UInt8) (k : Ctx) (probe : Probe σ) (J : σ → Prop)
    (L : Nat) : Prop :=
  ∀ st lg m delta r, probe st lg m delta = r → J st → LogOk P c data lg → m ≤ L → 1 ≤ delta → delta ≤ k.p →
    delta ≤ c.dict →
    LogOk P c data r.2.2.2 ∧ (r.2.1 = false → r.1 ≤ L ∧ k.p + r.1 < data.size ∧ J r.2.2.1)

theorem walk_log {σ : Type} (hok : P.ok) (k : Ctx) {hi : Nat}
    (hk : KCore P c data k hi) (hcs : k.cs = cyclicSize P c) (probe : Probe σ) (J : σ → Prop) (L : Nat)
    (hprobe : ProbeLog P c data k probe J L)
    (depth : Nat) (tree : Array Nat) (ptr0 ptr1 len0 len1 cur : Nat) (st : σ) (lg : Log) :
    LogOk P c data lg → TblOk k.cs hi tree → EntryOk k.cs hi cur → ptr0 < 2 * k.cs → ptr1 < 2 * k.cs →
    len0 ≤ L → len1 ≤ L → J st →
    LogOk P c data (walk P data k probe depth tree ptr0 ptr1 len0 len1 cur st lg).2.2 := by
  have hidx : ∀ {i}, i < 2 * k.cs → AccessOk P c data (.tree i) := treeIdx_ok hok hcs
  -- a live candidate: its slot pair, the log of the comparison and of the two bytes read after it
  have hcand : ∀ {len0 len1 cur st lg} {r}, probe st lg (min len0 len1) (k.lzPos - cur) = r → LogOk P c data lg →
      EntryOk k.cs hi cur → ¬ geOrGt P.treeStopGe (k.lzPos - cur) k.cs = true → len0 ≤ L → len1 ≤ L → J st →
      pairOf P k (k.lzPos - cur) + 1 < 2 * k.cs ∧ LogOk P c data r.2.2.2 ∧
      (¬ r.2.1 = true → r.1 ≤ L ∧ J r.2.2.1 ∧
        LogOk P c data ((r.2.2.2.push (.byte k.p r.1 (k.lzPos - cur))).push (.byte k.p r.1 0))) := by
    intro len0 len1 cur st lg r hr hl hc hstop h0 h1 hj
    obtain ⟨dlt, d1, d2, d3⟩ := walk_cand hok hk hc hstop
    obtain ⟨hlr, hn⟩ := hprobe st lg _ _ r hr hj hl (by omega : min len0 len1 ≤ L) d1 d2 d3
    refine ⟨pairOf_lt hok k _ hk.cyc dlt, hlr, fun hnice => ?_⟩
    obtain ⟨hlen, hin, hj'⟩ := hn (Bool.eq_false_iff.2 hnice)
    have hby := byte_ok (P := P) (c := c) (data := data) k.p r.1 _ d2 d3 hin
    exact ⟨hlen, hj', (hlr.push hby.1).push hby.2⟩
  fun_induction walk P data k probe depth tree ptr0 ptr1 len0 len1 cur st lg with
  | case1 tree => intro hl _ _ p0 p1 _ _ _; exact terminate_log tree hl (hidx p0) (hidx p1)
  | case2 depth tree => intro hl _ _ p0 p1 _ _ _; exact terminate_log tree hl (hidx p0) (hidx p1)
  | case3 depth tree ptr0 ptr1 len0 len1 cur st lg delta hstop pair r hnice =>
    intro hl ht hc p0 p1 h0 h1 hj
    obtain ⟨hpair, hlr, _⟩ := hcand rfl hl hc hstop h0 h1 hj
    exact relink_log tree hlr (hidx p0) (hidx p1) (hidx (Nat.lt_of_succ_lt hpair)) (hidx hpair)
  | case4 depth tree ptr0 ptr1 len0 len1 cur st lg delta hstop pair r hnice lg1 hlt tree1 ih =>
    intro hl ht hc p0 p1 h0 h1 hj
    obtain ⟨hpair, _, hn⟩ := hcand rfl hl hc hstop h0 h1 hj
    obtain ⟨hlen, hj', hl1⟩ := hn hnice
    have ht1 : TblOk k.cs hi tree1 := ht.set ptr1 cur hc
    exact ih ((hl1.push (hidx p1)).push (hidx hpair)) ht1 (ht1 _) p0 hpair h0 hlen hj'
  | case5 depth tree ptr0 ptr1 len0 len1 cur st lg delta hstop pair r hnice lg1 hlt tree1 ih =>
    intro hl ht hc p0 p1 h0 h1 hj
    obtain ⟨hpair, _, hn⟩ := hcand rfl hl hc hstop h0 h1 hj
    obtain ⟨hlen, hj', hl1⟩ := hn hnice
    have ht1 : TblOk k.cs hi tree1 := ht.set ptr0 cur hc
    exact ih ((hl1.push (hidx p0)).push (hidx (Nat.lt_of_succ_lt hpair))) ht1 (ht1 _) (Nat.lt_of_succ_lt hpair) p1
      hlen h1 hj'

/-- `find_matches`: the slices of `extend_match`; the byte after the match is read only if the match is shorter than
    `nice_len_limit` or not longer than `len_best`, which stays below `avail` -/
theorem findProbe_log (hok : P.ok) {k : Ctx} {hi : Nat}
    (hk : KFacts P c data k hi) (hna : k.niceLimit ≤ data.size - k.p) :
    ProbeLog P c data k (findProbe P data k.p k.lenLimit k.niceLimit) (fun st => st.1 < data.size - k.p)
      k.lenLimit := by
  rintro ⟨lb, ms⟩ lg m delta r rfl hj hl hm _ d2 d3
  have hll := hk.lenLim
  have hlen := extendMatch_le data k.p delta k.lenLimit m hm
  have hl1 : LogOk P c data (lg.push (.extend k.p m delta k.lenLimit)) :=
    hl.push (a := .extend k.p m delta k.lenLimit) ⟨by omega, hm, by omega, d3⟩
  have hj : lb < data.size - k.p := hj
  by_cases hit : lb < extendMatch data k.p delta k.lenLimit m
  · rw [findProbe_hit hok hit]
    refine ⟨hl1, fun hn => ?_⟩
    have h2 : ¬ k.niceLimit ≤ extendMatch data k.p delta k.lenLimit m := of_decide_eq_false hn
    exact ⟨hlen, by omega, by show extendMatch _ _ _ _ _ < _; omega⟩
  · rw [findProbe_miss hok hit]
    exact ⟨hl1, fun _ => ⟨hlen, by omega, hj⟩⟩

theorem skipInner_log (p delta niceLimit : Nat)
    (d2 : delta ≤ p) (d3 : delta ≤ c.dict) (hna : p + niceLimit ≤ data.size)
    (fuel len : Nat) (lg : Log) :
    LogOk P c data lg → len < niceLimit → niceLimit ≤ fuel + len →
    LogOk P c data (skipInner data p delta niceLimit fuel len lg).2.2 ∧
    ((skipInner data p delta niceLimit fuel len lg).2.1 = false →
      (skipInner data p delta niceLimit fuel len lg).1 < niceLimit) := by
  fun_induction skipInner data p delta niceLimit fuel len lg with
  | case1 len lg => intro _ h1 h2; omega
  | case2 fuel len lg len1 heq => intro hl _ _; exact ⟨hl, fun h => by simp at h⟩
  | case3 fuel len lg len1 hne lg1 hby =>
    intro hl h1 h2
    have hb := byte_ok (P := P) (c := c) (data := data) p len1 delta d2 d3 (by omega)
    exact ⟨(hl.push hb.1).push hb.2, fun _ => by omega⟩
  | case4 fuel len lg len1 hne lg1 hby ih =>
    intro hl h1 h2
    have hb := byte_ok (P := P) (c := c) (data := data) p len1 delta d2 d3 (by omega)
    exact ih ((hl.push hb.1).push hb.2) (by omega) (by omega)

theorem skipProbe_log (k : Ctx) (hna : k.p + k.niceLimit ≤ data.size) (hn0 : 0 < k.niceLimit) :
    ProbeLog P c data k (skipProbe data k.p k.niceLimit) (fun _ => True) (k.niceLimit - 1) := by
  rintro _ lg m delta r rfl _ hl hm _ d2 d3
  have hby := byte_ok (P := P) (c := c) (data := data) k.p m delta d2 d3 (by omega)
  have hl1 := (hl.push hby.1).push hby.2
  unfold skipProbe
  simp only []
  split
  · obtain ⟨a, b⟩ := skipInner_log (P := P) (c := c) k.p delta k.niceLimit d2 d3 hna k.niceLimit m _ hl1 (by omega)
      (by omega)
    exact ⟨a, fun h => by have := b h; exact ⟨by omega, by omega, trivial⟩⟩
  · exact ⟨hl1, fun _ => ⟨hm, by omega, trivial⟩⟩

theorem hashIdx_lt {P : Bt4Params} (hok : P.ok) (c : Cfg) (data : Array UInt8) (p : Nat) :
    (hashesAt P c data p).h2 < P.hash.hash2Size ∧ (hashesAt P c data p).h3 < P.hash.hash3Size ∧
    (hashesAt P c data p).h4 < hash4Size P.hash c.dict :=
  ⟨Hc4.and_mask_lt _ _ (ok_hash2 hok).1, Hc4.and_mask_lt _ _ (ok_hash3 hok).1,
    Hc4.and_mask_lt _ _ (Nat.succ_pos _)⟩

theorem hashStage_log (hok : P.ok) {s : St}
    (hl : LogOk P c data s.log) (hp : s.pos - 1 + 4 ≤ data.size) :
    LogOk P c data (hashStage P c data s).st.log := by
  rw [hashStage_st]
  obtain ⟨i2, i3, i4⟩ := hashIdx_lt hok c data (s.pos - 1)
  have hb : ∀ i, i < 4 → AccessOk P c data (.byte (s.pos - 1) i 0) := fun i hi => ⟨by omega, by omega, by omega⟩
  have h1 : LogOk P c data (logHashReads s.log (s.pos - 1)) := by
    unfold logHashReads
    exact (((hl.push (hb 0 (by omega))).push (hb 1 (by omega))).push (hb 2 (by omega))).push (hb 3 (by omega))
  exact ((h1.push (a := .h2 _) i2).push (a := .h3 _) i3).push (a := .h4 _) i4

theorem hashCands_log_eq (P : Bt4Params) (data : Array UInt8) (p cs d2 d3 : Nat) (lg : Log) :
    (hashCands P data p cs d2 d3 lg).log =
      (if (d2 != d3 && ltOrLe P.d3Strict d3 cs) = true then
        ((if ltOrLe P.d2Strict d2 cs = true then (lg.push (.byte p 0 d2)).push (.byte p 0 0) else lg).push
          (.byte p 0 d3)).push (.byte p 0 0)
       else (if ltOrLe P.d2Strict d2 cs = true then (lg.push (.byte p 0 d2)).push (.byte p 0 0) else lg)) := by
  unfold hashCands
  simp only [apply_ite Cands.log, ite_self]

theorem hashCands_log (hok : P.ok) (p cs d2 d3 : Nat) (lg : Log)
    (hl : LogOk P c data lg) (h0 : AccessOk P c data (.byte p 0 0))
    (h2 : d2 < cs → AccessOk P c data (.byte p 0 d2)) (h3 : d3 < cs → AccessOk P c data (.byte p 0 d3)) :
    LogOk P c data (hashCands P data p cs d2 d3 lg).log := by
  rw [hashCands_log_eq]
  simp only [Bool.and_eq_true, ok_d2_iff hok, ok_d3_iff hok]
  have hl2 : LogOk P c data (if d2 < cs then (lg.push (.byte p 0 d2)).push (.byte p 0 0) else lg) := by
    split
    · rename_i h; exact (hl.push (h2 h)).push h0
    · exact hl
  split
  · rename_i h; exact (hl2.push (h3 h.2)).push h0
  · exact hl2

theorem extendCands_log (p lim : Nat) (cd : Cands)
    (hl : LogOk P c data cd.log) (h : cd.ms.size > 0 → AccessOk P c data (.extend p cd.lenBest cd.delta2 lim)) :
    LogOk P c data (extendCands data p lim cd).log := by
  unfold extendCands
  split
  · rename_i hs; exact hl.push (h hs)
  · exact hl

theorem cands_log (hok : P.ok) {k : Ctx} {hi e2 e3 : Nat}
    (hk : KFacts P c data k hi) (he2 : EntryOk k.cs hi e2) (he3 : EntryOk k.cs hi e3) {lg : Log}
    (hl : LogOk P c data lg) :
    LogOk P c data
      (extendCands data k.p k.lenLimit (hashCands P data k.p k.cs (k.lzPos - e2) (k.lzPos - e3) lg)).log := by
  have hin := hk.inData
  have hl3 := hk.len3
  have hll := hk.lenLim
  have hbyte : ∀ e, EntryOk k.cs hi e → k.lzPos - e < k.cs → AccessOk P c data (.byte k.p 0 (k.lzPos - e)) := by
    intro e he hlt
    obtain ⟨d1, d2, d3⟩ := delta_of_entry hk.toKCore he hlt
    exact ⟨by omega, by omega, by omega⟩
  have hext : ∀ e n, EntryOk k.cs hi e → k.lzPos - e < k.cs → n ≤ 3 →
      AccessOk P c data (.extend k.p n (k.lzPos - e) k.lenLimit) := by
    intro e n he hlt hn
    obtain ⟨d1, d2, d3⟩ := delta_of_entry hk.toKCore he hlt
    exact ⟨by omega, by omega, by omega, d3⟩
  refine extendCands_log _ _ _ (hashCands_log hok _ _ _ _ _ hl ⟨by omega, by omega, by omega⟩ (hbyte e2 he2)
    (hbyte e3 he3)) ?_
  intro hsz
  obtain ⟨hlt, hd, hlb⟩ := hashCands_last hok data k.p k.cs (k.lzPos - e2) (k.lzPos - e3) lg hsz
  rcases hd with h | h
  · rw [h] at hlt ⊢; exact hext e2 _ he2 hlt hlb
  · rw [h] at hlt ⊢; exact hext e3 _ he3 hlt hlb

theorem limitsA (hA : HypA P c data) {pos : Nat} (hp : ¬ pending P c data pos) :
    niceLimitOf c (data.size - pos) = min c.niceLen (data.size - pos) ∧
    niceLimitOf c (data.size - pos) ≤ lenLimitOf c (data.size - pos) ∧
    P.lenBestFloor < niceLimitOf c (data.size - pos) ∧ pos + 4 ≤ data.size := by
  have h1 := ok_avail4 hA.ok
  have h2 := hA.niceAvail
  have hml := hA.niceMl
  have hflt := ok_floor_lt hA.ok
  unfold pending at hp
  have : ¬ data.size - pos < P.minAvailFinishing := fun h => hp ⟨by omega, h⟩
  have hnice : niceLimitOf c (data.size - pos) = min c.niceLen (data.size - pos) := by
    unfold niceLimitOf; split <;> omega
  refine ⟨hnice, ?_, by omega, by omega⟩
  rw [hnice]; unfold lenLimitOf; split <;> omega

theorem Step.skipTree_log (hok : P.ok) {s : St} (S : Step P c data s) {nl : Nat} {lg : Log}
    (hl : LogOk P c data lg) (hn0 : 0 < nl) (hna : nl ≤ data.size - s.pos) :
    LogOk P c data (skipTree P c data { (stepHs P c data s).st with log := lg } nl (stepHs P c data s).cur).log := by
  rw [skipTree_eq, skipLoop_eq_walk]
  have hcyc := S.inv.cyc
  have h3 := S.avail
  refine walk_log hok _ (S.core 0 nl) rfl _ (fun _ => True) (nl - 1)
    (skipProbe_log _ (by show (stepHs P c data s).st.pos - 1 + nl ≤ _; rw [S.pos]; omega) hn0)
    (depthLimit P c) _ _ _ 0 0 _ () lg hl S.inv.treeok S.cur ?_ ?_ (Nat.zero_le _) (Nat.zero_le _) trivial
  · rw [shl_eq hok]; show 2 * (stepHs P c data s).st.cyclicPos + 1 < 2 * cyclicSize P c; omega
  · rw [shl_eq hok]; show 2 * (stepHs P c data s).st.cyclicPos < 2 * cyclicSize P c; omega

theorem find_log (hA : HypA P c data) {s : St}
    (hI : Inv P c data s) (hL : LogOk P c data s.log) : LogOk P c data (find P c data s).1.log := by
  have hH := hA.toHyp
  have hok := hH.ok
  by_cases hp : pending P c data s.pos
  · rw [find_pending hH hp]; exact hL
  have S := step hH hI hp
  obtain ⟨e2, e3, he2, he3, hd2, hd3, _, _⟩ := stepHs_slots hH hI hp
  obtain ⟨hnice, _, hfl, h4⟩ := limitsA hA hp
  have hlHs : LogOk P c data (stepHs P c data s).st.log :=
    hashStage_log hok (s := moved P c s) hL (by rw [moved_pos]; omega)
  have hlCd : LogOk P c data (stepCd P c data s).log := by
    have := cands_log hok S.facts he2 he3 hlHs
    unfold stepCd stepCd0
    rw [hd2, hd3]
    exact this
  have hcd := stepCd_ok hH hI hp
  have hn3 : 3 ≤ niceLimitOf c (data.size - s.pos) := S.facts.nice3
  have hna : niceLimitOf c (data.size - s.pos) ≤ data.size - s.pos := by rw [hnice]; exact Nat.min_le_right _ _
  have hcyc := S.inv.cyc
  rw [find_tail hH hp]
  unfold findTail
  split
  · exact S.skipTree_log hok hlCd (by omega) hna
  · rename_i hne
    show LogOk P c data (findLoop _ _ _ _ _ _ _ _ _ _ _ _ _).2.2
    rw [findLoop_eq_walk]
    refine walk_log hok (stepK P c data s) S.facts.toKCore rfl _ (fun st' => st'.1 < data.size - (stepK P c data s).p)
      _ (findProbe_log hok S.facts (by rw [S.p]; exact hna)) (depthLimit P c) _ _ _ 0 0 _ _ _ hlCd S.inv.treeok S.cur
      ?_ ?_ (Nat.zero_le _) (Nat.zero_le _) ?_
    · rw [shl_eq hok]; show 2 * (stepHs P c data s).st.cyclicPos + 1 < 2 * cyclicSize P c; omega
    · rw [shl_eq hok]; show 2 * (stepHs P c data s).st.cyclicPos < 2 * cyclicSize P c; omega
    · show startLenBest P _ < _
      have := (hcd.start hok hne hn3).2.2.2.2
      rw [S.p]
      omega

theorem skipOne_log (hA : HypA P c data) {s : St}
    (hI : Inv P c data s) (hL : LogOk P c data s.log) : LogOk P c data (skipOne P c data s).log := by
  have hH := hA.toHyp
  rcases skipOne_cases hH s with ⟨_, he⟩ | ⟨hp, he⟩
  · rw [he]; exact hL
  · rw [he]
    obtain ⟨_, _, _, h4⟩ := limitsA hA hp
    have hn := hH.nice
    exact (step hH hI hp).skipTree_log hH.ok (hashStage_log hH.ok (s := moved P c s) hL (by rw [moved_pos]; omega))
      (by omega) (Nat.min_le_right _ _)

theorem init_log (P : Bt4Params) (c : Cfg) (data : Array UInt8) (lg : Bool) : LogOk P c data (init P c lg).log := by
  intro l hl a ha
  cases lg
  · simp [init] at hl
  · simp only [init, if_true, Option.some.injEq] at hl
    subst hl; simp at ha

end LzmaVerif.Mf.Bt4
