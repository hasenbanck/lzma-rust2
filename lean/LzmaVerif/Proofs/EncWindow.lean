import Mathlib.Algebra.Group.Nat.Defs  -- `2 ^ 31` in `bufSize_fits_i32` is read as in the other property files (`Monoid.npow`)
import LzmaVerif.Proofs.EncWindowWrite
/-!
# The encoder's search is shown the same data for every partition of the input into `write` calls

Model: `Model/EncWindow.lean` (`LZEncoderData` of src/lz/lz_encoder.rs, the write/finish loops of
src/enc/lzma_writer.rs and lzma2_writer.rs, `encode_init`/`encode_symbol` of src/enc/encoder.rs).
The search (HC4/BT4, fast/normal parser) is an ARBITRARY function `O : Oracle` of everything it has been
shown so far; all theorems hold for every `O`.

## What the search can observe of the window, and what the theorems say about it

At every `move_pos` (one per `find_matches` / per iteration of `skip`) a `View` (model) is recorded, at absolute
position `p` inside the symbol starting at `e`.  That is everything the search reads, because
* the match finders read `buf[read_pos - delta ..]` with `delta ≤ dict_size` (`delta < cyclic_size = dict_size+1`)
  and `buf[read_pos .. read_pos + match_len_limit)`; `match_len_limit ≤ match_len_max ≤ keep_size_after - (p - e)`
  as long as `p - e ≤ maxAhead ≤ EXTRA_SIZE_AFTER` (`cap_covers_match_len`);
* of `avail` the match finders use `avail == 0`, `avail < match_len_max` / `avail < nice_len` and then `avail`
  itself: i.e. `min(avail, match_len_max)` = `matchLimit`;
* the parsers use `min(lz.get_avail(), MATCH_LEN_MAX)` and (normal) `min(lz.get_avail(), OPTS - 1)`, both at
  `p = e`, where the cap is `keep_size_after ≥ max(MATCH_LEN_MAX, OPTS - 1)` (`getAvail_observable`,
  `extra_after_covers_search`), and read `get_byte(forward, …)` / `get_match_len2(forward, …)` only below
  `e + min(get_avail at e, OPTS - 1)`.
The uncapped `get_avail()` DOES depend on the partition (`raw_avail_depends_on_partition`); it is never used
uncapped.  `has_enough_data` and `finishing` depend on the partition as well, but only decide WHEN a symbol
is coded, not what the search is shown.
-/
namespace LzmaVerif.EncWindow

theorem refAdvance_pos (P : Params) (inp : List Nat) (e : Nat) : ∀ (k : Nat) (c : RSt),
    (refAdvance P inp e k c).readPos = c.readPos + k
  | 0, c => (Int.add_zero _).symm
  | k + 1, c => by
    refine (refAdvance_pos P inp e k (refMf P inp e c)).trans ?_
    show c.readPos + 1 + (k : Int) = c.readPos + ((k + 1 : Nat) : Int)
    omega

theorem refSymbol_progress (P : Params) (O : Oracle) (inp : List Nat) (c : RSt) :
    c.encPos + 1 ≤ (refSymbol P O inp c).1.encPos := by
  unfold refSymbol RSt.encPos
  simp only []
  generalize clampAdv _ _ _ _ = adv
  rw [refAdvance_pos P inp _ adv c]
  generalize hl : clampLen _ _ = len
  have : 1 ≤ len := by rw [← hl]; unfold clampLen; omega
  omega

theorem refRun_steps (P : Params) (O : Oracle) (inp : List Nat) (fuel : Nat) (c : RSt) :
    RSteps P O inp c (refRun P O inp fuel c) := by
  fun_induction refRun P O inp fuel c with
  | case1 c => exact RSteps.refl c
  | case2 f c h ih => exact RSteps.step h ih
  | case3 f c h => exact RSteps.refl c

theorem refRun_done (P : Params) (O : Oracle) (inp : List Nat) (fuel : Nat) (c : RSt)
    (hf : ((inp.length : Int) - c.encPos).toNat < fuel) : ¬ (refRun P O inp fuel c).encPos < inp.length := by
  fun_induction refRun P O inp fuel c with
  | case1 c => exact absurd hf (Nat.not_lt_zero _)
  | case2 f c h ih =>
    have := refSymbol_progress P O inp c
    exact ih (by omega)
  | case3 f c h => exact h

/-- For every search `O`, every partition of the input into `write` calls (empty ones included), the
    sequence of views shown to the search is the one of the window-free reference run on the concatenation. -/
theorem trace_eq_ref (P : Params) (hP : P.WF) (O : Oracle) (parts : List (List Nat)) :
    traceOf listBuf P O parts = refTrace P O parts.flatten := by
  obtain ⟨h1, h2, -⟩ := run_sim P hP O parts
  have h5 := refRun_steps P O parts.flatten (parts.flatten.length + 1) {}
  have h6 := refRun_done P O parts.flatten (parts.flatten.length + 1) {} (by
    show ((parts.flatten.length : Int) - ((-1 : Int) - (-1 : Int))).toNat < parts.flatten.length + 1
    omega)
  exact congrArg (fun c => c.trace.reverse) (RSteps.deterministic h1.reach h2 h5 h6)

/-- Two partitions of the same input show the search the same sequence of views. -/
theorem view_independence (P : Params) (hP : P.WF) (O : Oracle) (parts₁ parts₂ : List (List Nat))
    (h : parts₁.flatten = parts₂.flatten) :
    traceOf listBuf P O parts₁ = traceOf listBuf P O parts₂ := by
  rw [trace_eq_ref P hP O parts₁, trace_eq_ref P hP O parts₂, h]

/-- `SInv` at the end of every run; every `*_sim` lemma carries it as `Sim.inv`, so it also holds after every
    operation of the run. -/
theorem run_invariants (P : Params) (hP : P.WF) (O : Oracle) (parts : List (List Nat)) :
    SInv P (run listBuf P O parts) parts.flatten := by
  obtain ⟨h, -, hall⟩ := run_sim P hP O parts
  have := h.inv
  rwa [hall, List.take_length] at this

/-- the write loop always makes progress: every byte is taken, the fuel of the model is never exhausted -/
theorem run_never_stuck (P : Params) (hP : P.WF) (O : Oracle) (parts : List (List Nat)) :
    (run listBuf P O parts).stuck = false := (run_invariants P hP O parts).not_stuck

theorem run_final (P : Params) (hP : P.WF) (O : Oracle) (parts : List (List Nat)) :
    let s := run listBuf P O parts
    s.win.base + s.win.writePos = parts.flatten.length ∧ s.win.buf.take s.win.writePos = parts.flatten.drop s.win.base ∧
    s.win.base % 16 = 0 := by
  intro s
  have h := run_invariants P hP O parts
  exact ⟨h.win.fed_len.symm, h.win.content, h.win.base_al⟩

theorem trace_views_good (P : Params) (hP : P.WF) (O : Oracle) (parts : List (List Nat)) :
    ∀ v ∈ traceOf listBuf P O parts, GoodView P parts.flatten v := by
  obtain ⟨h4, -, -⟩ := run_sim P hP O parts
  intro v hv
  exact h4.good v (by simpa [traceOf] using hv)

theorem cap_covers_match_len (P : Params) (hP : P.WF) (d : Nat) (hd : d ≤ P.maxAhead) :
    P.matchLenMax ≤ P.keepAfter - d := by
  have := hP.ahead_le
  show P.matchLenMax ≤ P.extraAfter + P.matchLenMax - d
  omega

/-- **Look-ahead guarantee**, for every partition and every search.  At every `move_pos` of the run, at
    absolute position `p` inside a symbol starting at `e`:
    the bytes shown are the stream bytes `p .. p + avail`; `avail` is the smaller of ALL remaining stream
    bytes and `keep_size_after - (p - e) ≥ match_len_max`.  So either at least `match_len_max` bytes
    (`keep_size_after` at the start of a symbol) are there, or exactly all the remaining bytes are; and the
    look-back is the `min(p, dict_size)` stream bytes before `p`. -/
theorem lookahead_guarantee (P : Params) (hP : P.WF) (O : Oracle) (parts : List (List Nat)) (v : View)
    (hv : v ∈ traceOf listBuf P O parts) :
    v.symStart ≤ v.pos ∧ v.pos - v.symStart ≤ P.maxAhead ∧ v.pos < parts.flatten.length ∧
    v.avail = min (parts.flatten.length - v.pos) (P.keepAfter - (v.pos - v.symStart)) ∧
    P.matchLenMax ≤ P.keepAfter - (v.pos - v.symStart) ∧
    (P.matchLenMax ≤ v.avail ∨ v.avail = parts.flatten.length - v.pos) ∧
    (v.pos = v.symStart → P.keepAfter ≤ v.avail ∨ v.avail = parts.flatten.length - v.pos) ∧
    v.ahead = (parts.flatten.drop v.pos).take v.avail ∧
    v.back = (parts.flatten.drop (v.pos - min v.pos P.dictSize)).take (min v.pos P.dictSize) ∧
    v.matchLimit = (if P.reqFinish ≤ parts.flatten.length - v.pos then min (parts.flatten.length - v.pos) P.matchLenMax else 0) := by
  obtain ⟨h1, h2, h3, h4⟩ := trace_views_good P hP O parts v hv
  have hc := cap_covers_match_len P hP _ h3
  have ha : v.avail = min (parts.flatten.length - v.pos) (P.keepAfter - (v.pos - v.symStart)) := by
    rw [h1]; rfl
  refine ⟨h2, h3, h4, ha, hc, by omega, by intro _; omega, ?_, ?_, ?_⟩
  · rw [ha, h1]; rfl
  · rw [h1]; rfl
  · rw [h1]; rfl

/-- every `min(get_avail(), x)` with `x` up to the cap is determined by the view -/
theorem getAvail_observable {β : Type} (B : BufOps β) (P : Params) (hcap : P.capViews = true) (w : Win β) (e ret x : Nat)
    (h0 : 0 ≤ w.readPos) (hx : x ≤ P.keepAfter - (w.base + w.readPos.toNat - e)) :
    min (getAvail w) x = min (mkView B P w e ret).avail x := by
  obtain ⟨r, hr⟩ := Int.eq_ofNat_of_zero_le h0
  rw [hr, Int.toNat_natCast] at hx
  unfold getAvail mkView
  simp only [hcap, if_true, hr, Int.toNat_natCast]
  generalize P.keepAfter - (w.base + r - e) = K at hx ⊢
  omega

theorem movePos_ret {β : Type} (P : Params) (w : Win β) :
    (movePos P w).2 = 0 ∨ (movePos P w).2 = getAvail (movePos P w).1 := by
  obtain ⟨h1, h2⟩ := movePos_spec P w
  rw [h1, h2]
  unfold getAvail
  split
  · exact Or.inl rfl
  · right; rfl

/-- `EXTRA_SIZE_AFTER` covers the read-ahead of the search, and `keep_size_after` covers every cap the
    parsers put on `get_avail()`: fast `MATCH_LEN_MAX - 1 ≤ EXTRA_SIZE_AFTER`, normal `OPTS - 2 ≤
    EXTRA_SIZE_AFTER`, `max(MATCH_LEN_MAX, OPTS - 1) ≤ EXTRA_SIZE_AFTER + MATCH_LEN_MAX`.
    Reducing either `EXTRA_SIZE_AFTER` by `MATCH_LEN_MAX` makes this false. -/
theorem extra_after_covers_search (m : Mode) :
    m.maxAhead ≤ m.extraAfter ∧ m.availCap ≤ m.extraAfter + Consts.MATCH_LEN_MAX := by
  cases m <;> decide

theorem fast_extra_after_tight : Mode.extraAfter .fast = Mode.maxAhead .fast := by decide

theorem normal_extra_after_slack : Mode.extraAfter .normal = Mode.maxAhead .normal + 2 := by decide

/-- `EXTRA_SIZE_BEFORE` covers how far the match finder is ahead of the coder BETWEEN two symbols (fast: at
    most 0 – one look-ahead `find_matches` followed by a literal; normal: at most `OPTS - 2` pending optimum
    entries), so `get_byte_backward(dist + 1 + read_ahead)` with `dist + 1 ≤ dict_size` stays inside
    `keep_size_before` -/
theorem extra_before_covers_read_ahead :
    0 + 1 ≤ Mode.extraBefore .fast ∧ (Consts.NORMAL_OPTS - 2) + 1 ≤ Mode.extraBefore .normal := by decide

/-- the parameters `LZMAEncoder::new` builds from valid options satisfy every side condition of the
    theorems, for both modes, both match finders, LZMA and LZMA2 -/
theorem mkParams_WF (dict nice : Nat) (mode : Mode) (mf : MF) (lzma2 : Bool)
    (hd : Consts.DICT_SIZE_MIN ≤ dict) (hn1 : 4 ≤ nice) (hn2 : nice ≤ Consts.MATCH_LEN_MAX) :
    (mkParams dict nice mode mf lzma2).WF := by
  have h1 := (extra_after_covers_search mode).1
  have hD : Consts.DICT_SIZE_MIN = 4096 := rfl
  have hM : Consts.MATCH_LEN_MAX = 273 := rfl
  have hmax : mode.maxAhead ≤ 4096 := by cases mode <;> decide
  constructor
  · show 1 ≤ Consts.MATCH_LEN_MAX
    omega
  · show (match mf with | .hc4 => 4 | .bt4 => nice) ≤ Consts.MATCH_LEN_MAX
    cases mf <;> simp only <;> omega
  · show 4 ≤ (match mf with | .hc4 => 4 | .bt4 => nice)
    cases mf <;> simp only <;> omega
  · exact h1
  · show mode.maxAhead ≤ max (if lzma2 then lzma2ExtraBefore dict else 0) mode.extraBefore + dict
    omega
  · show 1 ≤ max (if lzma2 then lzma2ExtraBefore dict else 0) mode.extraBefore + dict
    omega
  · rfl

/-- with the largest dictionary the encoder accepts (768 MiB, `LZMAOptions::DICT_SIZE_MAX_ENCODER`) the
    buffer size and hence every window position fits `i32` -/
theorem bufSize_fits_i32 (dict nice : Nat) (mode : Mode) (mf : MF) (lzma2 : Bool) (hd : dict ≤ 768 * 1024 * 1024) :
    (mkParams dict nice mode mf lzma2).bufSize < 2 ^ 31 := by
  have h1 : mode.extraBefore ≤ 4096 := by cases mode <;> decide
  have h2 : mode.extraAfter ≤ 4096 := by cases mode <;> decide
  have hM : Consts.MATCH_LEN_MAX = 273 := rfl
  show max (if lzma2 then lzma2ExtraBefore dict else 0) mode.extraBefore + dict +
      (mode.extraAfter + Consts.MATCH_LEN_MAX) + min (dict / 2 + 256 * 1024) (512 * 1024 * 1024) < 2 ^ 31
  have h3 : (if lzma2 then lzma2ExtraBefore dict else 0) ≤ 65536 := by
    unfold lzma2ExtraBefore; split <;> omega
  omega

theorem view_independence_real (dict nice : Nat) (mode : Mode) (mf : MF) (lzma2 : Bool)
    (hd : Consts.DICT_SIZE_MIN ≤ dict) (hn1 : 4 ≤ nice) (hn2 : nice ≤ Consts.MATCH_LEN_MAX)
    (O : Oracle) (parts₁ parts₂ : List (List Nat)) (h : parts₁.flatten = parts₂.flatten) :
    traceOf listBuf (mkParams dict nice mode mf lzma2) O parts₁ = traceOf listBuf (mkParams dict nice mode mf lzma2) O parts₂ :=
  view_independence _ (mkParams_WF dict nice mode mf lzma2 hd hn1 hn2) O parts₁ parts₂ h

theorem processPending_WPos (P : Params) (s : St (List Nat)) (fed : List Nat) (h : WPos P s.win fed) :
    WPos P (processPending listBuf P s).win fed := by
  unfold processPending
  simp only []
  split
  · obtain ⟨f, b, _, _⟩ := advance_frame listBuf P (s.win.base + s.encPos.toNat) s.win.pendingSize
      { s with win := { s.win with readPos := s.win.readPos - s.win.pendingSize, pendingSize := 0 } }
    exact h.congr f.buf f.wp (b.trans (Int.sub_add_cancel _ _)) f.base
  · exact h

/-- `set_flushing` (LZMA2 `flush`, not used by `writeAll`) keeps all positional and content invariants -/
theorem setFlushing_WPos (P : Params) (s : St (List Nat)) (fed : List Nat) (h : WPos P s.win fed) :
    WPos P (setFlushing listBuf P s).win fed :=
  processPending_WPos P { s with win := { s.win with readLimit := (s.win.writePos : Int) - 1 } } fed
    (h.congr rfl rfl rfl rfl)

theorem setFinishing_WPos (P : Params) (s : St (List Nat)) (fed : List Nat) (h : WPos P s.win fed) :
    WPos P (setFinishing listBuf P s).win fed :=
  processPending_WPos P { s with win := { s.win with readLimit := (s.win.writePos : Int) - 1, finishing := true } } fed
    (h.congr rfl rfl rfl rfl)

/-! ## Runs without contents

The driver and the witnesses below run the window with `noBuf` (positions only).  For a search that does not look at
the contents such a run is the run with contents with the contents erased, so what is proved about `listBuf` runs
holds for them. -/

def View.erase (v : View) : View := { v with ahead := [], back := [] }

def Win.erase {β : Type} (w : Win β) : Win Unit :=
  { buf := (), readPos := w.readPos, readLimit := w.readLimit, writePos := w.writePos, pendingSize := w.pendingSize,
    finishing := w.finishing, base := w.base }

def St.erase {β : Type} (s : St β) : St Unit :=
  { win := s.win.erase, readAhead := s.readAhead, trace := s.trace.map View.erase, stuck := s.stuck, low := s.low }

section
variable {β : Type} (B : BufOps β) (P : Params)

theorem movePos_erase (w : Win β) : movePos P w.erase = ((movePos P w).1.erase, (movePos P w).2) :=
  Prod.ext ((movePos_spec P w.erase).1.trans (congrArg Win.erase (movePos_spec P w).1).symm)
    ((movePos_spec P w.erase).2.trans (movePos_spec P w).2.symm)

theorem mfStep_erase (e : Nat) (s : St β) : mfStep noBuf P e s.erase = (mfStep B P e s).erase := by
  unfold mfStep
  simp only [St.erase, movePos_erase]
  rfl

theorem advance_erase (e : Nat) : ∀ (k : Nat) (s : St β), advance noBuf P e k s.erase = (advance B P e k s).erase
  | 0, _ => rfl
  | k + 1, s => by
    show advance noBuf P e k (mfStep noBuf P e s.erase) = _
    rw [mfStep_erase B, advance_erase e k]
    rfl

theorem processPending_erase (s : St β) : processPending noBuf P s.erase = (processPending B P s).erase := by
  unfold processPending
  by_cases h : 0 < s.win.pendingSize ∧ s.win.readPos < s.win.readLimit
  · exact (if_pos h).trans ((advance_erase B P _ _
      { s with win := { s.win with readPos := s.win.readPos - s.win.pendingSize, pendingSize := 0 } }).trans
        (congrArg St.erase (if_pos h)).symm)
  · exact (if_neg h).trans (congrArg St.erase (if_neg h)).symm


theorem fillCore_erase (w : Win β) (input : List Nat) :
    fillCore noBuf P w.erase input = ((fillCore B P w input).1.erase, (fillCore B P w input).2) := by
  have h : preMove noBuf P w.erase = (preMove B P w).erase := by
    show (if w.readPos ≥ (P.bufSize : Int) - (P.keepAfter : Int) then moveWindow noBuf P w.erase else w.erase) = _
    unfold preMove
    rw [apply_ite Win.erase]
    rfl
  show fillIn noBuf P (preMove noBuf P w.erase) input = _
  rw [h]
  rfl

theorem fillWindow_erase (s : St β) (input : List Nat) :
    fillWindow noBuf P s.erase input = ((fillWindow B P s input).1.erase, (fillWindow B P s input).2) := by
  show (processPending noBuf P { s.erase with win := (fillCore noBuf P s.win.erase input).1 },
    (fillCore noBuf P s.win.erase input).2) = _
  rw [fillCore_erase B]
  exact Prod.ext (processPending_erase B P { s with win := (fillCore B P s.win input).1 }) rfl

theorem setFinishing_erase (s : St β) : setFinishing noBuf P s.erase = (setFinishing B P s).erase :=
  processPending_erase B P { s with win := { s.win with readLimit := (s.win.writePos : Int) - 1, finishing := true } }

variable (O : Oracle) (hO : ∀ tr : List View, O (tr.map View.erase) = O tr)
include hO

theorem symbolStep_erase (s : St β) :
    symbolStep noBuf P O s.erase = ((symbolStep B P O s).1.erase, (symbolStep B P O s).2) := by
  unfold symbolStep
  simp only []
  have h : (if s.erase.win.readPos = -1 then ((1 : Nat), (1 : Nat), false) else O s.erase.trace) =
      if s.win.readPos = -1 then (1, 1, false) else O s.trace := congrArg _ (hO s.trace)
  rw [h, advance_erase B]
  rfl

theorem encodeLoop_erase (honor : Bool) : ∀ (f : Nat) (s : St β),
    encodeLoop noBuf P O honor f s.erase = ((encodeLoop B P O honor f s).1.erase, (encodeLoop B P O honor f s).2)
  | 0, _ => rfl
  | f + 1, s => by
    rw [encodeLoop_succ, encodeLoop_succ, symbolStep_erase B P O hO, encodeLoop_erase honor f]
    show (if hasEnoughData s.win (s.readAhead + 1) = true then _ else _) = _
    split
    · split <;> rfl
    · rfl

theorem writeLoop_erase : ∀ (f : Nat) (s : St β) (rest : List Nat),
    writeLoop noBuf P O f s.erase rest = (writeLoop B P O f s rest).erase
  | 0, s, rest => by
    show (if rest.isEmpty then s.erase else _) = (if rest.isEmpty then s else _).erase
    rw [apply_ite St.erase]
    rfl
  | f + 1, s, rest => by
    rw [writeLoop_succ, writeLoop_succ, fillWindow_erase B, apply_ite St.erase]
    show (if rest.isEmpty = true then _ else
      writeLoop noBuf P O f (encodeLoop noBuf P O P.lzma2 ((fillWindow B P s rest).1.unenc + 1) (fillWindow B P s rest).1.erase).1 _) = _
    rw [encodeLoop_erase B P O hO, writeLoop_erase f]

theorem writeAll_erase : ∀ (parts : List (List Nat)) (s : St β),
    writeAll noBuf P O s.erase parts = (writeAll B P O s parts).erase
  | [], _ => rfl
  | p :: ps, s => (congrArg (fun a => writeAll noBuf P O a ps) (writeLoop_erase B P O hO _ s p)).trans
      (writeAll_erase ps _)

theorem finish_erase (s : St β) : finish noBuf P O s.erase = (finish B P O s).erase := by
  show (encodeLoop noBuf P O false ((setFinishing noBuf P s.erase).unenc + 1) (setFinishing noBuf P s.erase)).1 = _
  rw [setFinishing_erase B, encodeLoop_erase B P O hO]
  rfl

theorem traceOf_noBuf (parts : List (List Nat)) :
    traceOf noBuf P O parts = (traceOf listBuf P O parts).map View.erase := by
  have h : run noBuf P O parts = (run listBuf P O parts).erase :=
    (congrArg (finish noBuf P O) (writeAll_erase listBuf P O hO parts (St.init listBuf P))).trans
      (finish_erase listBuf P O hO _)
  unfold traceOf
  rw [h]
  exact List.map_reverse.symm

end

section
variable {β : Type} (B : BufOps β) (P : Params) (O : Oracle)

theorem advance_trace (e : Nat) : ∀ (k : Nat) (s : St β), s.trace <:+ (advance B P e k s).trace
  | 0, _ => List.suffix_refl _
  | k + 1, s => (List.suffix_cons _ _).trans (advance_trace e k (mfStep B P e s))

theorem processPending_trace (s : St β) : s.trace <:+ (processPending B P s).trace := by
  unfold processPending
  dsimp only
  split
  · exact advance_trace B P _ _ { s with win := { s.win with readPos := s.win.readPos - s.win.pendingSize, pendingSize := 0 } }
  · exact List.suffix_refl _

theorem symbolStep_trace (s : St β) : s.trace <:+ (symbolStep B P O s).1.trace :=
  advance_trace B P _ _ s

theorem encodeLoop_trace (honor : Bool) (f : Nat) (s : St β) : s.trace <:+ (encodeLoop B P O honor f s).1.trace := by
  fun_induction encodeLoop B P O honor f s with
  | case1 | case4 => exact List.suffix_refl _
  | case2 f s => exact symbolStep_trace B P O s
  | case3 f s he r hstop ih => exact (symbolStep_trace B P O s).trans ih

theorem writeLoop_trace (f : Nat) (s : St β) (rest : List Nat) : s.trace <:+ (writeLoop B P O f s rest).trace := by
  fun_induction writeLoop B P O f s rest with
  | case1 | case2 | case3 => exact List.suffix_refl _
  | case4 f s rest hr r s2 ih =>
    exact ((processPending_trace B P { s with win := (fillCore B P s.win rest).1 }).trans
      (encodeLoop_trace B P O _ _ _)).trans ih

theorem writeAll_trace : ∀ (parts : List (List Nat)) (s : St β), s.trace <:+ (writeAll B P O s parts).trace
  | [], _ => List.suffix_refl _
  | p :: ps, s => (writeLoop_trace B P O _ s p).trans (writeAll_trace ps _)

theorem finish_trace (s : St β) : s.trace <:+ (finish B P O s).trace :=
  (processPending_trace B P { s with win := { s.win with readLimit := (s.win.writePos : Int) - 1, finishing := true } }).trans
    (encodeLoop_trace B P O _ _ _)

/-- The first view of a run is the one of its first symbol: after the first `fill_window` a symbol can be coded, it
    shows the search one view, and views are only ever added. -/
theorem traceOf_head (p : List Nat) (ps : List (List Nat)) (v : View) (hne : p.isEmpty = false)
    (he : hasEnoughData (fillWindow B P (St.init B P) p).1.win ((fillWindow B P (St.init B P) p).1.readAhead + 1) = true)
    (hv : (symbolStep B P O (fillWindow B P (St.init B P) p).1).1.trace = [v]) :
    (traceOf B P O (p :: ps))[0]? = some v := by
  have h : [v] <:+ (run B P O (p :: ps)).trace := by
    refine List.IsSuffix.trans ?_ ((writeAll_trace B P O ps _).trans (finish_trace B P O _))
    show _ <:+ (writeLoop B P O (2 * p.length + (St.init B P).unenc + 1) (St.init B P) p).trace
    rw [← hv, writeLoop_succ, if_neg (by simp [hne]), encodeLoop_succ, if_pos he]
    split
    · exact writeLoop_trace B P O _ _ _
    · exact (encodeLoop_trace B P O _ _ _).trans (writeLoop_trace B P O _ _ _)
  obtain ⟨l, hl⟩ := h
  unfold traceOf
  rw [← hl, List.reverse_append]
  rfl

end

/-- the seeded change: `FastEncoderMode::EXTRA_SIZE_AFTER` reduced by `MATCH_LEN_MAX` (all other parameters as
    built by `LZMAEncoder::new` for dict 4096, nice_len 273, fast, HC4, LZMA) -/
def seededFast : Params :=
  { mkParams 4096 273 .fast .hc4 false with extraAfter := Consts.FAST_EXTRA_SIZE_AFTER - Consts.MATCH_LEN_MAX }

/-- a search that always takes the longest possible match -/
def greedyMax : Oracle := fun _ => (273, 273, false)

/-- the side condition of the theorems is exactly what the seeded change violates -/
example : ¬ seededFast.maxAhead ≤ seededFast.extraAfter := by decide

/-- With `EXTRA_SIZE_AFTER` reduced by `MATCH_LEN_MAX`, at the 274th `move_pos` of the same 546 bytes
    `match_len_limit` is 273 when written at once and 0 (pending) when the first `write` brought 274 bytes: the
    output would depend on the partition (C07/C13). -/
theorem small_extra_after_breaks_independence :
    ((traceOf noBuf seededFast greedyMax (cyclicParts 0 [546])).map (·.matchLimit))[273]? = some 273 ∧
    ((traceOf noBuf seededFast greedyMax (cyclicParts 0 [274, 272])).map (·.matchLimit))[273]? = some 0 := by
  decide +kernel

theorem cyclicParts_flatten : ∀ (ns : List Nat) (s : Nat), (cyclicParts s ns).flatten = cyclicBytes s ns.sum
  | [], _ => rfl
  | n :: ns, s => by
    rw [cyclicParts, List.flatten_cons, cyclicParts_flatten ns, List.sum_cons, cyclicBytes, cyclicBytes, cyclicBytes,
      List.range_add, List.map_append, List.map_map]
    simp only [Function.comp_def, Nat.add_assoc]

/-- the same run with the real constant: identical views, by `view_independence` -/
example : traceOf noBuf (mkParams 4096 273 .fast .hc4 false) greedyMax (cyclicParts 0 [546]) =
    traceOf noBuf (mkParams 4096 273 .fast .hc4 false) greedyMax (cyclicParts 0 [274, 272]) := by
  rw [traceOf_noBuf _ _ (fun _ => rfl), traceOf_noBuf _ _ (fun _ => rfl),
    view_independence_real 4096 273 .fast .hc4 false (by decide) (by decide) (by decide) greedyMax
      (cyclicParts 0 [546]) (cyclicParts 0 [274, 272]) (by rw [cyclicParts_flatten, cyclicParts_flatten]; rfl)]

/-- The RAW `get_avail()` (views not capped) depends on the partition even with the real constants: at the
    very first `move_pos` it is 1000 resp. 600.  It is harmless because the code only ever uses
    `min(get_avail(), x)` with `x ≤ keep_size_after - (pos - symStart)` (`getAvail_observable`). -/
theorem raw_avail_depends_on_partition :
    ((traceOf noBuf { mkParams 4096 273 .fast .hc4 false with capViews := false } greedyMax (cyclicParts 0 [1000])).map (·.avail))[0]? = some 1000 ∧
    ((traceOf noBuf { mkParams 4096 273 .fast .hc4 false with capViews := false } greedyMax (cyclicParts 0 [600, 400])).map (·.avail))[0]? = some 600 := by
  rw [List.getElem?_map, List.getElem?_map]
  exact ⟨congrArg _ (traceOf_head noBuf _ greedyMax (cyclicBytes 0 1000) []
      { pos := 0, symStart := 0, avail := 1000, mfOk := true, matchLimit := 273, ahead := [], back := [] }
      (by decide +kernel) (by decide +kernel) (by decide +kernel)),
    congrArg _ (traceOf_head noBuf _ greedyMax (cyclicBytes 0 600) [cyclicBytes 600 400]
      { pos := 0, symStart := 0, avail := 600, mfOk := true, matchLimit := 273, ahead := [], back := [] }
      (by decide +kernel) (by decide +kernel) (by decide +kernel))⟩

/-- the side conditions hold for the default options (preset 6: 8 MiB, nice_len 64, normal, BT4; LZMA2) … -/
example : (mkParams (8 * 1024 * 1024) 64 .normal .bt4 true).WF :=
  mkParams_WF _ _ _ _ _ (by decide) (by decide) (by decide)

/-- … and for preset 0 (256 KiB, nice_len 128, fast, HC4; LZMA) -/
example : (mkParams (256 * 1024) 128 .fast .hc4 false).WF :=
  mkParams_WF _ _ _ _ _ (by decide) (by decide) (by decide)

/-- small parameters for examples with contents -/
def tiny : Params :=
  { dictSize := 8, extraBefore := 1, extraAfter := 3, matchLenMax := 4, niceLen := 4, reqFlush := 4, reqFinish := 2,
    maxAhead := 3, lzma2 := true }

theorem tiny_WF : tiny.WF := by
  constructor <;> decide

/-- `view_independence` / `trace_eq_ref` are not vacuous: a run with multi-byte symbols and read-ahead whose views
    carry contents (the two examples after this one evaluate such traces) -/
example : traceOf listBuf tiny (policyOracle 3) [[5, 6, 7], [], [8, 9, 10, 11, 12]] =
    traceOf listBuf tiny (policyOracle 3) [[5, 6, 7, 8, 9, 10, 11, 12]] :=
  view_independence tiny tiny_WF _ _ _ (by decide)

example : (traceOf listBuf tiny (policyOracle 3) [[5, 6, 7], [], [8, 9, 10, 11, 12]]).take 3 =
    [{ pos := 0, symStart := 0, avail := 7, mfOk := true, matchLimit := 4, ahead := [5, 6, 7, 8, 9, 10, 11], back := [] },
     { pos := 1, symStart := 1, avail := 7, mfOk := true, matchLimit := 4, ahead := [6, 7, 8, 9, 10, 11, 12], back := [5] },
     { pos := 2, symStart := 1, avail := 6, mfOk := true, matchLimit := 4, ahead := [7, 8, 9, 10, 11, 12], back := [5, 6] }] := by
  decide +kernel

example : refTrace tiny (policyOracle 3) [5, 6, 7, 8, 9, 10, 11, 12] =
    traceOf listBuf tiny (policyOracle 3) [[5], [6, 7, 8, 9], [10, 11, 12]] := by
  decide +kernel

/-- `lookahead_guarantee` on a concrete view: the last byte is shown with exactly the one remaining byte and
    is left pending by `move_pos` (`reqFinish = 2`) -/
example : (traceOf listBuf tiny (policyOracle 3) [[5, 6, 7], [8, 9, 10, 11, 12]]).getLast? =
    some { pos := 7, symStart := 4, avail := 1, mfOk := false, matchLimit := 0, ahead := [12], back := [5, 6, 7, 8, 9, 10, 11] } := by
  decide +kernel

/-- `moveWindow_spec` is not vacuous: a full window that satisfies the invariants and the move condition of
    `fill_window`; it moves by 262144 bytes -/
example : ∃ (w : Win (List Nat)) (fed : List Nat), WPos tiny w fed ∧
    (tiny.bufSize : Int) - (tiny.keepAfter : Int) ≤ w.readPos ∧ moveOffset tiny w = 262144 := by
  have hb : tiny.bufSize = 262164 := by decide
  exact ⟨{ buf := List.replicate 262164 0, readPos := 262157, readLimit := 262157, writePos := 262164 },
    List.replicate 262164 0,
    ⟨List.length_replicate.trans hb.symm, Nat.le_of_eq hb.symm, by decide, by decide,
      List.take_of_length_le (Nat.le_of_eq List.length_replicate), List.length_replicate.trans (Nat.zero_add _).symm,
      Or.inl rfl, rfl⟩,
    by decide, by decide⟩

/-- the hypothesis `has_enough_data(0)` of `symbol_lookahead` holds of the initial state after one `fill_window`
    of 8 bytes -/
example : hasEnoughData (fillWindow listBuf tiny (St.init listBuf tiny) [1, 2, 3, 4, 5, 6, 7, 8]).1.win 0 = true := by
  decide +kernel

#print axioms trace_eq_ref
#print axioms view_independence
#print axioms view_independence_real
#print axioms lookahead_guarantee
#print axioms symbol_lookahead
#print axioms run_invariants
#print axioms run_never_stuck
#print axioms moveWindow_spec
#print axioms fillCore_spec
#print axioms setFlushing_WPos
#print axioms moveOffset_mod16
#print axioms getAvail_observable
#print axioms extra_after_covers_search
#print axioms mkParams_WF
#print axioms bufSize_fits_i32
#print axioms small_extra_after_breaks_independence
#print axioms raw_avail_depends_on_partition

end LzmaVerif.EncWindow
