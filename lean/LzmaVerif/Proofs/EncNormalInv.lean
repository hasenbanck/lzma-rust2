/-
  Normal encoder: one entry of `opts[]`.  The candidate stored at index `i` denotes one to three symbols from an earlier
  entry (`CandOk`); `FromCur` is the same as a property of the entry a site writes, whatever array it ends up in.
-/
import LzmaVerif.Proofs.EncNormalCand

namespace LzmaVerif.EncNormal
open LzmaVerif Mf Lzma Rc EncFast EncPrices
open LzmaVerif.Mf.Hc4 (Eqs)

theorem oat_modify_ne (opts : Opts) (i j : Nat) (f : Opt → Opt) (h : i ≠ j) : oat (opts.modify i f) j = oat opts j := by
  unfold oat
  rw [Array.getD_eq_getD_getElem?, Array.getD_eq_getD_getElem?, Array.getElem?_modify, if_neg h]

theorem oat_modify (opts : Opts) (i j : Nat) (f : Opt → Opt) (hi : i < opts.size) :
    oat (opts.modify i f) j = if i = j then f (oat opts j) else oat opts j := by
  by_cases h : i = j
  · subst h
    rw [if_pos rfl]
    exact oat_modify_self opts i f hi
  · rw [if_neg h]
    exact oat_modify_ne opts i j f h

/-- without a range hypothesis: out of range `modify` does nothing -/
theorem oat_modify_any (opts : Opts) (i j : Nat) (f : Opt → Opt) :
    oat (opts.modify i f) j = oat opts j ∨ (i = j ∧ oat (opts.modify i f) j = f (oat opts j)) := by
  by_cases h : i = j
  · subst h
    by_cases hi : i < opts.size
    · exact Or.inr ⟨rfl, oat_modify_self opts i f hi⟩
    · left
      unfold oat
      rw [Array.getD_eq_getD_getElem?, Array.getD_eq_getD_getElem?, Array.getElem?_modify, if_pos rfl,
        Array.getElem?_eq_none (Nat.le_of_not_lt hi)]
      rfl
  · exact Or.inl (oat_modify_ne opts i j f h)

theorem resetFrom_size (P : NormalParams) : ∀ (n e : Nat) (o : Opts), (resetFrom P n e o).size = o.size
  | 0, _, _ => rfl
  | n + 1, e, o => by rw [resetFrom, resetFrom_size P n, Array.size_modify]

theorem oat_resetFrom (P : NormalParams) :
    ∀ (n e : Nat) (o : Opts) (j : Nat), e + n < o.size →
      oat (resetFrom P n e o) j = if e < j ∧ j ≤ e + n then (oat o j).reset P else oat o j
  | 0, e, o, j, _ => by
    rw [resetFrom, if_neg (by omega)]
  | n + 1, e, o, j, h => by
    rw [resetFrom, oat_resetFrom P n (e + 1) _ j (by rw [Array.size_modify]; omega),
      oat_modify o (e + 1) j _ (by omega)]
    by_cases h1 : e + 1 = j
    · subst h1
      rw [if_neg (by omega), if_pos rfl, if_pos (by omega)]
    · rw [if_neg h1]
      by_cases h2 : e + 1 < j ∧ j ≤ e + 1 + n
      · rw [if_pos h2, if_pos (by omega)]
      · rw [if_neg h2, if_neg (by omega)]

theorem chainLen_append : ∀ (l1 l2 : List (Sym × Nat)), chainLen (l1 ++ l2) = chainLen l1 + chainLen l2
  | [], l2 => by simp only [List.nil_append, chainLen, Nat.zero_add]
  | (s, len) :: l1, l2 => by
    simp only [List.cons_append, chainLen, chainLen_append l1 l2, Nat.add_assoc]

theorem applyAll_append : ∀ (l1 l2 : List (Sym × Nat)) (c : Coder), applyAll c (l1 ++ l2) = applyAll (applyAll c l1) l2
  | [], l2, c => rfl
  | (s, len) :: l1, l2, c => by simp only [List.cons_append, applyAll, applyAll_append l1 l2]

theorem chainOk_append (d : Array UInt8) (dict : Nat) :
    ∀ (l1 l2 : List (Sym × Nat)) (q : Nat) (c : Coder),
      ChainOk d dict l1 q c → ChainOk d dict l2 (q + chainLen l1) (applyAll c l1) → ChainOk d dict (l1 ++ l2) q c
  | [], l2, q, c, _, h2 => by simpa only [List.nil_append, chainLen, Nat.add_zero, applyAll] using h2
  | (s, len) :: l1, l2, q, c, h1, h2 => by
    obtain ⟨a1, a2, a3, a4⟩ := h1
    refine ⟨a1, a2, a3, chainOk_append d dict l1 l2 (q + len) (c.apply s) a4 ?_⟩
    simpa only [chainLen, Nat.add_assoc, applyAll] using h2

/-- the shape every candidate written by `set1` / `set2` / `set3` has (what `update_opt_state_and_reps` and
    `convert_opts` rely on) -/
def Shape (o : Opt) (i : Nat) : Prop :=
  if o.prev1IsLiteral then
    o.backPrev = 0 ∧ 1 ≤ o.optPrev ∧ o.optPrev + 2 ≤ i ∧
      (o.hasPrev2 = true → 0 ≤ o.backPrev2 ∧ o.optPrev2 + 3 ≤ o.optPrev)
  else
    o.optPrev < i ∧ ((i - o.optPrev = 1 ∧ (o.backPrev = -1 ∨ o.backPrev = 0)) ∨ (2 ≤ i - o.optPrev ∧ 0 ≤ o.backPrev))

/-- about `opts[i]`; `Mf.CandOk` (`Proofs/MfCands.lean`) is about an entry of a match finder's hash table -/
def CandOk (P : NormalParams) (d : Array UInt8) (dict p : Nat) (opts : Opts) (cur i : Nat) : Prop :=
  Shape (oat opts i) i ∧ (groupOf P d p (oat opts i) i).1 ≤ cur ∧ (groupOf P d p (oat opts i) i).1 < i ∧
    ChainOk d dict (groupOf P d p (oat opts i) i).2 (p + (groupOf P d p (oat opts i) i).1)
      (oat opts (groupOf P d p (oat opts i) i).1).c ∧
    chainLen (groupOf P d p (oat opts i) i).2 = i - (groupOf P d p (oat opts i) i).1

theorem CandOk.congr {P : NormalParams} {d : Array UInt8} {dict p : Nat} {o o' : Opts} {cur i : Nat}
    (h : CandOk P d dict p o cur i) (hi : oat o' i = oat o i) (hj : ∀ j, j ≤ cur → oat o' j = oat o j) :
    CandOk P d dict p o' cur i := by
  unfold CandOk at h ⊢
  rw [hi, hj _ h.2.1]
  exact h

theorem CandOk.mono {P : NormalParams} {d : Array UInt8} {dict p : Nat} {o : Opts} {cur cur' i : Nat}
    (h : CandOk P d dict p o cur i) (hc : cur ≤ cur') : CandOk P d dict p o cur' i :=
  ⟨h.1, Nat.le_trans h.2.1 hc, h.2.2⟩

/-- what a site shows of the entry `o` it writes at `t`; it does not depend on the array `o` ends up in -/
def FromCur (P : NormalParams) (d : Array UInt8) (dict p cur : Nat) (cc : Coder) (o : Opt) (t : Nat) : Prop :=
  Shape o t ∧ (groupOf P d p o t).1 = cur ∧ cur < t ∧
    ChainOk d dict (groupOf P d p o t).2 (p + cur) cc ∧ chainLen (groupOf P d p o t).2 = t - cur

section
variable {P : NormalParams} {d : Array UInt8} {dict p cur : Nat} {cc : Coder}

theorem FromCur.candOk {o : Opts} {t : Nat} (h : FromCur P d dict p cur (oat o cur).c (oat o t) t) :
    CandOk P d dict p o cur t := by
  obtain ⟨h1, h2, h3, h4, h5⟩ := h
  unfold CandOk
  rw [h2]
  exact ⟨h1, Nat.le_refl _, h3, h4, h5⟩

/-- stated on the fields, not on `old.set1 …`: `opts[1]` of the first part is known by its fields only (`Cand1`) -/
theorem fromCur_set1 {o : Opt} {len : Nat} (hlit : o.prev1IsLiteral = false) (hprev : o.optPrev = cur)
    (hok : OneOk P d dict (p + cur) cc o.backPrev len) : FromCur P d dict p cur cc o (cur + len) := by
  obtain ⟨hshape, hch⟩ := hok
  have h1 : 1 ≤ len := hch.1
  have hg : groupOf P d p o (cur + len) = (cur, [(symOf P d (p + cur) o.backPrev len, len)]) := by
    simp only [groupOf, hlit, hprev, Bool.false_eq_true, if_false, Nat.add_sub_cancel_left]
  unfold FromCur
  rw [hg]
  refine ⟨?_, rfl, by omega, hch, by simp only [chainLen, Nat.add_zero, Nat.add_sub_cancel_left]⟩
  simp only [Shape, hlit, hprev, Bool.false_eq_true, if_false, Nat.add_sub_cancel_left]
  exact ⟨by omega, hshape⟩

theorem fromCur_set2 (hreps : P.reps = 4) (old : Opt) (price len : Nat) (h2 : 2 ≤ len)
    (hch : ChainOk d dict [(.lit (byteAt d (p + cur)), 1), (.rep 0 len, len)] (p + cur) cc) :
    FromCur P d dict p cur cc (old.set2 price cur 0) (cur + 1 + len) := by
  unfold FromCur
  rw [groupOf_set2, Nat.add_sub_cancel_left, symOf_rep0 P hreps d _ len h2]
  refine ⟨?_, rfl, by omega, hch, by simp only [chainLen, Nat.add_zero]; omega⟩
  simp only [Shape, Opt.set2, if_true]
  exact ⟨trivial, by omega, by omega, fun hf => by cases hf⟩

theorem fromCur_set3 (hreps : P.reps = 4) (old : Opt) (len len2 price : Nat) (back2 : Int) (hl : 2 ≤ len) (h2 : 2 ≤ len2)
    (hX : OneOk P d dict (p + cur) cc back2 len)
    (htail : ChainOk d dict [(.lit (byteAt d (p + cur + len)), 1), (.rep 0 len2, len2)] (p + cur + len)
      (cc.apply (symOf P d (p + cur) back2 len))) :
    FromCur P d dict p cur cc (old.set3 price cur back2 len 0) (cur + len + 1 + len2) := by
  obtain ⟨hshape, x1, x2, x3, _⟩ := hX
  unfold FromCur
  rw [groupOf_set3, Nat.add_sub_cancel_left, symOf_rep0 P hreps d _ len2 h2, ← Nat.add_assoc p cur len]
  refine ⟨?_, rfl, by omega, ⟨x1, x2, x3, htail⟩, by simp only [chainLen, Nat.add_zero]; omega⟩
  simp only [Shape, Opt.set3, if_true]
  exact ⟨trivial, by omega, by omega, fun _ => ⟨by omega, by omega⟩⟩

end

theorem repsAfter_rep (P : NormalParams) (hreps : P.reps = 4) (c : Coder) (rep len : Nat) (hr : rep ≤ 3) :
    repsAfter P c (rep : Int) (stLongRep c.state) = c.apply (.rep rep len) := by
  unfold repsAfter
  rw [hreps, if_pos (by omega)]
  simp only [Int.toNat_natCast]
  rcases rep with _ | _ | _ | _ | rep
  · rfl
  · rfl
  · rfl
  · rfl
  · omega

theorem repsAfter_mtch (P : NormalParams) (c : Coder) (dist len : Nat) :
    repsAfter P c ((dist : Int) + (P.reps : Int)) (stMatch c.state) = c.apply (.mtch dist len) := by
  unfold repsAfter
  rw [if_neg (by omega), Int.add_sub_cancel, Int.toNat_natCast]
  rfl

theorem repsAfter_with_state (P : NormalParams) (c : Coder) (back : Int) (s s' : Nat) :
    repsAfter P c back s' = { repsAfter P c back s with state := s' } := by
  unfold repsAfter
  split <;> rfl

theorem repsAfter_state (P : NormalParams) (c : Coder) (back : Int) (s : Nat) : (repsAfter P c back s).state = s := by
  unfold repsAfter
  split <;> rfl

theorem apply_lit_rep0 (x : Coder) (b len : Nat) :
    (x.apply (.lit b)).apply (.rep 0 len) = { x with state := stLongRep (stLiteral x.state) } := rfl

theorem repsAfter_symOf (P : NormalParams) (hreps : P.reps = 4) (d : Array UInt8) (q : Nat) (c : Coder) (back : Int)
    (len : Nat) (hb : 0 ≤ back) (hl : 2 ≤ len) :
    repsAfter P c back (if back < (P.reps : Int) then stLongRep c.state else stMatch c.state) =
      c.apply (symOf P d q back len) := by
  by_cases hb4 : back < (P.reps : Int)
  · rw [if_pos hb4]
    obtain ⟨rep, rfl⟩ : ∃ rep : Nat, back = rep := ⟨back.toNat, by omega⟩
    rw [hreps] at hb4
    rw [symOf_rep P hreps d q rep len (by omega) hl]
    exact repsAfter_rep P hreps c rep len (by omega)
  · rw [if_neg hb4]
    obtain ⟨dist, rfl⟩ : ∃ dist : Nat, back = (dist : Int) + (P.reps : Int) := ⟨(back - P.reps).toNat, by omega⟩
    rw [symOf_mtch P hreps]
    exact repsAfter_mtch P c dist len

theorem optStateAndReps_eq (P : NormalParams) (hreps : P.reps = 4) (d : Array UInt8) (dict p : Nat) (opts : Opts)
    (cur i : Nat) (h : CandOk P d dict p opts cur i) :
    optStateAndReps P opts i =
      applyAll (oat opts (groupOf P d p (oat opts i) i).1).c (groupOf P d p (oat opts i) i).2 := by
  have hsh := h.1
  unfold optStateAndReps
  generalize oat opts i = o at hsh ⊢
  unfold Shape at hsh
  unfold groupOf
  cases hp1 : o.prev1IsLiteral
  · simp only [hp1, Bool.false_eq_true, if_false, applyAll, false_and] at hsh ⊢
    obtain ⟨hlt, ⟨h1, hb⟩ | ⟨h2, hb⟩⟩ := hsh
    · rw [if_pos (by omega)]
      rcases hb with hb | hb
      · rw [hb, symOf_lit, if_neg (by decide)]
        rfl
      · rw [hb, h1, symOf_short P hreps, if_pos rfl]
        rfl
    · rw [if_neg (by omega)]
      exact repsAfter_symOf P hreps d _ _ _ _ hb h2
  · -- `set2` / `set3`: the last symbol is a rep0 after a literal
    simp only [hp1, if_true] at hsh ⊢
    obtain ⟨hb0, ho1, hoi, hh2⟩ := hsh
    have hsym0 : symOf P d (p + o.optPrev) o.backPrev (i - o.optPrev) = .rep 0 (i - o.optPrev) := by
      rw [hb0]
      exact symOf_rep P hreps d _ 0 _ (by omega) (by omega)
    cases hp2 : o.hasPrev2
    · simp only [Bool.false_eq_true, if_false, and_false, applyAll]
      rw [if_neg (by omega), hsym0, hb0, hreps, apply_lit_rep0, if_pos (by decide)]
      unfold repsAfter
      rw [hreps, if_pos (by decide)]
      rfl
    · obtain ⟨hb2, hlx⟩ := hh2 hp2
      simp only [if_true, and_self, applyAll]
      rw [if_neg (by omega), hsym0, apply_lit_rep0,
        ← repsAfter_symOf P hreps d (p + o.optPrev2) _ o.backPrev2 (o.optPrev - 1 - o.optPrev2) hb2 (by omega),
        repsAfter_state]
      exact repsAfter_with_state P _ _ _ _

end LzmaVerif.EncNormal
