/-
  (H3) soundness of `findMatches` (`findMatches_sound`; `find_sound` is in Hc4Sound.lean): every reported match is valid,
  lengths increase, the number of matches fits `Matches::new(nice_len - 1)`.  `findMatches` is the hash stage shared
  with BT4 (`Proofs/MfCands.lean`) followed by the chain walk (`findMatches_eq`).
-/
import LzmaVerif.Proofs.Hc4Inv
import LzmaVerif.Proofs.MfCands

namespace LzmaVerif.Mf.Hc4

theorem matchLenLimit_eq (c : Cfg) (a : Nat) : matchLenLimit c a = min c.mlmax a := by
  unfold matchLenLimit; split <;> omega

theorem niceLenLimit_le (c : Cfg) (a : Nat) : niceLenLimit c a ≤ c.niceLen := by
  unfold niceLenLimit; split
  · split <;> omega
  · exact Nat.le_refl _

/-- an entry is 0 or the `lz_pos` of a position before `p` (`cs = dict + 1`) -/
def EntryOk (dict p e : Nat) : Prop := e = 0 ∨ (dict + 2 ≤ e ∧ e ≤ dict + 1 + p)

theorem EntryOk.le {dict p e : Nat} (h : EntryOk dict p e) : e ≤ dict + 1 + p + 1 := by
  rcases h with h | h <;> omega

theorem EntryOk.cand {dict p e : Nat} (h : EntryOk dict p e) (d : Array UInt8) :
    CandOk d dict p 1 (dict + 1 + p + 1 - e) := by
  intro hlt
  have he : dict + 2 ≤ e ∧ e ≤ dict + 1 + p := by
    rcases h with h | h
    · omega
    · exact h
  refine ⟨by omega, by omega, fun hb i hi => ?_⟩
  obtain rfl : i = 0 := by omega
  exact hb.symm

variable (P : Hc4Params) (c : Cfg) (d : Array UInt8)

theorem stop_iff {P : Hc4Params} (hge : P.chainStopGe = true) (δ cs : Nat) :
    (if P.chainStopGe then decide (δ ≥ cs) else decide (δ > cs)) = true ↔ cs ≤ δ := by
  rw [hge, if_pos rfl, decide_eq_true_eq]

theorem chainLoop_valid (hP : P.ok) (chain : Array Nat)
    (dict p mll nll N : Nat) (cp : Int) (hsz : p + mll ≤ d.size) (hm1 : 1 ≤ mll)
    (hch : ∀ i, EntryOk dict p (chain.getD i 0)) (hn : nll ≤ N) (depth cur lb : Nat) (acc : List Match)
    (hcur : EntryOk dict p cur) (hlb : 1 ≤ lb) (hacc : AccOk d dict p mll lb acc) (h2 : acc.length + 2 ≤ N) :
    ∃ lb', AccOk d dict p mll lb'
        (chainLoop P d chain (dict + 1) cp (dict + 1 + p + 1) p mll nll depth cur lb acc) ∧
      (chainLoop P d chain (dict + 1) cp (dict + 1 + p + 1) p mll nll depth cur lb acc).length + 1 ≤ N := by
  have hge := hP.chainStopGe
  have hds : P.distSub = 1 := hP.distSub
  have push : ∀ {cur lb acc δ}, EntryOk dict p cur → 1 ≤ lb → AccOk d dict p mll lb acc →
      δ = dict + 1 + p + 1 - cur → ¬ dict + 1 ≤ δ → byteAt d (p - δ) = byteAt d p →
      lb < extendMatch d p δ mll 1 →
      AccOk d dict p mll (extendMatch d p δ mll 1) ((extendMatch d p δ mll 1, δ - P.distSub) :: acc) := by
    intro cur lb acc δ hcur hlb hacc hδ hstop hb hgt
    subst hδ
    rw [hds]
    exact hacc.push ((hcur.cand d).valid (Nat.lt_of_not_le hstop) hb hm1 hsz (Nat.lt_of_le_of_lt hlb hgt)
      (Nat.le_refl _)) hgt
  fun_induction chainLoop P d chain (dict + 1) cp (dict + 1 + p + 1) p mll nll depth cur lb acc with
  | case1 cur lb acc => exact ⟨lb, hacc, Nat.le_of_succ_le h2⟩
  | case2 depth cur lb acc δ hstop => exact ⟨lb, hacc, Nat.le_of_succ_le h2⟩
  | case3 depth cur lb acc δ hstop hb len hgt acc' hnice =>
    rw [stop_iff hge] at hstop
    exact ⟨len, push hcur hlb hacc rfl hstop hb.2 hgt, h2⟩
  | case4 depth cur lb acc δ hstop cur' hb len hgt acc' hnice ih =>
    rw [stop_iff hge] at hstop
    -- `acc.length < lb < len < nll ≤ N`
    have := hacc.length_le
    exact ih (hch _) (Nat.le_trans hlb (Nat.le_of_lt hgt)) (push hcur hlb hacc rfl hstop hb.2 hgt)
      (by show acc.length + 1 + 2 ≤ N; omega)
  | case5 depth cur lb acc δ hstop cur' hb len hgt ih => exact ih (hch _) hlb hacc h2
  | case6 depth cur lb acc δ hstop cur' hb ih => exact ih (hch _) hlb hacc h2

/-- `findMatches` after the hash2 / hash3 stage (`h` = its result) -/
def tail (chain : Array Nat) (cp : Int) (lz p avail cur : Nat) (h : List Match × Nat) : List Match :=
  if h.1 ≠ [] ∧ h.2 ≥ niceLenLimit c avail then h.1
  else (chainLoop P d chain (cyclicSize P c) cp lz p (matchLenLimit c avail) (niceLenLimit c avail)
      (depthOf P c) cur (if h.2 < P.lenBestFloor then P.lenBestFloor else h.2) h.1.reverse).reverse

theorem cmpLt_hit {b : Bool} (hb : b = true) (cs p δ : Nat) :
    (cmpLt b δ cs && (byteAt d (p - δ) == byteAt d p)) = decide (Hit d cs p δ) := by
  subst hb
  exact (Bool.decide_and (δ < cs) (byteAt d (p - δ) = byteAt d p)).symm

theorem findMatches_eq (hP : P.ok) (chain : Array Nat) (cp : Int) (lz p avail δ2 δ3 cur : Nat) :
    findMatches P c d chain cp lz p avail δ2 δ3 cur =
      tail P c d chain cp lz p avail cur (hashHits d (cyclicSize P c) p (matchLenLimit c avail) δ2 δ3) := by
  simp only [findMatches, tail, hashHits, Bool.and_assoc, cmpLt_hit d hP.1, cmpLt_hit d hP.2.1, hP.distSub]
  by_cases h2 : Hit d (cyclicSize P c) p δ2 <;> by_cases h3 : Hit d (cyclicSize P c) p δ3 <;>
    by_cases hne : δ2 = δ3 <;>
    simp [h2, h3, hne, setLastLen]

theorem tail_valid (hP : P.ok) (chain : Array Nat)
    (cp : Int) (p avail cur : Nat) (h : List Match × Nat)
    (hav : avail = d.size - p) (hm1 : 1 ≤ min c.mlmax (d.size - p))
    (hcur : EntryOk c.dict p cur) (hch : ∀ i, EntryOk c.dict p (chain.getD i 0))
    (hacc : AccOk d c.dict p (min c.mlmax (d.size - p)) h.2 h.1.reverse) (h2 : h.1.length ≤ 2) :
    (∀ m ∈ tail P c d chain cp (c.dict + 1 + p + 1) p avail cur h,
        ValidMatch d c.dict p (min c.mlmax (d.size - p)) m) ∧
    lensIncreasing (tail P c d chain cp (c.dict + 1 + p + 1) p avail cur h) = true ∧
    (3 ≤ c.niceLen → (tail P c d chain cp (c.dict + 1 + p + 1) p avail cur h).length ≤ c.niceLen - 1) := by
  have hfl : 1 ≤ P.lenBestFloor := hP.lenBestFloor
  have hnl := niceLenLimit_le c (d.size - p)
  have hlen := hacc.length_le
  rw [List.length_reverse] at hlen
  unfold tail
  rw [cyclicSize_eq hP, matchLenLimit_eq, hav]
  split
  · have := hacc.reverse
    rw [List.reverse_reverse] at this
    exact ⟨this.1, this.2, fun hn => by omega⟩
  · rename_i hne
    obtain ⟨_, hh, hl⟩ := chainLoop_valid P d hP chain c.dict p (min c.mlmax (d.size - p))
      (niceLenLimit c (d.size - p)) (max c.niceLen (h.1.length + 2)) cp (by omega) hm1 hch (by omega)
      (depthOf P c) cur (if h.2 < P.lenBestFloor then P.lenBestFloor else h.2) h.1.reverse hcur
      (by split <;> omega) (hacc.mono (by split <;> omega)) (by rw [List.length_reverse]; exact Nat.le_max_right ..)
    refine ⟨hh.reverse.1, hh.reverse.2, fun hn => ?_⟩
    -- a hit that does not end the search has `lb < nice_len_limit`
    have : h.1.length + 2 ≤ c.niceLen := by
      by_cases he : h.1 = []
      · rw [he]; exact Nat.le_of_succ_le hn
      · have : ¬ h.2 ≥ niceLenLimit c (d.size - p) := fun hge => hne ⟨he, hge⟩
        omega
    rw [List.length_reverse]
    omega

theorem findMatches_sound (hP : P.ok) (chain : Array Nat)
    (cp : Int) (p avail delta2 delta3 cur : Nat)
    (hav : avail = d.size - p) (h4 : P.minAvail ≤ avail) (hml : 3 ≤ c.mlmax)
    (hd2 : CandOk d c.dict p 2 delta2) (hd3 : CandOk d c.dict p 3 delta3)
    (hcur : EntryOk c.dict p cur) (hch : ∀ i, EntryOk c.dict p (chain.getD i 0)) :
    (∀ m ∈ findMatches P c d chain cp (c.dict + 1 + p + 1) p avail delta2 delta3 cur,
        ValidMatch d c.dict p (min c.mlmax (d.size - p)) m) ∧
    lensIncreasing (findMatches P c d chain cp (c.dict + 1 + p + 1) p avail delta2 delta3 cur) = true ∧
    (3 ≤ c.niceLen →
      (findMatches P c d chain cp (c.dict + 1 + p + 1) p avail delta2 delta3 cur).length ≤ c.niceLen - 1) := by
  have hm4 := hP.minAvail
  rw [findMatches_eq P c d hP, cyclicSize_eq hP, matchLenLimit_eq, hav]
  obtain ⟨a, b, _⟩ := hashHits_ok hd2 hd3 (mll := min c.mlmax (d.size - p)) (by omega) (by omega)
  exact tail_valid P c d hP chain cp p (d.size - p) cur _ rfl (by omega) hcur hch a b

end LzmaVerif.Mf.Hc4
