import LzmaVerif.Model.MT
import LzmaVerif.Proofs.Lts
/-
The invariant `Inv` of the protocol model `Model/MT.lean`.  Its core is an accounting of units: `cnt s q` counts
the places that hold unit `q`, and a dispatched, not yet returned unit is in exactly one of them unless its failure
is on the way to the caller (`Failing`).  The other clauses tie the coordinator's program counter to its state, the
error store and the shutdown flag (`pastTop`, `errSeen`, `readPc`).  A wake-up is `Lts.Woke`.
-/
namespace LzmaVerif.MT

def sumW (f : WPc → Nat) : List WPc → Nat
  | [] => 0
  | w :: r => f w + sumW f r

theorem sumW_eq (f : WPc → Nat) (ws : List WPc) : sumW f ws = (ws.map f).sum := by
  induction ws with
  | nil => rfl
  | cons a r ih => rw [sumW, ih, List.map_cons, List.sum_cons]

theorem sumW_append (f : WPc → Nat) (a b : List WPc) : sumW f (a ++ b) = sumW f a + sumW f b := by
  rw [sumW_eq, sumW_eq, sumW_eq, List.map_append, List.sum_append]

theorem sumW_set (f : WPc → Nat) (ws : List WPc) (i : Nat) (old new : WPc) (h : ws[i]? = some old) :
    sumW f (ws.set i new) + f old = sumW f ws + f new := by
  rw [sumW_eq, sumW_eq]; exact Lts.sum_map_set f new h

theorem sumW_replicate (f : WPc → Nat) (n : Nat) (w : WPc) : sumW f (List.replicate n w) = n * f w := by
  rw [sumW_eq, List.map_replicate, List.sum_replicate_nat]

theorem sumW_le_of_mem (f : WPc → Nat) (ws : List WPc) (w : WPc) (h : w ∈ ws) : f w ≤ sumW f ws := by
  induction ws with
  | nil => cases h
  | cons a r ih =>
    rcases List.mem_cons.mp h with h | h
    · subst h; simp [sumW]
    · have := ih h; simp only [sumW]; omega

theorem sumW_pos (f : WPc → Nat) (ws : List WPc) (h : 0 < sumW f ws) : ∃ w ∈ ws, 0 < f w := by
  rw [sumW_eq, List.sum_pos_iff_exists_pos_nat] at h
  obtain ⟨x, hx, hp⟩ := h
  obtain ⟨w, hw, rfl⟩ := List.mem_map.mp hx
  exact ⟨w, hw, hp⟩

theorem mem_set_self (ws : List WPc) (i : Nat) (old v : WPc) (h : ws[i]? = some old) : v ∈ ws.set i v :=
  List.mem_set (List.getElem?_eq_some_iff.mp h).1 v

theorem wakeOne_woke : ∀ ws, ∃ n ≤ 1, Lts.Woke .waiting .steal n ws (wakeOne ws)
  | [] => ⟨0, Nat.zero_le _, .nil⟩
  | w :: r => by
    obtain ⟨n, hn, h⟩ := wakeOne_woke r
    cases w
    case waiting => exact ⟨1, Nat.le_refl _, .wake (.refl r)⟩
    all_goals exact ⟨n, hn, .keep _ h⟩

theorem wakeAll_woke (ws : List WPc) : ∃ n, Lts.Woke .waiting .steal n ws (wakeAll ws) := Lts.woke_map _ _ ws

theorem _root_.LzmaVerif.Lts.Woke.sumW {n : Nat} {ws ws' : List WPc} (h : Lts.Woke .waiting .steal n ws ws')
    (f : WPc → Nat) : sumW f ws' + n * f .waiting = sumW f ws + n * f .steal := by
  rw [sumW_eq, sumW_eq]; exact h.sum f

theorem wakeAll_noWait (ws : List WPc) : ∀ w ∈ wakeAll ws, w ≠ .waiting :=
  Lts.not_mem_map (a := WPc.waiting) (b := WPc.steal) (by decide) ws

theorem wakeOne_alive (ws : List WPc) (h : ws ≠ []) : ∃ w ∈ wakeOne ws, w ≠ .waiting := by
  induction ws with
  | nil => exact absurd rfl h
  | cons a r ih =>
    by_cases ha : a = .waiting
    · subst ha; exact ⟨.steal, by simp [wakeOne], by simp⟩
    · refine ⟨a, ?_, ha⟩
      cases a <;> simp [wakeOne] at ha ⊢

def hv (q : Nat) : WPc → Nat
  | .got x => if x = q then 1 else 0
  | .work x => if x = q then 1 else 0
  | .send x => if x = q then 1 else 0
  | _ => 0

/-- the worker has a failed unit behind it and has not yet published the error -/
def midFail : WPc → Bool
  | .failDecr | .failSet | .panicked => true
  | _ => false

/-- number of places (queue, worker hands, channel, reorder buffer) that hold unit `q` -/
def cntOf (queue : List Nat) (ws : List WPc) (chan : List Msg) (ooo : List Nat) (q : Nat) : Nat :=
  queue.count q + sumW (hv q) ws + chan.count (.result q) + ooo.count q

def cnt (s : Sys) (q : Nat) : Nat := cntOf s.queue s.ws s.chan s.ooo q

/-- sequence numbers below `disp s` have been pushed (the increment of `nextDispatch` trails the
    push by one coordinator step) -/
def dispOf (pc : CPc) (nd : Nat) : Nat := if pc = .spawnChk then nd + 1 else nd

def disp (s : Sys) : Nat := dispOf s.pc s.nextDispatch

/-- an error is on its way to the caller, or has been delivered, or the reader was dropped -/
def FailingOf (ws : List WPc) (errStored : Bool) (pc : CPc) : Prop :=
  (∃ w ∈ ws, midFail w = true) ∨ errStored = true ∨ pc = .idle (some .err) ∨ pc = .dropped

def Failing (s : Sys) : Prop := FailingOf s.ws s.errStored s.pc

/-- coordinator is between the reorder-buffer lookup and the next return / loop restart -/
def pastTop : CPc → Bool
  | .idle _ | .top | .dropped => false
  | _ => true

/-- coordinator will look at the error store before it can block -/
def errSeen : CPc → Bool
  | .idle _ | .top | .chkErr | .dropped => true
  | _ => false

/-- program counters that are only reached in state `Reading` -/
def readPc : CPc → Bool
  | .tryRecv | .chkQueue | .source | .push _ | .spawnChk | .recvReading => true
  | _ => false

structure Inv (s : Sys) : Prop where
  maxPos : 1 ≤ s.cfg.maxWorkers
  order : s.delivered = List.range s.nextReturn
  wsBound : s.ws.length ≤ max s.cfg.initialWorkers s.cfg.maxWorkers
  dispLe : disp s ≤ s.cfg.units.length
  pushSeq : ∀ q, s.pc = .push q → q = s.nextDispatch ∧ s.nextDispatch < s.cfg.units.length
  retLe : s.nextReturn ≤ disp s
  cntLe : ∀ q, cnt s q ≤ 1
  cntRange : ∀ q, 0 < cnt s q → s.nextReturn ≤ q ∧ q < disp s
  /-- conservation: exactly one place, unless the unit fails and the failure is being / has been reported -/
  cons : ∀ q, s.nextReturn ≤ q → q < disp s →
    cnt s q = 1 ∨ (s.cfg.units.getD q .ok ≠ .ok ∧ Failing s)
  okDelivered : ∀ q, q < s.nextReturn → s.cfg.units.getD q .ok = .ok
  okSent : ∀ q, (.send q ∈ s.ws ∨ .result q ∈ s.chan ∨ q ∈ s.ooo) → s.cfg.units.getD q .ok = .ok
  drainInv : (s.st = .draining ∨ s.st = .finished) →
    s.cfg.srcOk = true ∧ s.lastSeq = some (s.nextDispatch - 1) ∧ s.cfg.units.length ≤ s.nextDispatch
  finInv : s.st = .finished → s.nextDispatch ≤ s.nextReturn
  doneSt : s.pc = .idle (some .done) → s.st = .finished
  readSt : readPc s.pc = true → s.st = .reading
  drainSt : s.pc = .recvDraining → s.st = .draining
  shutErr : s.shutdown = true → s.errStored = true ∨ s.pc = .idle (some .err) ∨ s.pc = .dropped
  errWake : s.errStored = true → errSeen s.pc = true ∨ .wake ∈ s.chan ∨ .failWake ∈ s.ws
  noExit : s.shutdown = false → ∀ w ∈ s.ws, w ≠ .exited ∧ w ≠ .failWake
  closedIff : s.closed = true ↔ s.pc = .dropped
  dropShut : s.pc = .dropped → s.shutdown = true
  closedNoWait : s.closed = true → ∀ w ∈ s.ws, w ≠ .waiting
  qAlive : s.shutdown = false → s.queue ≠ [] →
    (∃ w ∈ s.ws, w ≠ .waiting) ∨ (s.pc = .spawnChk ∧ s.ws = [])
  emptyActive : s.ws = [] → s.active = 0
  oooNext : pastTop s.pc = true → s.nextReturn ∉ s.ooo
  recvLt : (s.pc = .recvReading → s.nextReturn < s.nextDispatch) ∧
    (s.pc = .recvDraining → s.nextReturn ≤ s.nextDispatch - 1)

theorem cnt_pos_of_queue (s : Sys) (q : Nat) (h : q ∈ s.queue) : 0 < cnt s q := by
  have := List.count_pos_iff.mpr h
  simp only [cnt, cntOf]; omega

theorem cnt_pos_of_ooo (s : Sys) (q : Nat) (h : q ∈ s.ooo) : 0 < cnt s q := by
  have := List.count_pos_iff.mpr h
  simp only [cnt, cntOf]; omega

theorem cnt_pos_of_chan (s : Sys) (q : Nat) (h : .result q ∈ s.chan) : 0 < cnt s q := by
  have := List.count_pos_iff.mpr h
  simp only [cnt, cntOf]; omega

theorem cnt_pos_cases (s : Sys) (q : Nat) (h : 0 < cnt s q) :
    q ∈ s.queue ∨ (∃ w ∈ s.ws, w = .got q ∨ w = .work q ∨ w = .send q) ∨ .result q ∈ s.chan ∨ q ∈ s.ooo := by
  simp only [cnt, cntOf] at h
  by_cases h1 : 0 < s.queue.count q
  · exact Or.inl (List.count_pos_iff.mp h1)
  by_cases h2 : 0 < sumW (hv q) s.ws
  · obtain ⟨w, hw, hp⟩ := sumW_pos _ _ h2
    refine Or.inr (Or.inl ⟨w, hw, ?_⟩)
    cases w <;> simp only [hv] at hp <;> (try omega) <;> (split at hp <;> simp_all)
  by_cases h3 : 0 < s.chan.count (.result q)
  · exact Or.inr (Or.inr (Or.inl (List.count_pos_iff.mp h3)))
  · exact Or.inr (Or.inr (Or.inr (List.count_pos_iff.mp (by omega))))

section
variable (queue : List Nat) (ws : List WPc) (chan : List Msg) (ooo : List Nat)

theorem cntOf_erase_self (a : Nat) (h : a ∈ ooo) :
    cntOf queue ws chan (ooo.erase a) a + 1 = cntOf queue ws chan ooo a := by
  have := List.count_pos_iff.mpr h
  simp only [cntOf, List.count_erase_self]; omega

theorem cntOf_erase_ne (a q : Nat) (h : q ≠ a) :
    cntOf queue ws chan (ooo.erase a) q = cntOf queue ws chan ooo q := by
  simp only [cntOf, List.count_erase_of_ne h]

theorem cntOf_chan_result (rest : List Msg) (a q : Nat) :
    cntOf queue ws (.result a :: rest) ooo q = cntOf queue ws rest ooo q + (if a = q then 1 else 0) := by
  simp only [cntOf, List.count_cons, beq_iff_eq, Msg.result.injEq]; omega

theorem cntOf_chan_wake (rest : List Msg) (q : Nat) :
    cntOf queue ws (.wake :: rest) ooo q = cntOf queue ws rest ooo q := by
  simp [cntOf]

theorem cntOf_ooo_cons (a q : Nat) :
    cntOf queue ws chan (a :: ooo) q = cntOf queue ws chan ooo q + (if a = q then 1 else 0) := by
  simp only [cntOf, List.count_cons, beq_iff_eq]; omega

theorem cntOf_queue_snoc (a q : Nat) :
    cntOf (queue ++ [a]) ws chan ooo q = cntOf queue ws chan ooo q + (if a = q then 1 else 0) := by
  simp only [cntOf, List.count_append, List.count_singleton, beq_iff_eq]; omega

theorem cntOf_spawn (q : Nat) : cntOf queue (ws ++ [.chkShutdown]) chan ooo q = cntOf queue ws chan ooo q := by
  simp [cntOf, sumW_append, sumW, hv]

end

theorem midFail_wakeAll (ws : List WPc) :
    (∃ w ∈ wakeAll ws, midFail w = true) ↔ (∃ w ∈ ws, midFail w = true) := by
  constructor
  · rintro ⟨w, hw, hm⟩
    obtain ⟨a, ha, rfl⟩ := List.mem_map.mp hw
    refine ⟨a, ha, ?_⟩
    split at hm
    · cases hm
    · exact hm
  · rintro ⟨w, hw, hm⟩
    exact ⟨w, List.mem_map.mpr ⟨w, hw, if_neg (by rintro rfl; cases hm)⟩, hm⟩

end LzmaVerif.MT
