import LzmaVerif.Model.XzInt
import LzmaVerif.Model.Xz
import LzmaVerif.Proofs.XzBasic
import LzmaVerif.Proofs.XzParse
/-!
Totality, P1 and the XZ part of P2: `Index::parse` reads at least two bytes per record it announces; `readBlocks`,
`nextStream` and `decode` do not depend on their fuel above `|input|`, and `.capped` stems from a real cap check.
-/

namespace LzmaVerif.Total

section IndexPart
open LzmaVerif Xz

/-! # P1 — XZ index: the record count is bounded by the input -/

theorem parseRecords_fuel_indep : ∀ (fuel fuel' n : Nat) (inp : List Nat) (acc : List (Nat × Nat)),
    inp.length < fuel → inp.length < fuel' → parseRecords fuel n inp acc = parseRecords fuel' n inp acc := by
  intro fuel fuel' n inp acc h h'
  rw [parseRecords_eq_records _ _ _ _ h, parseRecords_eq_records _ _ _ _ h']

/-- **P1.**  If `Index::parse` succeeds then the number of records it returns IS the announced count, and
the index occupied at least `1 + 2·count + 4` bytes of input. -/
theorem parseIndex_count {inp rest : List Nat} {recs : List (Nat × Nat)} {isize : Nat}
    (h : parseIndex inp = .ok (recs, isize, rest)) :
    (∃ inp1, mbReader inp = .ok (recs.length, inp1) ∧ rest.length + 2 * recs.length + 4 ≤ inp1.length) ∧
      rest.length + 2 * recs.length + 5 ≤ inp.length :=
  (parseIndex_inv h).2

/-- **P1, as a rejection statement.**  Whatever count the index announces (2^63 − 1 included): if it exceeds
half of the bytes that follow, `Index::parse` fails.  In particular `count > |input|` is always rejected. -/
theorem parseIndex_rejects_big_count {inp inp1 : List Nat} {n : Nat} (h1 : mbReader inp = .ok (n, inp1))
    (hbig : inp1.length < 2 * n) : ∃ e, parseIndex inp = .error e := by
  cases h : parseIndex inp with
  | error e => exact ⟨e, rfl⟩
  | ok p =>
    obtain ⟨recs, isize, rest⟩ := p
    obtain ⟨⟨inp1', h1', hl⟩, _⟩ := parseIndex_count h
    rw [h1] at h1'
    cases h1'
    omega

theorem parseIndex_rejects_count_gt_length {inp inp1 : List Nat} {n : Nat} (h1 : mbReader inp = .ok (n, inp1))
    (hbig : inp.length < n) : ∃ e, parseIndex inp = .error e :=
  parseIndex_rejects_big_count h1 (by have := mbReader_len h1; omega)

end IndexPart

section XzPart
open LzmaVerif Xz Checks

/-- stream padding: one byte per step, so `|inp| + 1` units of fuel are never used up
    (fuel 0 would be reported as `invalidData`, indistinguishable from a real error) -/
theorem nextStream_fuel_indep : ∀ (fuel fuel' : Nat) (inp : List Nat) (zeros : Nat), inp.length < fuel → inp.length < fuel' →
    nextStream fuel inp zeros = nextStream fuel' inp zeros := by
  intro fuel
  induction fuel with
  | zero => intro _ _ _ h; omega
  | succ f ih =>
    intro fuel' inp zeros h1 h2
    cases fuel' with
    | zero => omega
    | succ f' =>
      cases inp with
      | nil => rw [nextStream, nextStream]
      | cons b rest =>
        rw [List.length_cons] at h1 h2
        rw [nextStream, nextStream]
        by_cases hb : b = 0
        · rw [if_pos hb, if_pos hb]
          exact ih f' rest (zeros + 1) (by omega) (by omega)
        · rw [if_neg hb, if_neg hb]

theorem parseBlockHeader_none {inp inp' : List Nat} (h : parseBlockHeader inp = .ok (none, inp')) : inp = 0 :: inp' :=
  parseBlockHeader_inv h

/-- What one iteration of the block/stream loop does, seen from two amounts of fuel with answers `a`, `b`: it answers by
itself, the same for both, or both go on from the same state with less input (a block: at least 8 bytes). -/
def BlockStep (multi : Bool) (total f f' : Nat) (chk : Check) (inp acc : List Nat) (blks : List Block) (cap : Nat)
    (a b : Out) : Prop :=
  (a = b ∧ (∀ d c bl, a = .ok d c bl → bl = blks) ∧
    (a = .capped → ∃ h cb inp', decodeBlockBody chk h cb inp' cap = .capped ∨
      ∃ blk rest, decodeBlockBody chk h cb inp' cap = .ok blk rest ∧ acc.length + blk.data.length > cap)) ∨
  ∃ chk' inp' acc' blks', a = readBlocks multi total f chk' inp' acc' blks' cap ∧
    b = readBlocks multi total f' chk' inp' acc' blks' cap ∧ inp'.length < inp.length ∧ acc.length ≤ acc'.length ∧
    inp'.length + 8 * blks'.length ≤ inp.length + 8 * blks.length

theorem BlockStep.err {multi : Bool} {total f f' : Nat} {chk : Check} {inp acc : List Nat} {blks : List Block}
    {cap : Nat} (e : Xz.Err) : BlockStep multi total f f' chk inp acc blks cap (.err e) (.err e) :=
  .inl ⟨rfl, nofun, nofun⟩

theorem readBlocks_step (multi : Bool) (total f f' : Nat) (chk : Check) (inp acc : List Nat) (blks : List Block)
    (cap : Nat) : BlockStep multi total f f' chk inp acc blks cap
      (readBlocks multi total (f + 1) chk inp acc blks cap) (readBlocks multi total (f' + 1) chk inp acc blks cap) := by
  have hok : ∀ c, BlockStep multi total f f' chk inp acc blks cap (.ok acc c blks) (.ok acc c blks) :=
    fun c => .inl ⟨rfl, fun _ _ _ h => by cases h; rfl, nofun⟩
  rw [readBlocks, readBlocks]
  split
  · exact .err _
  · next hd inp' hp =>
    have l1 := parseBlockHeader_len hp
    split
    · next hb => exact .inl ⟨rfl, nofun, fun _ => ⟨hd, _, inp', .inl hb⟩⟩
    · exact .err _
    · next blk rest hb =>
      have l2 := (decodeBlockBody_len hb).1
      split
      · next hc => exact .inl ⟨rfl, nofun, fun _ => ⟨hd, _, inp', .inr ⟨blk, rest, hb, hc⟩⟩⟩
      · exact .inr ⟨_, _, _, _, rfl, rfl, by omega, by simp, by simp only [List.length_cons]; omega⟩
  · next inp' hp =>
    have l1 : inp.length = inp'.length + 1 := congrArg List.length (parseBlockHeader_none hp)
    split
    · exact .err _
    next recs isize inp'' hi =>
    have l2 := (parseIndex_count hi).2
    by_cases hn : recs.length ≠ blks.length
    · rw [if_pos hn, if_pos hn]; exact .err _
    rw [if_neg hn, if_neg hn]
    by_cases hr : recs ≠ (blks.map (blockRecord chk)).reverse
    · rw [if_pos hr, if_pos hr]; exact .err _
    rw [if_neg hr, if_neg hr]
    split
    · exact .err _
    next bs flags rest hf =>
    have l3 := parseFooter_len hf
    split
    · exact .err _
    split
    · exact .err _
    split
    · exact hok _
    split
    · exact .err _
    · exact hok _
    · next chk' rest' hn =>
      obtain ⟨k, l4, _⟩ := nextStream_len _ hn
      exact .inr ⟨_, _, _, _, rfl, rfl, by omega, Nat.le_refl _, by simp only [List.length_nil]; omega⟩

/-- **P2 (XZ, fuel).**  Every iteration of the block/stream loop consumes input, so `|inp| + 1` units of fuel are never
used up and the result does not depend on the fuel beyond that. -/
theorem readBlocks_fuel_indep (multi : Bool) (total : Nat) : ∀ (fuel fuel' : Nat) (chk : Check) (inp acc : List Nat)
    (blks : List Block) (cap : Nat), inp.length < fuel → inp.length < fuel' →
    readBlocks multi total fuel chk inp acc blks cap = readBlocks multi total fuel' chk inp acc blks cap
  | 0, _, _, _, _, _, _, h, _ => by omega
  | _, 0, _, _, _, _, _, _, h => by omega
  | f + 1, f' + 1, chk, inp, acc, blks, cap, h, h' => by
    rcases readBlocks_step multi total f f' chk inp acc blks cap with ⟨e, _⟩ | ⟨chk', inp', acc', blks', e, e', hl, _⟩
    · exact e
    · rw [e, e']
      exact readBlocks_fuel_indep multi total f f' chk' inp' acc' blks' cap (by omega) (by omega)

/-- **P2 (XZ, cap).**  With more fuel than input bytes, `.capped` is never fuel exhaustion: either some block
body answered `.capped` itself, or a decoded block would push the output beyond `cap`. -/
theorem readBlocks_capped (multi : Bool) (total : Nat) : ∀ (fuel : Nat) (chk : Check) (inp acc : List Nat)
    (blks : List Block) (cap : Nat), inp.length < fuel →
    readBlocks multi total fuel chk inp acc blks cap = .capped →
    ∃ (chk' : Check) (h : BlockHeader) (cb : Nat) (inp' acc' : List Nat), acc.length ≤ acc'.length ∧
      (decodeBlockBody chk' h cb inp' cap = .capped ∨
       ∃ blk rest, decodeBlockBody chk' h cb inp' cap = .ok blk rest ∧ acc'.length + blk.data.length > cap) := by
  intro fuel
  induction fuel with
  | zero => intro _ _ _ _ _ h; omega
  | succ f ih =>
    intro chk inp acc blks cap hf h
    rcases readBlocks_step multi total f f chk inp acc blks cap with ⟨_, _, hc⟩ | ⟨chk', inp', acc', blks', e, _, hl, ha, _⟩
    · obtain ⟨hd, cb, inp', hr⟩ := hc h
      exact ⟨chk, hd, cb, inp', acc, Nat.le_refl _, hr⟩
    · obtain ⟨chk'', hd, cb, inp'', acc'', ha', hr⟩ := ih chk' inp' acc' blks' cap (by omega) (e ▸ h)
      exact ⟨chk'', hd, cb, inp'', acc'', by omega, hr⟩

/-- number of blocks of the (last) stream: each block header alone takes 8 bytes -/
theorem readBlocks_block_count (multi : Bool) (total : Nat) : ∀ (fuel : Nat) (chk : Check) (inp acc : List Nat)
    (blks : List Block) (cap : Nat) (data : List Nat) (consumed : Nat) (blks' : List Block),
    readBlocks multi total fuel chk inp acc blks cap = .ok data consumed blks' →
    8 * blks'.length ≤ inp.length + 8 * blks.length := by
  intro fuel
  induction fuel with
  | zero => intro _ _ _ _ _ _ _ _ h; rw [readBlocks] at h; cases h
  | succ f ih =>
    intro chk inp acc blks cap data consumed blks' h
    rcases readBlocks_step multi total f f chk inp acc blks cap with ⟨_, hok, _⟩ | ⟨chk', inp', acc', bl, e, _, _, _, hl⟩
    · rw [hok _ _ _ h]; omega
    · have := ih chk' inp' acc' bl cap data consumed blks' (e ▸ h)
      omega

theorem xz_decode_fuel_indep (multi : Bool) (inp : List Nat) (cap : Nat) (fuel : Nat) (hf : inp.length < fuel) :
    Xz.decode multi inp cap =
      match parseStreamHeader inp with
      | .error e => .err e
      | .ok (chk, rest) => readBlocks multi inp.length fuel chk rest [] [] cap := by
  unfold Xz.decode
  cases hs : parseStreamHeader inp with
  | error e => rfl
  | ok p =>
    obtain ⟨chk, rest⟩ := p
    simp only []
    have := parseStreamHeader_len hs
    exact readBlocks_fuel_indep multi inp.length (inp.length + 2) fuel chk rest [] [] cap (by omega) (by omega)

end XzPart

end LzmaVerif.Total
