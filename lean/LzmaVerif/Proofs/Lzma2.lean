import LzmaVerif.Proofs.Lzma2Step
import LzmaVerif.Proofs.XzStream
import LzmaVerif.Proofs.ProgSparse
/-!
# LZMA2 round trip for every sequence of chunks

`lzma2_roundtrip` for every `ChunksOk` sequence (`Proofs/Lzma2Step.lean`): `chunks_rt` is the induction over the events by
`stored_step` / `lzma_step`.  `checkChunks` is an executable sufficient condition for `ChunksOk`; `checkEncode` runs it with
the writer in one pass on a sparse table, so the six-chunk example is evaluated once.
-/
namespace LzmaVerif.Lzma2
open LzmaVerif Lzma Prog Rc

theorem chunks_rt (pb : Nat) (hpb : pb ≤ 224)
    (hlclp : (paramsOfProps pb).lc + (paramsOfProps pb).lp ≤ 4) :
    ∀ (chunks : List Chunk) (w : WState) (s : RState) (data acc : List Nat),
      ChunksOk pb chunks w data → Inv pb w s →
      ∃ bytes, encodeChunks pb chunks w acc = some (acc ++ bytes) ∧
        ∀ (rest : List Nat) (cap fuel : Nat), s.out.size + data.length ≤ cap →
          (bytes ++ rest).length < fuel →
          ∃ s', chunkLoop fuel s (bytes ++ rest) cap = .ok s' rest ∧ s'.out = s.out ++ data.toArray ∧
            s'.chunks = chunks.reverse ++ s.chunks := by
  intro chunks
  induction chunks with
  | nil =>
    intro w s data acc hok hinv
    simp only [ChunksOk] at hok
    subst hok
    refine ⟨[0], encodeChunks_nil pb w acc, ?_⟩
    intro rest cap fuel _ hf
    cases fuel with
    | zero => simp at hf
    | succ fuel => exact ⟨s, chunkLoop_end fuel s rest cap, by simp, by simp⟩
  | cons ch chunks ih =>
    intro w s data acc hok hinv
    obtain ⟨w', cb, cd, data', s1, henc1, hdata, hok', hinv1, hout1, hch1, hat⟩ :
        ChunkStep pb w s ch chunks data acc := by
      by_cases hc : ch.control ≥ 0x80
      · exact lzma_step pb hpb hlclp w s ch chunks data acc hinv hc hok
      · exact stored_step pb w s ch chunks data acc hinv hc hok
    obtain ⟨bytes', henc2, hdec2⟩ := ih w' s1 data' (acc ++ cb) hok' hinv1
    refine ⟨cb ++ bytes', ?_, ?_⟩
    · rw [henc1, henc2, List.append_assoc]
    · intro rest cap fuel hcap hf
      have hs1 : s1.out.size = s.out.size + cd.length := by
        rw [hout1]
        simp
      rw [hdata, List.length_append] at hcap
      rw [List.append_assoc] at hf ⊢
      have hc := hat cap (bytes' ++ rest) (by omega)
      have := hc.progress.2.1
      cases fuel with
      | zero => simp at hf
      | succ fuel =>
        rw [hc.loop fuel]
        obtain ⟨s', hs', hout', hch'⟩ := hdec2 rest cap fuel (by omega) (by omega)
        refine ⟨s', hs', ?_, ?_⟩
        · rw [hout', hout1, hdata, ← List.append_toArray, Array.append_assoc]
        · rw [hch', hch1, List.reverse_cons, List.append_assoc, List.singleton_append]

theorem checkChunks_sound (pb : Nat) : ∀ (chunks : List Chunk) (w : WState) (data : List Nat),
    checkChunks pb chunks w = some data → ChunksOk pb chunks w data := by
  intro chunks
  induction chunks with
  | nil =>
    intro w data h
    exact (Option.some.inj h).symm
  | cons ch rest ih =>
    intro w data h
    rw [ChunksOk]
    rw [checkChunks] at h
    by_cases hc : ch.control ≥ 0x80
    · rw [if_pos hc] at h ⊢
      split at h
      · cases h
      · rename_i c' h' hp
        obtain ⟨⟨hsize, hu1, hu2, hctl, hprops, hraw⟩, h⟩ := Option.ite_none_right_eq_some.mp h
        split at h
        · rename_i r0 ps0 e0 henc0
          obtain ⟨hcond2, h⟩ := Option.ite_none_right_eq_some.mp h
          obtain ⟨d, hd, hdd⟩ := Option.map_eq_some_iff.mp h
          refine ⟨c', h', d, hp, hsize, hu1, hu2, hctl, hprops, hraw, hdd.symm, ?_⟩
          intro r ps e henc
          rw [henc0] at henc
          cases henc
          exact ⟨hcond2.1, hcond2.2, ih _ _ hd⟩
        · cases h
    · rw [if_neg hc] at h ⊢
      obtain ⟨⟨hctl, hunc, h1, h2, hcomp, hprops, hparse⟩, h⟩ := Option.ite_none_right_eq_some.mp h
      obtain ⟨d, hd, hdd⟩ := Option.map_eq_some_iff.mp h
      exact ⟨d, hctl, hunc, h1, h2, hcomp, hprops, hparse, hdd.symm, ih _ _ hd⟩

/-- the table the encoder starts an LZMA chunk with (`chunkProbs`), as a sparse table -/
def chunkSparse (w : WState) (S : Sparse) : Sparse :=
  if w.flags.stateResetNeeded ∨ w.flags.propsNeeded then ⟨numProbs w.params.lc w.params.lp, []⟩ else S

theorem chunkProbs_sparse {w : WState} {S : Sparse} (h : w.probs = S.toArr) :
    chunkProbs w = (chunkSparse w S).toArr := by
  unfold chunkProbs chunkSparse
  split
  · rfl
  · exact h

/-- `checkChunks` and `encodeChunks` in one pass: each LZMA chunk is encoded once, on the sparse table `S` that stands for
`w.probs` (`Proofs/ProgSparse.lean`) -/
def checkEncode (pb : Nat) : List Chunk → WState → Sparse → List Nat → Option (List Nat × List Nat)
  | [], _, _, acc => some ([], acc ++ [0])
  | ch :: rest, w, S, acc =>
    if ch.control ≥ 0x80 then
      match parseRun (restartW ch w).dictBuf ch.parse (chunkCoder (restartW ch w)) (restartW ch w).hist with
      | none => none
      | some (_, h') =>
        if h'.size = (restartW ch w).hist.size + ch.unc ∧ 1 ≤ ch.unc ∧ ch.unc ≤ 2 ^ 21 ∧
            ch.control = lzmaControl (restartW ch w).flags ch.unc ∧
            ch.props = (if (restartW ch w).flags.propsNeeded then some pb else none) ∧ ch.raw = [] then
          match (lzmaProg (restartW ch w) ch.unc).encRunS (lzmaBits (restartW ch w) ch.parse)
              (chunkSparse (restartW ch w) S) Enc.init with
          | some (r, [], S', e) =>
            if e.bytes.length ≤ 65536 ∧ ch.comp = e.bytes.length then
              (checkEncode pb rest (afterLzma (restartW ch w) r S'.toArr) S'
                (acc ++ (lzmaHeader (restartW ch w).flags ch.unc e.bytes.length pb).1 ++ e.bytes)).map
                (fun x => ((h'.extract (restartW ch w).hist.size h'.size).toList ++ x.1, x.2))
            else none
          | _ => none
        else none
    else
      if ch.control = storedControl (restartW ch w).flags ∧ ch.unc = ch.raw.length ∧
          1 ≤ ch.raw.length ∧ ch.raw.length ≤ 65536 ∧ ch.comp = 0 ∧ ch.props = none ∧ ch.parse = [] then
        (checkEncode pb rest (afterStored (restartW ch w) ch.raw) S
          (acc ++ (storedHeader (restartW ch w).flags ch.unc).1 ++ ch.raw)).map (fun x => (ch.raw ++ x.1, x.2))
      else none

theorem checkEncode_sound (pb : Nat) : ∀ (chunks : List Chunk) (w : WState) (S : Sparse) (acc data bytes : List Nat),
    w.probs = S.toArr → checkEncode pb chunks w S acc = some (data, bytes) →
    checkChunks pb chunks w = some data ∧ encodeChunks pb chunks w acc = some bytes := by
  intro chunks
  induction chunks with
  | nil =>
    intro w S acc data bytes _ h
    simp only [checkEncode, Option.some.injEq, Prod.mk.injEq] at h
    obtain ⟨rfl, rfl⟩ := h
    exact ⟨rfl, rfl⟩
  | cons ch rest ih =>
    intro w S acc data bytes hw h
    have hw' : (restartW ch w).probs = S.toArr := by
      rw [← hw, restartW]
      split <;> rfl
    rw [checkEncode] at h
    rw [checkChunks, encodeChunks_cons]
    by_cases hc : ch.control ≥ 0x80
    · rw [if_pos hc] at h
      rw [if_pos hc, if_pos hc]
      split at h
      · cases h
      · rename_i c' h' hp
        obtain ⟨hcond, h⟩ := Option.ite_none_right_eq_some.mp h
        rw [hp, chunkProbs_sparse hw', encRun_sparse]
        simp only [if_pos hcond]
        split at h
        · rename_i r S' e henc
          obtain ⟨hcond2, h⟩ := Option.ite_none_right_eq_some.mp h
          obtain ⟨⟨d, b⟩, hx, hxd⟩ := Option.map_eq_some_iff.mp h
          obtain ⟨h1, h2⟩ := ih _ _ _ _ _ rfl hx
          cases hxd
          rw [henc]
          simp only [Option.map_some, if_pos hcond2, h1, h2, and_self]
        · cases h
    · rw [if_neg hc] at h
      rw [if_neg hc, if_neg hc]
      obtain ⟨hcond, h⟩ := Option.ite_none_right_eq_some.mp h
      obtain ⟨⟨d, b⟩, hx, hxd⟩ := Option.map_eq_some_iff.mp h
      obtain ⟨h1, h2⟩ := ih (afterStored (restartW ch w) ch.raw) _ _ _ _ hw' hx
      cases hxd
      simp only [if_pos hcond, h1, h2, Option.map_some, and_self]

theorem reencode_eq (dict : Nat) (preset : Array Nat) (chunks : List Chunk) :
    reencode dict preset chunks = encodeChunks (propsOf chunks) chunks (initW dict preset (propsOf chunks)) [] := rfl

theorem inv_init (dict : Nat) (preset : Array Nat) (pb : Nat) :
    Inv pb (initW dict preset pb) (initState dict preset) := by
  refine ⟨rfl, rfl, rfl, fun h => h, fun _ => rfl, fun h => ?_, rfl, nofun, fun h => absurd (.inl rfl) h⟩
  obtain rfl := Array.isEmpty_iff.mp h
  rfl

/-- **LZMA2 round trip.**  For every dictionary size, every preset dictionary, every admissible properties
byte and every valid sequence of writer events `chunks` (LZMA chunks with a valid parse, stored chunks,
independent restarts – `ChunksOk`) denoting `data`: the writer model produces a byte string, and the reader
model, run on that byte string followed by ANY bytes, returns exactly `data`, has consumed exactly the
writer's bytes, and recovers the chunk sequence – for every output cap that admits the data. -/
theorem lzma2_roundtrip (dict : Nat) (preset : Array Nat) (pb : Nat) (hpb : pb ≤ 224)
    (hlclp : (paramsOfProps pb).lc + (paramsOfProps pb).lp ≤ 4)
    (chunks : List Chunk) (data : List Nat) (hok : ChunksOk pb chunks (initW dict preset pb) data) :
    ∃ bytes, encodeChunks pb chunks (initW dict preset pb) [] = some bytes ∧
      ∀ (rest : List Nat) (cap : Nat), data.length ≤ cap →
        decode dict preset (bytes ++ rest) cap
          = .ok { out := data.toArray, consumed := bytes.length, chunks := chunks } := by
  obtain ⟨bytes, henc, hdec⟩ := chunks_rt pb hpb hlclp chunks (initW dict preset pb) (initState dict preset)
    data [] hok (inv_init dict preset pb)
  refine ⟨bytes, by simpa using henc, ?_⟩
  intro rest cap hcap
  obtain ⟨s', hs', hout', hch'⟩ := hdec rest cap ((bytes ++ rest).length + 1)
    (by simpa [initState] using hcap) (Nat.lt_succ_self _)
  unfold decode
  rw [hs']
  simp [hout', hch', initState]

/-- the same for `reencode` (the writer model as validated against the Rust writer) -/
theorem lzma2_reencode_roundtrip (dict : Nat) (preset : Array Nat) (chunks : List Chunk) (data : List Nat)
    (hpb : propsOf chunks ≤ 224)
    (hlclp : (paramsOfProps (propsOf chunks)).lc + (paramsOfProps (propsOf chunks)).lp ≤ 4)
    (hok : ChunksOk (propsOf chunks) chunks (initW dict preset (propsOf chunks)) data) :
    ∃ bytes, reencode dict preset chunks = some bytes ∧
      ∀ (rest : List Nat) (cap : Nat), data.length ≤ cap →
        decode dict preset (bytes ++ rest) cap
          = .ok { out := data.toArray, consumed := bytes.length, chunks := chunks } := by
  rw [reencode_eq]
  exact lzma2_roundtrip dict preset (propsOf chunks) hpb hlclp chunks data hok

/-- **`PayloadOk` of the XZ theorems** (`Proofs/XzStream.lean`) holds for writer-model payloads -/
theorem payloadOk_of_chunksOk (dict : Nat) (pb : Nat) (hpb : pb ≤ 224)
    (hlclp : (paramsOfProps pb).lc + (paramsOfProps pb).lp ≤ 4)
    (chunks : List Chunk) (filtered payload : List Nat)
    (hok : ChunksOk pb chunks (initW dict #[] pb) filtered)
    (henc : encodeChunks pb chunks (initW dict #[] pb) [] = some payload) :
    Xz.PayloadOk dict payload filtered := by
  obtain ⟨bytes, henc', hdec⟩ := lzma2_roundtrip dict #[] pb hpb hlclp chunks filtered hok
  rw [henc] at henc'
  cases henc'
  intro rest cap hcap
  exact ⟨chunks, hdec rest cap hcap⟩

theorem exists_payloadOk (dict : Nat) (pb : Nat) (hpb : pb ≤ 224)
    (hlclp : (paramsOfProps pb).lc + (paramsOfProps pb).lp ≤ 4)
    (chunks : List Chunk) (filtered : List Nat)
    (hok : ChunksOk pb chunks (initW dict #[] pb) filtered) :
    ∃ payload, encodeChunks pb chunks (initW dict #[] pb) [] = some payload ∧
      Xz.PayloadOk dict payload filtered := by
  obtain ⟨bytes, henc, _⟩ := lzma2_roundtrip dict #[] pb hpb hlclp chunks filtered hok
  exact ⟨bytes, henc, payloadOk_of_chunksOk dict pb hpb hlclp chunks filtered bytes hok henc⟩

end LzmaVerif.Lzma2

namespace LzmaVerif.Lzma2.Example
open LzmaVerif Lzma Lzma2

def exStored : List Chunk :=
  [ { control := 1, unc := 3, comp := 0, props := none, parse := [], raw := [10, 20, 30] } ]

theorem exStored_ok : ChunksOk 93 exStored (initW 4096 #[] 93) [10, 20, 30] :=
  checkChunks_sound _ _ _ _ (by decide)

theorem exStored_bytes : encodeChunks 93 exStored (initW 4096 #[] 93) [] = some [1, 0, 2, 10, 20, 30, 0] := by
  decide

/-- `lzma2_roundtrip` instantiated: the 7 bytes followed by anything decode to the 3 bytes -/
example (rest : List Nat) (cap : Nat) (h : 3 ≤ cap) :
    decode 4096 #[] ([1, 0, 2, 10, 20, 30, 0] ++ rest) cap
      = .ok { out := #[10, 20, 30], consumed := 7, chunks := exStored } := by
  obtain ⟨bytes, hb, hd⟩ := lzma2_roundtrip 4096 #[] 93 (by decide) (by decide) exStored _ exStored_ok
  rw [exStored_bytes] at hb
  cases hb
  exact hd rest cap h

/-- and directly, by evaluation, on a concrete continuation -/
example : decode 4096 #[] [1, 0, 2, 10, 20, 30, 0, 99, 98] 3
    = .ok { out := #[10, 20, 30], consumed := 7, chunks := exStored } := by
  rfl

/-- Six events exercising every header form: first LZMA chunk (`0xE0`: dictionary reset + properties `0x5D`),
an LZMA chunk continuing tables and coder state (`0x80`, starts with a short rep of the previous chunk's
`rep0`), a stored chunk without reset (`2`), an LZMA chunk with state reset (`0xA0`, match into the stored
bytes), an independent restart as LZMA chunk (`0xE0`), an independent restart as stored chunk (`1`). -/
def exChunks : List Chunk :=
  [ { control := 0xE0, unc := 6, comp := 8, props := some 93, parse := [.lit 65, .lit 66, .mtch 1 4], raw := [] },
    { control := 0x80, unc := 2, comp := 6, props := none, parse := [.shortRep, .lit 67], raw := [] },
    { control := 2, unc := 3, comp := 0, props := none, parse := [], raw := [1, 2, 3] },
    { control := 0xA0, unc := 4, comp := 7, props := none, parse := [.lit 68, .mtch 2 3], raw := [] },
    { control := 0xE0, unc := 1, comp := 6, props := some 93, parse := [.lit 69], raw := [] },
    { control := 1, unc := 1, comp := 0, props := none, parse := [], raw := [7] } ]

def exData : List Nat := [65, 66, 65, 66, 65, 66, 65, 67, 1, 2, 3, 68, 2, 3, 68, 69, 7]

def exBytes : List Nat :=
  [224, 0, 5, 0, 7, 93, 0, 32, 144, 158, 4, 0, 0, 0, 128, 0, 1, 0, 5, 0, 194, 23, 252, 0, 0, 2, 0, 2, 1, 2, 3,
   160, 0, 3, 0, 6, 0, 34, 66, 12, 0, 0, 0, 224, 0, 0, 0, 5, 93, 0, 34, 127, 252, 0, 0, 1, 0, 0, 7, 0]

/-- the sequence passes the check and is written as these 60 bytes (kernel evaluation of the model encoder; no
    `native_decide`) -/
theorem exChunks_checkEncode :
    checkEncode 93 exChunks (initW 4096 #[] 93) ⟨numProbs 3 0, []⟩ [] = some (exData, exBytes) := by
  decide +kernel

theorem exChunks_check : checkChunks 93 exChunks (initW 4096 #[] 93) = some exData :=
  (checkEncode_sound _ _ _ _ _ _ _ rfl exChunks_checkEncode).1

theorem exChunks_enc : encodeChunks 93 exChunks (initW 4096 #[] 93) [] = some exBytes :=
  (checkEncode_sound _ _ _ _ _ _ _ rfl exChunks_checkEncode).2

theorem exChunks_ok : ChunksOk 93 exChunks (initW 4096 #[] 93) exData :=
  checkChunks_sound _ _ _ _ exChunks_check

theorem exChunks_roundtrip :
    ∃ bytes, reencode 4096 #[] exChunks = some bytes ∧
      ∀ (rest : List Nat) (cap : Nat), 17 ≤ cap →
        decode 4096 #[] (bytes ++ rest) cap
          = .ok { out := exData.toArray, consumed := bytes.length, chunks := exChunks } :=
  lzma2_reencode_roundtrip 4096 #[] exChunks exData (by decide) (by decide) exChunks_ok

/-- … and the `PayloadOk` hypothesis of the XZ theorems is met by its payload -/
example : ∃ payload, Xz.PayloadOk 4096 payload exData :=
  let ⟨p, _, h⟩ := exists_payloadOk 4096 93 (by decide) (by decide) exChunks exData exChunks_ok
  ⟨p, h⟩

end LzmaVerif.Lzma2.Example

#print axioms LzmaVerif.Lzma2.chunks_rt
#print axioms LzmaVerif.Lzma2.lzma2_roundtrip
#print axioms LzmaVerif.Lzma2.lzma2_reencode_roundtrip
#print axioms LzmaVerif.Lzma2.payloadOk_of_chunksOk
#print axioms LzmaVerif.Lzma2.exists_payloadOk
#print axioms LzmaVerif.Lzma2.checkChunks_sound
#print axioms LzmaVerif.Lzma2.checkEncode_sound
#print axioms LzmaVerif.Lzma2.Example.exChunks_roundtrip
