/-
  HC4 WITH the 31-bit position renormalisation (src/lz/hc4.rs `move_pos`, hash234.rs `normalize`,
  lz_encoder.rs `LZEncoder::normalize` / `normalize_scalar`).  Import-free; the compiled driver runs these
  definitions (`mf.trace kind=hc4 ... lzstart=<n>`), the real finder is started at the same `lz_pos` through the
  hook `verif_hooks::mf_trace_biased`.

  `Model/Hc4.lean` already stores the match finder's own counter `lz_pos` in the hash tables and in the chain
  (entries are `lz_pos` values, 0 = "empty"), but its `movePos` leaves out the branch

      self.lz_pos += 1;
      if self.lz_pos == 0x7FFFFFFF {
          let norm_offset = 0x7FFFFFFF - self.cyclic_size;
          self.hash.normalize(norm_offset);                       // hash2 / hash3 / hash4 tables
          LZEncoder::normalize(&mut self.chain, norm_offset);     // chain
          self.lz_pos = self.lz_pos.wrapping_sub(norm_offset);    // = cyclic_size
      }

  The definitions below are the SAME step functions over `movePosN`, which has that branch; `initN` takes the
  value `lz_pos` starts at (`HC4::new` uses `dict_size + 1`; the hook can set any other start value).
  Everything after `move_pos` is shared with the logical model: `find = findAfter ∘ movePos` and
  `findN = findAfter ∘ movePosN` (`find_eq_findAfter`, by `rfl`).

  The value 0.  `normalize` maps every entry `e ≤ norm_offset` to 0, and 0 also means "never written".  The code
  tolerates the ambiguity because `lz_pos ≥ cyclic_size` always holds (it starts at `cyclic_size`, only grows, and
  the normalisation resets it to exactly `cyclic_size`): an entry 0 has `delta = lz_pos - 0 ≥ cyclic_size` and is
  rejected by every distance test (`delta2 < cyclic_size`, `delta3 < cyclic_size`, `delta >= cyclic_size`).  A LIVE
  position is never stored as 0: the first stored value is `cyclic_size + 1`, and after a normalisation a position
  with `delta < cyclic_size` has the value `cyclic_size - delta ≥ 1` (`Proofs/MfRenorm.lean`: `ERel`).
-/
import LzmaVerif.Model.Hc4

namespace LzmaVerif.Mf

/-- where and how the finders renormalise (regenerated from hc4.rs / bt4.rs by the translator) -/
structure NormParams where
  /-- `if self.lz_pos == 0x7FFFFFFF` (hc4.rs) / `MAX_POS` (bt4.rs) -/
  maxPos : Nat := 0x7FFFFFFF
  /-- `let norm_offset = 0x7FFFFFFF - self.cyclic_size`: the minuend -/
  offBase : Nat := 0x7FFFFFFF
  deriving Repr, DecidableEq

/-- what the simulation proof needs of the constants: the offset is computed from the threshold itself -/
def NormParams.ok (N : NormParams) : Prop := N.offBase = N.maxPos

instance (N : NormParams) : Decidable N.ok := by unfold NormParams.ok; infer_instance

/-- `normalize_scalar` on one entry: `*p = (*p).max(norm_offset) - norm_offset`
    (the SIMD variants compute the same, `Props/C14.lean`) -/
def normPos (off e : Nat) : Nat := max e off - off

/-- `LZEncoder::normalize(positions, norm_offset)` -/
def normTable (off : Nat) (t : Array Nat) : Array Nat := t.map (normPos off)

namespace Hc4

/-- `self.hash.normalize(norm_offset); LZEncoder::normalize(&mut self.chain, norm_offset);
    self.lz_pos = self.lz_pos.wrapping_sub(norm_offset)` -/
def normalizeSt (off : Nat) (s : State) : State :=
  { s with h2 := normTable off s.h2, h3 := normTable off s.h3, h4 := normTable off s.h4,
           chain := normTable off s.chain, lzPos := s.lzPos - off }

/-- `HC4::move_pos` after `let avail = encoder.move_pos(4, 4)`, WITH the normalisation -/
def movePosN (N : NormParams) (P : Hc4Params) (c : Cfg) (s : State) (avail : Nat) : State :=
  if avail ≠ 0 then
    -- `self.lz_pos += 1; if self.lz_pos == 0x7FFFFFFF { … }`
    let s1 := { s with lzPos := s.lzPos + 1 }
    let s2 := if s1.lzPos = N.maxPos then normalizeSt (N.offBase - cyclicSize P c) s1 else s1
    let cp := s.cyclicPos + 1
    { s2 with pos := s.pos + 1, cyclicPos := if cp = (cyclicSize P c : Int) then 0 else cp }
  else { s with pos := s.pos + 1 }

/-- the part of `HC4::find_matches` after `let avail = self.move_pos(encoder)`;
    `p` = logical position searched, `s1` = state after `move_pos` -/
def findAfter (P : Hc4Params) (c : Cfg) (d : Array UInt8) (s1 : State) (p avail : Nat) :
    List Match × State :=
  if avail < c.mlmax ∧ avail = 0 then ([], s1)
  else
    let hs := hashesAt P c d p
    let delta2 := s1.lzPos - s1.h2.getD hs.h2 0
    let delta3 := s1.lzPos - s1.h3.getD hs.h3 0
    let cur := s1.h4.getD hs.h4 0
    let s2 := setChain (updateTables s1 hs) cur
    (findMatches P c d s2.chain s2.cyclicPos s2.lzPos p avail delta2 delta3 cur, s2)

theorem find_eq_findAfter (P : Hc4Params) (c : Cfg) (d : Array UInt8) (s : State) :
    find P c d s = findAfter P c d (movePos P c s (encMovePos P d s.pos)) s.pos (encMovePos P d s.pos) := rfl

/-- `HC4::find_matches` with the normalisation -/
def findN (N : NormParams) (P : Hc4Params) (c : Cfg) (d : Array UInt8) (s : State) : List Match × State :=
  findAfter P c d (movePosN N P c s (encMovePos P d s.pos)) s.pos (encMovePos P d s.pos)

/-- the body of the `while` loop of `HC4::skip` after `self.move_pos(encoder)` -/
def skip1After (P : Hc4Params) (c : Cfg) (d : Array UInt8) (s1 : State) (p avail : Nat) : State :=
  if avail ≠ 0 then
    let hs := hashesAt P c d p
    let cur := s1.h4.getD hs.h4 0
    updateTables (setChain s1 cur) hs
  else s1

theorem skip1_eq_skip1After (P : Hc4Params) (c : Cfg) (d : Array UInt8) (s : State) :
    skip1 P c d s = skip1After P c d (movePos P c s (encMovePos P d s.pos)) s.pos (encMovePos P d s.pos) := rfl

def skip1N (N : NormParams) (P : Hc4Params) (c : Cfg) (d : Array UInt8) (s : State) : State :=
  skip1After P c d (movePosN N P c s (encMovePos P d s.pos)) s.pos (encMovePos P d s.pos)

/-- `HC4::skip(len)` with the normalisation -/
def skipN (N : NormParams) (P : Hc4Params) (c : Cfg) (d : Array UInt8) : Nat → State → State
  | 0, s => s
  | n + 1, s => skipN N P c d n (skip1N N P c d s)

/-- `HC4::new`, with `lz_pos` starting at `lzStart` (the hook `mf_trace_biased`; `HC4::new` itself uses
    `dict_size + 1`, i.e. `initN P c (c.dict + P.lzPosInitExtra) = init P c`) -/
def initN (P : Hc4Params) (c : Cfg) (lzStart : Nat) : State := { init P c with lzPos := lzStart }

theorem initN_default (P : Hc4Params) (c : Cfg) : initN P c (c.dict + P.lzPosInitExtra) = init P c := rfl

def runScriptAuxN (N : NormParams) (P : Hc4Params) (c : Cfg) (d : Array UInt8) :
    List Nat → State → List (Nat × List Match) → List (Nat × List Match) × State
  | [], s, acc => (acc.reverse, s)
  | op :: rest, s, acc =>
    if exhausted d s then (acc.reverse, s)
    else if op = 0 then
      let p := s.pos
      let r := findN N P c d s
      runScriptAuxN N P c d rest r.2 ((p, r.1) :: acc)
    else runScriptAuxN N P c d rest (skipN N P c d op s) acc

/-- a script on the renormalising finder started at `lz_pos = lzStart` -/
def runScriptN (N : NormParams) (P : Hc4Params) (c : Cfg) (d : Array UInt8) (lzStart : Nat)
    (script : List Nat) : List (Nat × List Match) × State :=
  runScriptAuxN N P c d script (initN P c lzStart) []

end Hc4
end LzmaVerif.Mf
