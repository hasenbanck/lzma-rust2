import LzmaVerif.Generated.Consts
/-
Fixed-width arithmetic on attacker-controlled values, with OVERFLOW MADE EXPLICIT.

Every `u16`/`u32`/`u64`/`usize` operation of the decoders that takes a value read from the input
(or a caller-supplied parameter) is written as a function into `Option Nat` that returns `none`
when the mathematical result leaves the range of the type: with overflow checks that is a panic
(`attempt to add with overflow`), without them a silent wrap.  `usize` is 64 bit.

Sources (all under `/repo/src`):
* `lzma2_reader.rs`  : `get_dict_size`, `decode_chunk_header`, `LZMA2Reader::new`
* `lzma_reader.rs`   : `get_dict_size`, `construct2`, `get_memory_usage`
* `lz/lz_decoder.rs` : `LZDecoder::new`, `reset`, `set_limit`, `get_byte`
* `range_dec.rs`     : `RangeDecoder::prepare` (buffer variant)
* `xz/reader.rs`     : `Index::parse` (capacity), `BlockHeader::parse` (header size, dictionary property)
* `lzip/reader_mt.rs`: `scan_members`
* `lzip/reader.rs`   : `finish_current_member` (member size sum)
Definitions named `…Buggy` / `…Old` keep the arithmetic of earlier revisions of the code (with the repairing commit
in the comment) so that the proofs can exhibit the concrete overflow.  Theorems: `LzmaVerif/Proofs/TotalGuards.lean`.
Core Lean only.
-/
namespace LzmaVerif.Guards
open LzmaVerif

/-! ## Checked machine arithmetic -/

def add16 (a b : Nat) : Option Nat := if a + b < 2 ^ 16 then some (a + b) else none
def add32 (a b : Nat) : Option Nat := if a + b < 2 ^ 32 then some (a + b) else none
def add64 (a b : Nat) : Option Nat := if a + b < 2 ^ 64 then some (a + b) else none
/-- unsigned subtraction of any width: `none` on underflow -/
def sub (a b : Nat) : Option Nat := if b ≤ a then some (a - b) else none
def mul64 (a b : Nat) : Option Nat := if a * b < 2 ^ 64 then some (a * b) else none
/-- `x as u32`: `none` when the cast would drop bits -/
def castU32 (a : Nat) : Option Nat := if a < 2 ^ 32 then some a else none
/-- `x as usize` from `u64`/`u32`: lossless on a 64-bit target -/
def castUsize (a : Nat) : Option Nat := if a < 2 ^ 64 then some a else none
/-- `x << k` on `u32`: `none` when the shift count is out of range (panic) or bits are lost (silent) -/
def shl32 (a k : Nat) : Option Nat := if k < 32 ∧ a * 2 ^ k < 2 ^ 32 then some (a * 2 ^ k) else none
/-- `x & !15` (no overflow possible) -/
def andNot15 (x : Nat) : Nat := x / 16 * 16
/-- `a.saturating_add(b)` on `u64` -/
def satAdd64 (a b : Nat) : Nat := min (a + b) (2 ^ 64 - 1)

def U64_MAX : Nat := 2 ^ 64 - 1

/-! ## 1. LZMA2 reader: `get_dict_size` (`lzma2_reader.rs`) -/

/-- `(dict_size.clamp(DICT_SIZE_MIN, DICT_SIZE_MAX) + 15) & !15` on `u32` (current code, after `63a4a08`) -/
def lzma2DictRound (d : Nat) : Option Nat :=
  (add32 (max (min d Consts.DICT_SIZE_MAX) Consts.DICT_SIZE_MIN) 15).map andNot15

/-- the code before the repair `63a4a08`: `(dict_size.min(DICT_SIZE_MAX) + 15) & !15` — no lower clamp,
    a caller-supplied dictionary size 0 gives an empty buffer -/
def lzma2DictRoundBuggy (d : Nat) : Option Nat :=
  (add32 (min d Consts.DICT_SIZE_MAX) 15).map andNot15

/-- the code before the repair `da8bdb6`: `(dict_size + 15) & !15` -/
def lzma2DictRoundOld (d : Nat) : Option Nat := (add32 d 15).map andNot15

/-! ## 2. LZMA reader: `get_dict_size` and `construct2` (`lzma_reader.rs`) -/

/-- result of a fallible function whose arithmetic may also overflow:
    `none` = overflow, `some (.error ())` = `Err(..)`, `some (.ok v)` = `Ok(v)` -/
abbrev Res := Option (Except Unit Nat)

/-- `get_dict_size`: `Err` above `DICT_SIZE_MAX`, `max(4096)`, `(d + 15) & !15` -/
def lzmaDictRound (d : Nat) : Res :=
  if d > Consts.DICT_SIZE_MAX then some (.error ())
  else (add32 (max d 4096) 15).map fun x => .ok (andNot15 x)

/-- the dictionary size handed to `LZDecoder::new` by `construct2`.
`dict` : caller / header dictionary size (`u32`), `uncomp` : declared size (`u64`, `u64::MAX` = unknown),
`presetLen` : length of the preset dictionary (`usize`).  -/
def construct2Dict (dict uncomp presetLen : Nat) : Res :=
  match lzmaDictRound dict with
  | none => none
  | some (.error e) => some (.error e)
  | some (.ok d1) =>
    let needed := satAdd64 uncomp presetLen
    let step2 : Res :=
      if uncomp ≤ U64_MAX / 2 ∧ d1 > needed then
        -- `needed_size as u32`
        match castU32 needed with
        | none => none
        | some n32 => lzmaDictRound n32
      else some (.ok d1)
    match step2 with
    | none => none
    | some (.error e) => some (.error e)
    | some (.ok d2) =>
      -- `LZDecoder::new(get_dict_size(dict_size)? as _, preset_dict)`
      lzmaDictRound d2

/-- `get_memory_usage(dict_size, lc, lp)` in KiB (`u32`) -/
def lzmaMemUsage (dict lc lp : Nat) : Res :=
  if lc > 8 ∨ lp > 4 then some (.error ()) else
  match lzmaDictRound dict with
  | none => none
  | some (.error e) => some (.error e)
  | some (.ok d) =>
    match shl32 (2 * 0x300) (lc + lp) with
    | none => none
    | some t =>
      match add32 10 (d / 1024) with
      | none => none
      | some a => (add32 a (t / 1024)).map .ok

/-- `get_memory_usage_by_props(dict_size, props_byte)` -/
def lzmaMemUsageByProps (dict props : Nat) : Res :=
  if dict > Consts.DICT_SIZE_MAX then some (.error ())
  else if props > 224 then some (.error ())
  else
    let p := props % 45
    let lp := p / 9
    match sub p (lp * 9) with
    | none => none
    | some lc => lzmaMemUsage dict lc lp

/-! ## 3. XZ index: the capacity reserved for the record vector (`Index::parse`) -/

/-- `Vec::with_capacity(number_of_records.min(1024) as usize)` -/
def indexCapacity (count : Nat) : Nat := min count 1024

/-- the code before the repair `a9b8dbd`: `Vec::with_capacity(number_of_records as usize)`;
    an `IndexRecord` is 16 bytes and `Vec` refuses more than `isize::MAX` bytes (capacity overflow panic) -/
def indexCapacityOldBytes (count : Nat) : Option Nat :=
  if count * 16 ≤ 2 ^ 63 - 1 then some (count * 16) else none

/-! ## 4. `LZDecoder` (`lz/lz_decoder.rs`) -/

structure LzNew where
  bufLen : Nat        -- `vec![0; dict_size]`: the one allocation of the dictionary
  pos : Nat
  presetSkip : Nat    -- `ps = preset.len() - pos`
deriving Repr, DecidableEq

/-- `LZDecoder::new(dict_size, preset)`: `presetLen = none` for no preset dictionary -/
def lzDecoderNew (dictSize : Nat) (presetLen : Option Nat) : Option LzNew :=
  match presetLen with
  | none => some { bufLen := dictSize, pos := 0, presetSkip := 0 }
  | some pl =>
    let pos := min pl dictSize
    match sub pl pos with
    | none => none
    | some ps =>
      -- `buf[0..pos].copy_from_slice(&preset[ps..])`: needs `pos ≤ buf.len()` and `ps ≤ preset.len()`
      if pos ≤ dictSize ∧ ps ≤ pl ∧ pl - ps = pos then some { bufLen := dictSize, pos, presetSkip := ps } else none

/-- `LZDecoder::reset`: the index `self.buf_size - 1` written to; `none` = underflow / out of bounds -/
def lzResetIndex (bufSize : Nat) : Option Nat :=
  match sub bufSize 1 with
  | none => none
  | some i => if i < bufSize then some i else none

/-- `set_limit`: `(out_max + self.pos).min(self.buf_size)` -/
def lzSetLimit (outMax pos bufSize : Nat) : Option Nat := (add64 outMax pos).map fun s => min s bufSize

/-- `get_byte(dist)`: the index read; `none` = underflow or out of bounds -/
def lzGetByteIndex (bufSize pos dist : Nat) : Option Nat :=
  let off : Option Nat :=
    if dist ≥ pos then
      match add64 bufSize pos with
      | none => none
      | some s => match sub s dist with
        | none => none
        | some t => sub t 1
    else match sub pos dist with
      | none => none
      | some t => sub t 1
  match off with
  | none => none
  | some o => if o < bufSize then some o else none

/-- the complete LZMA2 reader construction: rounded dictionary, then the decoder's buffer -/
def lzma2ReaderBuf (dict : Nat) (presetLen : Option Nat) : Option LzNew :=
  match lzma2DictRound dict with
  | none => none
  | some d => match castUsize d with
    | none => none
    | some d => lzDecoderNew d presetLen

/-- the same with the dictionary rounding before the repair `63a4a08` -/
def lzma2ReaderBufBuggy (dict : Nat) (presetLen : Option Nat) : Option LzNew :=
  match lzma2DictRoundBuggy dict with
  | none => none
  | some d => match castUsize d with
    | none => none
    | some d => lzDecoderNew d presetLen

/-- the complete LZMA reader construction (`Err` = `some none`) -/
def lzmaReaderBuf (dict uncomp : Nat) (presetLen : Option Nat) : Option (Option LzNew) :=
  match construct2Dict dict uncomp (presetLen.getD 0) with
  | none => none
  | some (.error _) => some none
  | some (.ok d) => match castUsize d with
    | none => none
    | some d => (lzDecoderNew d presetLen).map some

/-! ## LZMA2 chunk header (`decode_chunk_header`) and `RangeDecoder::prepare` -/

/-- LZMA chunk: `((control & 0x1F) as usize) << 16` then `+= read_u16_be()? as usize + 1` (usize) -/
def lzmaChunkSize (control u16 : Nat) : Option Nat :=
  match mul64 (control % 32) 65536 with
  | none => none
  | some hi => match add64 u16 1 with
    | none => none
    | some lo => add64 hi lo

/-- LZMA chunk: `read_u16_be()? as usize + 1` -/
def lzmaChunkCompSize (u16 : Nat) : Option Nat := add64 u16 1

/-- stored chunk (current code, after `78a6282`): `self.inner.read_u16_be()? as usize + 1` -/
def storedChunkSize (u16 : Nat) : Option Nat := add64 u16 1

/-- stored chunk before the repair `78a6282`: `(self.inner.read_u16_be()? + 1) as _` — the `+ 1` was done in
    `u16`, so the size field `0xFFFF` of a maximal stored chunk overflowed (panic with overflow checks) -/
def storedChunkSizeBuggy (u16 : Nat) : Option Nat := add16 u16 1

/-- …and what the release build (no overflow checks) computed instead: the wrapped value -/
def storedChunkSizeBuggyWrapped (u16 : Nat) : Nat := (u16 + 1) % 2 ^ 16

/-- `RangeDecoder::prepare(reader, len)` with a buffer of `bufLen` (= `COMPRESSED_SIZE_MAX`) bytes:
    `Err` for `len < 5`, else `len - 5`, `pos = buf.len() - len`, `end = pos + len`; result `(pos, end)` -/
def rcPrepare (bufLen len : Nat) : Option (Except Unit (Nat × Nat)) :=
  if len < 5 then some (.error ()) else
  match sub len 5 with
  | none => none
  | some l => match sub bufLen l with
    | none => none
    | some pos => match add64 pos l with
      | none => none
      | some e => if e ≤ bufLen then some (.ok (pos, e)) else none

/-! ## XZ block header (`BlockHeader::parse`) -/

/-- `(header_size_encoded as usize + 1) * 4`, range check `8..=1024`, `header_size - 1` bytes allocated,
    `expected_offset = header_size - 1 - 4`; result `(allocated, expected_offset)` -/
def blockHeaderSizes (enc : Nat) : Option (Except Unit (Nat × Nat)) :=
  match add64 enc 1 with
  | none => none
  | some a => match mul64 a 4 with
    | none => none
    | some hs =>
      if ¬ (8 ≤ hs ∧ hs ≤ 1024) then some (.error ()) else
      match sub hs 1 with
      | none => none
      | some alloc => match sub alloc 4 with
        | none => none
        | some eo => some (.ok (alloc, eo))

/-- LZMA2 dictionary property: `Err` above 40, `0xFFFFFFFF` for 40,
    else `(2 | (prop & 1)) << (prop / 2 + 11)` on `u32` -/
def dictOfPropChecked (p : Nat) : Res :=
  if p > 40 then some (.error ())
  else if p = 40 then some (.ok 0xFFFFFFFF)
  else (shl32 (2 + p % 2) (p / 2 + 11)).map .ok

/-- index / block padding: `(4 - (n % 4)) % 4` -/
def pad4 (n : Nat) : Option Nat := (sub 4 (n % 4)).map (· % 4)

/-! ## LZIP single-threaded reader: `finish_current_member` -/

/-- `HEADER_SIZE as u64 + compressed_bytes + TRAILER_SIZE as u64` -/
def lzipMemberSize (compressedBytes : Nat) : Option Nat :=
  match add64 Consts.LZIP_HEADER_SIZE compressedBytes with
  | none => none
  | some a => add64 a Consts.LZIP_TRAILER_SIZE

/-! ## 5. LZIP multi-threaded reader: `scan_members` (`lzip/reader_mt.rs`) -/

inductive ScanErr where
  | tooSmall      -- "File too small to contain a valid LZIP member"
  | badSize       -- "Invalid LZIP member size in trailer"
  | eof           -- `read_exact` of the 4 magic bytes runs past the end of the file
  | badMagic      -- "Invalid LZIP magic bytes"
  | noMembers     -- "No valid LZIP members found"
  | leading       -- "Data in front of the first LZIP member": 1..19 bytes are left, too few for a member
  | arith         -- model only: an unsigned subtraction underflowed
  | fuel          -- model only: the fuel ran out
deriving Repr, DecidableEq

structure Member where
  start : Nat
  size : Nat
deriving Repr, DecidableEq

/-- the `while current_pos > 0` loop, scanning backwards from `cur`.
`memberSizeAt p` is the `member_size` field of the trailer that ends at `p`;
`magicAt p` says whether the four bytes at `p` are `LZIP`.
`acc` collects the members in file order (the code pushes and reverses at the end). -/
def scanLoop (fileSize : Nat) (memberSizeAt : Nat → Nat) (magicAt : Nat → Bool) :
    Nat → Nat → List Member → Except ScanErr (List Member)
  | 0, _, _ => .error .fuel
  | fuel+1, cur, acc =>
    if cur = 0 then .ok acc
    else if cur < Consts.LZIP_TRAILER_SIZE then .error .leading  -- (was `break`: the bytes were ignored)
    else
      -- `current_pos - TRAILER_SIZE`
      match sub cur Consts.LZIP_TRAILER_SIZE with
      | none => .error .arith
      | some _trailerPos =>
        let ms := memberSizeAt cur
        if ms = 0 ∨ ms > cur then .error .badSize else
        -- `current_pos - member_size`
        match sub cur ms with
        | none => .error .arith
        | some start =>
          if start + 4 > fileSize then .error .eof
          else if ¬ magicAt start then .error .badMagic
          else scanLoop fileSize memberSizeAt magicAt fuel start ({ start, size := ms } :: acc)

/-- `scan_members` -/
def scanMembersFuel (fuel fileSize : Nat) (memberSizeAt : Nat → Nat) (magicAt : Nat → Bool) :
    Except ScanErr (List Member) :=
  if fileSize < Consts.LZIP_HEADER_SIZE + Consts.LZIP_TRAILER_SIZE then .error .tooSmall else
  match scanLoop fileSize memberSizeAt magicAt fuel fileSize [] with
  | .error e => .error e
  | .ok [] => .error .noMembers
  | .ok ms => .ok ms

def scanMembers (fileSize : Nat) (memberSizeAt : Nat → Nat) (magicAt : Nat → Bool) :
    Except ScanErr (List Member) :=
  scanMembersFuel (fileSize + 1) fileSize memberSizeAt magicAt

/-- the two oracles of `scanMembers` read off an actual file -/
def leBytes : List Nat → Nat
  | [] => 0
  | b :: bs => b + 256 * leBytes bs

def memberSizeOf (file : List Nat) (p : Nat) : Nat := leBytes ((file.drop (p - 8)).take 8)
def magicOf (file : List Nat) (p : Nat) : Bool := (file.drop p).take 4 == Consts.LZIP_MAGIC

def scanFile (file : List Nat) : Except ScanErr (List Member) :=
  scanMembers file.length (memberSizeOf file) (magicOf file)

/-- `vec![0u8; member.compressed_size as usize]` in `dispatch_next_member`: bytes allocated per member -/
def dispatchAlloc (m : Member) : Option Nat := castUsize m.size

end LzmaVerif.Guards
