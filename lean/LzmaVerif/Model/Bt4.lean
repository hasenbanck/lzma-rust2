/-
  Executable model of the binary-tree match finder BT4 (src/lz/bt4.rs, with src/lz/hash234.rs and the
  parts of src/lz/lz_encoder.rs it uses: `move_pos`, `get_byte*`, `Matches`).

  Import-free apart from the shared base: the compiled driver runs these definitions
  (`Driver/MfBt4.lean`, request `mf.trace kind=bt4 ...`) and the real code is compared with them through
  the hook `verif_hooks::mf_trace`.

  Coordinates are LOGICAL (see `MfBase.lean`): `data` is everything ever put into the window, all of it is
  present ("finishing" semantics), `St.pos` is the number of `move_pos` calls made so far (the logical
  `read_pos + 1`), so during a `find`/`skip` step the byte looked at is `p = pos - 1` (after the move).

  Every array index and every data index the Rust code touches is recorded in an optional access log
  (`St.log`; `none` = logging off, which is what the driver uses); `Proofs/Bt4Access.lean` proves that every
  logged access is in bounds.
-/
import LzmaVerif.Model.MfBase
namespace LzmaVerif.Mf.Bt4

/-- every constant / comparison shape of `bt4.rs` that matters, as data (defaults = current source; a
    translator regenerates an instance from the Rust text on every run) -/
structure Bt4Params where
  d2Strict    : Bool := true   -- bt4.rs:174 `delta2 < self.cyclic_size`        (false = `<=`)
  d3Strict    : Bool := true   -- bt4.rs:188 `delta3 < self.cyclic_size`        (false = `<=`)
  treeStopGe  : Bool := true   -- bt4.rs:98 and :237 `delta >= self.cyclic_size` (false = `>`)
  pairSelGt   : Bool := true   -- bt4.rs:105 and :244 `(delta > self.cyclic_pos)` (false = `>=`)
  niceStopGe  : Bool := true   -- bt4.rs:213 `len_best >= nice_len_limit`, :265 `len >= nice_len_limit` (false = `>`)
  bestStrict  : Bool := true   -- bt4.rs:257 `len > len_best`                   (false = `>=`)
  cyclicExtra : Nat := 1       -- bt4.rs:31 `cyclic_size = dict_size as i32 + 1`
  treeFactor  : Nat := 2       -- bt4.rs:34/36 tree length `cyclic_size as usize * 2`
  shLeft      : Nat := 1       -- bt4.rs:26 `sh_left(i) = ((i as u32) << 1) as i32`
  distSub     : Nat := 1       -- bt4.rs:179, :193, :262 `dist = delta - 1`
  h2Len       : Nat := 2       -- bt4.rs:177-178 `len_best = 2; matches.len[0] = 2`
  h3Len       : Nat := 3       -- bt4.rs:191 `len_best = 3`
  lenBestFloor : Nat := 3      -- bt4.rs:221-222 `if len_best < 3 { len_best = 3 }`
  minAvailFinishing : Nat := 4 -- bt4.rs:65 `encoder.move_pos(encoder.nice_len as _, 4)`
  depthBase   : Nat := 16      -- bt4.rs:46 `16 + nice_len as i32 / 2`
  depthDiv    : Nat := 2       -- bt4.rs:46
  hash        : HashParams := {}
  deriving Repr, DecidableEq

/-- the conditions on the source constants that the proofs need -/
def Bt4Params.ok (P : Bt4Params) : Prop :=
  P.d2Strict = true ∧ P.d3Strict = true ∧ P.treeStopGe = true ∧ P.pairSelGt = true ∧
  P.niceStopGe = true ∧ P.bestStrict = true ∧
  P.cyclicExtra = 1 ∧ 2 ≤ P.treeFactor ∧ P.shLeft = 1 ∧ P.distSub = 1 ∧
  P.h2Len = 2 ∧ P.h3Len = 3 ∧ 2 ≤ P.lenBestFloor ∧ P.lenBestFloor < P.minAvailFinishing ∧
  -- hash234.rs: the 2-byte hash keeps all 8 bits of byte 1, the 3-byte hash all 8 bits of byte 2
  0 < P.hash.hash2Size ∧ P.hash.hash2Size % 256 = 0 ∧
  0 < P.hash.hash3Size ∧ P.hash.hash3Size % 65536 = 0 ∧ P.hash.shift3 = 8 ∧
  -- `calc_hashes` reads 4 bytes: a position is only hashed when at least 4 bytes are available
  4 ≤ P.minAvailFinishing

instance (P : Bt4Params) : Decidable P.ok := by unfold Bt4Params.ok; exact inferInstance

/-- the run-time parameters of `LZEncoder::new_bt4` -/
structure Cfg where
  dict    : Nat
  niceLen : Nat
  mlmax   : Nat
  depth   : Nat   -- raw `depth_limit` option, 0 = default formula
  deriving Repr, DecidableEq

/-- one access of the Rust code: an index into a table, or a byte of the window -/
inductive Access where
  | h2 (i : Nat)                      -- `hash2_table[i]`
  | h3 (i : Nat)                      -- `hash3_table[i]`
  | h4 (i : Nat)                      -- `hash4_table[i]`
  | tree (i : Nat)                    -- `self.tree[i]`
  | byte (p fwd back : Nat)           -- `buf[read_pos + fwd - back]` with logical `read_pos = p`
  | extend (p cur delta limit : Nat)  -- `extend_match(buf, p, cur, delta, limit)`: slices `[p+cur, p+limit)` and the same minus `delta`
  deriving Repr, DecidableEq

abbrev Log := Option (List Access)

@[inline] def Log.push (l : Log) (a : Access) : Log :=
  match l with
  | none => none
  | some xs => some (a :: xs)

/-- `BT4` + `Hash234` + the logical read position -/
structure St where
  h2 : Array Nat
  h3 : Array Nat
  h4 : Array Nat
  tree : Array Nat
  cyclicPos : Nat   -- Rust starts at -1; the model starts at `cyclic_size - 1`: both become 0 at the first
                    -- successful `move_pos` and the value is never used before
  lzPos : Nat
  pos : Nat         -- number of `move_pos` calls so far = logical `read_pos + 1`
  log : Log

def cyclicSize (P : Bt4Params) (c : Cfg) : Nat := c.dict + P.cyclicExtra

/-- bt4.rs:43-47 -/
def depthLimit (P : Bt4Params) (c : Cfg) : Nat :=
  if c.depth > 0 then c.depth else P.depthBase + c.niceLen / P.depthDiv

/-- `BT4::new` -/
def init (P : Bt4Params) (c : Cfg) (logging : Bool) : St :=
  let cs := cyclicSize P c
  { h2 := Array.replicate P.hash.hash2Size 0
    h3 := Array.replicate P.hash.hash3Size 0
    h4 := Array.replicate (hash4Size P.hash c.dict) 0
    tree := Array.replicate (cs * P.treeFactor) 0
    cyclicPos := cs - 1
    lzPos := cs
    pos := 0
    log := if logging then some [] else none }

/-- `BT4::move_pos` on top of `LZEncoderData::move_pos(nice_len, 4)` with `finishing = true`:
    returns the new state and `avail` (0 = the byte stays pending). -/
def movePos (P : Bt4Params) (c : Cfg) (dsize : Nat) (s : St) : St × Nat :=
  let ⟨h2, h3, h4, tree, cyclicPos, lzPos, pos, log⟩ := s
  let avail := dsize - pos          -- `write_pos - read_pos` after `read_pos += 1`
  -- `avail < required_for_flushing && (avail < required_for_finishing || !self.finishing)`
  let avail := if avail < c.niceLen ∧ avail < P.minAvailFinishing then 0 else avail
  if avail ≠ 0 then
    let cp := cyclicPos + 1
    (⟨h2, h3, h4, tree, if cp = cyclicSize P c then 0 else cp, lzPos + 1, pos + 1, log⟩, avail)
  else (⟨h2, h3, h4, tree, cyclicPos, lzPos, pos + 1, log⟩, avail)

/-- `hash.calc_hashes(encoder.read_buffer())` at logical position `p` -/
def hashesAt (P : Bt4Params) (c : Cfg) (data : Array UInt8) (p : Nat) : Hashes :=
  calcHashes P.hash (hash4Size P.hash c.dict - 1)
    (byteAt data p) (byteAt data (p + 1)) (byteAt data (p + 2)) (byteAt data (p + 3))

def logHashReads (lg : Log) (p : Nat) : Log :=
  (((lg.push (.byte p 0 0)).push (.byte p 1 0)).push (.byte p 2 0)).push (.byte p 3 0)

def ltOrLe (strict : Bool) (a b : Nat) : Bool := if strict then decide (a < b) else decide (a ≤ b)
def geOrGt (ge : Bool) (a b : Nat) : Bool := if ge then decide (a ≥ b) else decide (a > b)

/-- the values that stay fixed during one tree walk -/
structure Ctx where
  p : Nat
  lzPos : Nat
  cyclicPos : Nat
  cs : Nat
  lenLimit : Nat
  niceLimit : Nat

def shl (P : Bt4Params) (x : Nat) : Nat := x <<< P.shLeft

/-- bt4.rs:105-106 / :244-245 `pair = sh_left(cyclic_pos - delta + cyclic_size * (delta > cyclic_pos))`
    (the sum is formed before the subtraction because the model computes in `Nat`) -/
def pairOf (P : Bt4Params) (k : Ctx) (delta : Nat) : Nat :=
  let sel := if geOrGt (!P.pairSelGt) delta k.cyclicPos then k.cs else 0
  shl P (k.cyclicPos + sel - delta)

/-- bt4.rs:99-101 / :238-240 -/
def terminate (tree : Array Nat) (ptr0 ptr1 : Nat) (lg : Log) : Array Nat × Log :=
  ((tree.setIfInBounds ptr0 0).setIfInBounds ptr1 0, (lg.push (.tree ptr0)).push (.tree ptr1))

/-- bt4.rs:119-120 / :266-267 -/
def relink (tree : Array Nat) (ptr0 ptr1 pair : Nat) (lg : Log) : Array Nat × Log :=
  let tree := tree.setIfInBounds ptr1 (tree.getD pair 0)
  let tree := tree.setIfInBounds ptr0 (tree.getD (pair + 1) 0)
  (tree, (((lg.push (.tree pair)).push (.tree ptr1)).push (.tree (pair + 1))).push (.tree ptr0))

/-- the tree walk of `find_matches` (bt4.rs:231-283); the first argument is `depth` -/
def findLoop (P : Bt4Params) (data : Array UInt8) (k : Ctx) :
    Nat → Array Nat → Nat → Nat → Nat → Nat → Nat → Nat → Array Match → Log →
    Array Nat × Array Match × Log
  | 0, tree, ptr0, ptr1, _, _, _, _, ms, lg =>
    let (tree, lg) := terminate tree ptr0 ptr1 lg
    (tree, ms, lg)
  | depth + 1, tree, ptr0, ptr1, len0, len1, cur, lenBest, ms, lg =>
    let delta := k.lzPos - cur
    if geOrGt P.treeStopGe delta k.cs then
      let (tree, lg) := terminate tree ptr0 ptr1 lg
      (tree, ms, lg)
    else
      let pair := pairOf P k delta
      let len := extendMatch data k.p delta k.lenLimit (min len0 len1)
      let lg := lg.push (.extend k.p (min len0 len1) delta k.lenLimit)
      let hit := ltOrLe P.bestStrict lenBest len
      let ms := if hit then ms.push (len, delta - P.distSub) else ms
      if hit && geOrGt P.niceStopGe len k.niceLimit then
        let (tree, lg) := relink tree ptr0 ptr1 pair lg
        (tree, ms, lg)
      else
        let lenBest := if hit then len else lenBest
        let lg := (lg.push (.byte k.p len delta)).push (.byte k.p len 0)
        if byteAt data (k.p + len - delta) < byteAt data (k.p + len) then
          let tree := tree.setIfInBounds ptr1 cur
          let lg := (lg.push (.tree ptr1)).push (.tree (pair + 1))
          findLoop P data k depth tree ptr0 (pair + 1) len0 len (tree.getD (pair + 1) 0) lenBest ms lg
        else
          let tree := tree.setIfInBounds ptr0 cur
          let lg := (lg.push (.tree ptr0)).push (.tree pair)
          findLoop P data k depth tree pair ptr1 len len1 (tree.getD pair 0) lenBest ms lg

/-- the inner loop of the private `skip` (bt4.rs:116-126): entered with `len` bytes known equal and the
    byte at `len` equal too.  Returns the new `len` and whether `len == nice_len_limit` was hit.
    The first argument is fuel (`nice_len_limit` suffices; the Rust loop has no other bound than a
    mismatch, the fuel never runs out when `len < nice_len_limit`, see `skipInner_spec`). -/
def skipInner (data : Array UInt8) (p delta niceLimit : Nat) : Nat → Nat → Log → Nat × Bool × Log
  | 0, len, lg => (len, false, lg)
  | fuel + 1, len, lg =>
    let len := len + 1
    if len = niceLimit then (len, true, lg)
    else
      let lg := (lg.push (.byte p len delta)).push (.byte p len 0)
      if byteAt data (p + len - delta) ≠ byteAt data (p + len) then (len, false, lg)
      else skipInner data p delta niceLimit fuel len lg

/-- the tree walk of the private `BT4::skip` (bt4.rs:95-140) -/
def skipLoop (P : Bt4Params) (data : Array UInt8) (k : Ctx) :
    Nat → Array Nat → Nat → Nat → Nat → Nat → Nat → Log → Array Nat × Log
  | 0, tree, ptr0, ptr1, _, _, _, lg => terminate tree ptr0 ptr1 lg
  | depth + 1, tree, ptr0, ptr1, len0, len1, cur, lg =>
    let delta := k.lzPos - cur
    if geOrGt P.treeStopGe delta k.cs then terminate tree ptr0 ptr1 lg
    else
      let pair := pairOf P k delta
      let len := min len0 len1
      let lg := (lg.push (.byte k.p len delta)).push (.byte k.p len 0)
      let (len, nice, lg) :=
        if byteAt data (k.p + len - delta) = byteAt data (k.p + len) then
          skipInner data k.p delta k.niceLimit k.niceLimit len lg
        else (len, false, lg)
      if nice then relink tree ptr0 ptr1 pair lg
      else
        let lg := (lg.push (.byte k.p len delta)).push (.byte k.p len 0)
        if byteAt data (k.p + len - delta) < byteAt data (k.p + len) then
          let tree := tree.setIfInBounds ptr1 cur
          let lg := (lg.push (.tree ptr1)).push (.tree (pair + 1))
          skipLoop P data k depth tree ptr0 (pair + 1) len0 len (tree.getD (pair + 1) 0) lg
        else
          let tree := tree.setIfInBounds ptr0 cur
          let lg := (lg.push (.tree ptr0)).push (.tree pair)
          skipLoop P data k depth tree pair ptr1 len len1 (tree.getD pair 0) lg

/-- result of `calc_hashes` + `get_hash{2,3,4}_pos` + `update_tables(lz_pos)` -/
structure HashStage where
  st : St
  delta2 : Nat
  delta3 : Nat
  cur : Nat

/-- bt4.rs:162-166 (`find_matches`) and :303-305 (`skip`); `p = pos - 1` -/
def hashStage (P : Bt4Params) (c : Cfg) (data : Array UInt8) (s : St) : HashStage :=
  let ⟨h2, h3, h4, tree, cyclicPos, lzPos, pos, log⟩ := s
  let p := pos - 1
  let h := hashesAt P c data p
  let log := logHashReads log p
  let e2 := h2.getD h.h2 0
  let e3 := h3.getD h.h3 0
  let e4 := h4.getD h.h4 0
  let log := ((log.push (.h2 h.h2)).push (.h3 h.h3)).push (.h4 h.h4)
  let h2 := h2.setIfInBounds h.h2 lzPos
  let h3 := h3.setIfInBounds h.h3 lzPos
  let h4 := h4.setIfInBounds h.h4 lzPos
  { st := ⟨h2, h3, h4, tree, cyclicPos, lzPos, pos, log⟩, delta2 := lzPos - e2, delta3 := lzPos - e3, cur := e4 }

def ctxOf (P : Bt4Params) (c : Cfg) (s : St) (lenLimit niceLimit : Nat) : Ctx :=
  { p := s.pos - 1, lzPos := s.lzPos, cyclicPos := s.cyclicPos, cs := cyclicSize P c,
    lenLimit := lenLimit, niceLimit := niceLimit }

/-- the private `BT4::skip(encoder, nice_len_limit, current_match)` -/
def skipTree (P : Bt4Params) (c : Cfg) (data : Array UInt8) (s : St) (niceLimit cur : Nat) : St :=
  let k := ctxOf P c s 0 niceLimit
  let ⟨h2, h3, h4, tree, cyclicPos, lzPos, pos, log⟩ := s
  let (tree, log) := skipLoop P data k (depthLimit P c) tree (shl P cyclicPos + 1) (shl P cyclicPos) 0 0 cur log
  ⟨h2, h3, h4, tree, cyclicPos, lzPos, pos, log⟩

/-- result of the two hash candidates (bt4.rs:168-196): `lenBest`, the matches so far, the `delta2`
    that is extended afterwards -/
structure Cands where
  lenBest : Nat
  ms : Array Match
  delta2 : Nat
  log : Log

def hashCands (P : Bt4Params) (data : Array UInt8) (p cs delta2 delta3 : Nat) (lg : Log) : Cands :=
  -- bt4.rs:174-181
  let lg2 := if ltOrLe P.d2Strict delta2 cs then (lg.push (.byte p 0 delta2)).push (.byte p 0 0) else lg
  let m2 := ltOrLe P.d2Strict delta2 cs && byteAt data (p - delta2) == byteAt data p
  let lenBest := if m2 then P.h2Len else 0
  let ms : Array Match := if m2 then #[(P.h2Len, delta2 - P.distSub)] else #[]
  -- bt4.rs:187-196 (`matches.len[count]` is filled in by the extension below)
  let g3 := delta2 != delta3 && ltOrLe P.d3Strict delta3 cs
  let lg3 := if g3 then (lg2.push (.byte p 0 delta3)).push (.byte p 0 0) else lg2
  let m3 := g3 && byteAt data (p - delta3) == byteAt data p
  if m3 then { lenBest := P.h3Len, ms := ms.push (P.h3Len, delta3 - P.distSub), delta2 := delta3, log := lg3 }
  else { lenBest := lenBest, ms := ms, delta2 := delta2, log := lg3 }

/-- bt4.rs:199-209: extend the last candidate -/
def extendCands (data : Array UInt8) (p lenLimit : Nat) (cd : Cands) : Cands :=
  if cd.ms.size > 0 then
    let lenBest := extendMatch data p cd.delta2 lenLimit cd.lenBest
    let c := cd.ms.size - 1
    { lenBest := lenBest, ms := cd.ms.modify c (fun m => (lenBest, m.2)), delta2 := cd.delta2,
      log := cd.log.push (.extend p cd.lenBest cd.delta2 lenLimit) }
  else cd

/-- `BT4::find_matches` -/
def find (P : Bt4Params) (c : Cfg) (data : Array UInt8) (s : St) : St × Array Match :=
  let (s, avail) := movePos P c data.size s
  -- bt4.rs:152-160
  if avail < c.mlmax ∧ avail = 0 then (s, #[]) else
  let lenLimit := if avail < c.mlmax then avail else c.mlmax
  let niceLimit := if avail < c.mlmax ∧ c.niceLen > avail then avail else c.niceLen
  let ⟨s, delta2, delta3, cur⟩ := hashStage P c data s
  let k := ctxOf P c s lenLimit niceLimit
  let ⟨h2, h3, h4, tree, cyclicPos, lzPos, pos, log⟩ := s
  let cd := extendCands data k.p lenLimit (hashCands P data k.p k.cs delta2 delta3 log)
  -- bt4.rs:213-216
  if cd.ms.size > 0 ∧ geOrGt P.niceStopGe cd.lenBest niceLimit = true then
    (skipTree P c data ⟨h2, h3, h4, tree, cyclicPos, lzPos, pos, cd.log⟩ niceLimit cur, cd.ms)
  else
    -- bt4.rs:221-223
    let lenBest := if cd.lenBest < P.lenBestFloor then P.lenBestFloor else cd.lenBest
    let (tree, ms, log) :=
      findLoop P data k (depthLimit P c) tree (shl P cyclicPos + 1) (shl P cyclicPos) 0 0 cur lenBest cd.ms cd.log
    (⟨h2, h3, h4, tree, cyclicPos, lzPos, pos, log⟩, ms)

/-- one iteration of the public `BT4::skip` loop (bt4.rs:293-307) -/
def skipOne (P : Bt4Params) (c : Cfg) (data : Array UInt8) (s : St) : St :=
  let (s, avail) := movePos P c data.size s
  -- bt4.rs:296-301
  if avail < c.niceLen ∧ avail = 0 then s else
  let niceLimit := if avail < c.niceLen then avail else c.niceLen
  let ⟨s, _, _, cur⟩ := hashStage P c data s
  skipTree P c data s niceLimit cur

/-- the public `BT4::skip(len)` -/
def skip (P : Bt4Params) (c : Cfg) (data : Array UInt8) : Nat → St → St
  | 0, s => s
  | n + 1, s => skip P c data n (skipOne P c data s)

/-- one script element: 0 = `find_matches()`, n > 0 = `skip(n)`; a find appends `(p, matches)` -/
def runOp (P : Bt4Params) (c : Cfg) (data : Array UInt8) (op : Nat) (s : St)
    (tr : Array (Nat × List Match)) : St × Array (Nat × List Match) :=
  if op = 0 then
    let p := s.pos
    let (s, ms) := find P c data s
    (s, tr.push (p, ms.toList))
  else (skip P c data op s, tr)

/-- the hook `mf_trace`: ops are executed while the encoder `has_enough_data(0)`
    (`read_pos < write_pos - 1` once started) -/
def runOps (P : Bt4Params) (c : Cfg) (data : Array UInt8) :
    List Nat → St → Array (Nat × List Match) → St × Array (Nat × List Match)
  | [], s, tr => (s, tr)
  | op :: rest, s, tr =>
    if s.pos > 0 ∧ ¬ s.pos < data.size then (s, tr)
    else
      let (s, tr) := runOp P c data op s tr
      runOps P c data rest s tr

def runScript (P : Bt4Params) (c : Cfg) (data : Array UInt8) (script : List Nat) (logging : Bool := false) :
    St × List (Nat × List Match) :=
  let (s, tr) := runOps P c data script (init P c logging) #[]
  (s, tr.toList)

end LzmaVerif.Mf.Bt4
