import LzmaVerif.Model.MTTrace
/-
Trace validation for the multi-threaded WRITERS (`src/enc/lzma2_writer_mt.rs`, `src/lzip/writer_mt.rs`).

Finding of the trace validation: the writers' coordinator does NOT follow `MT.coordStep`.  Its loop
`get_next_compressed_chunk(blocking)` is driven by `write` / `flush` / `finish`; a unit is pushed by
`send_work_unit` after `while work_queue.len() >= 4 { blocking receive }` WITHOUT polling the result
channel first, a non-blocking poll that finds nothing returns to `write`, `Finishing` ends only when
the reorder buffer is empty, and `finish` closes the queue itself before `Drop` does it again.  The LTS's
coordinator receives whatever is in the channel before it looks at the queue and the source, so e.g.
"push unit 5 while the result of unit 1 waits in the channel" is a behaviour of the writers that is not a
path of the LTS.  The WORKER loop, the queue, the channel, the error store and the flags are the same code
shape in all four types.

What is validated for the writers therefore is the OPEN system: the workers follow `MT.workerStep`
exactly (same renaming / stutter rules as for the readers), and the shared state evolves only by worker
steps and by the coordinator's logged operations on the shared objects, applied as environment actions
(`envStep`): push (append + wake the first waiter), spawn, receive the head of the channel, take / set
the error, deliver the next unit in order, close.  What the coordinator observes (`active_workers`,
`work_queue.len()`, error store empty / set, channel empty / head) is compared with the model state.
Core Lean only.
-/
namespace LzmaVerif.MT.TraceW
open LzmaVerif.MT LzmaVerif.MT.Trace

inductive EnvAct where
  | push (q : Nat) | spawn | recv | takeErr | setErr | deliver (q : Nat) | close
deriving DecidableEq, Repr

inductive OLabel where
  | worker (i : Nat) | env (a : EnvAct)
deriving DecidableEq, Repr

/-- the coordinator's operations on the shared objects -/
def envStep (s : Sys) : EnvAct → Option Sys
  | .push q => some { s with queue := s.queue ++ [q], ws := wakeOne s.ws, nextDispatch := q + 1 }
  | .spawn => some { s with ws := s.ws ++ [.chkShutdown] }
  | .recv => match s.chan with
    | _ :: r => some { s with chan := r }
    | [] => none
  | .takeErr => if s.errStored then some { s with errStored := false } else none
  | .setErr => some { s with errStored := true, shutdown := true }
  | .deliver q =>
    if q = s.nextReturn then some { s with nextReturn := q + 1, delivered := s.delivered ++ [q] } else none
  | .close => some { s with shutdown := true, closed := true, ws := wakeAll s.ws }

def ostep (s : Sys) : OLabel → Option Sys
  | .worker i => workerStep s i
  | .env a => envStep s a

def orun (s : Sys) : List OLabel → Option Sys
  | [] => some s
  | l :: ls => (ostep s l).bind fun s' => orun s' ls

theorem orun_append (s : Sys) (a b : List OLabel) :
    orun s (a ++ b) = (orun s a).bind fun s' => orun s' b := by
  induction a generalizing s with
  | nil => rfl
  | cons l ls ih =>
    simp only [List.cons_append, orun]
    cases ostep s l with
    | none => rfl
    | some s1 => exact ih s1

structure OPath (cfg : Cfg) where
  rev : List OLabel
  sys : Sys
  ok : orun (init cfg) rev.reverse = some sys

def OPath.start (cfg : Cfg) : OPath cfg := ⟨[], init cfg, rfl⟩

def OPath.step {cfg : Cfg} (p : OPath cfg) (l : OLabel) : Option (OPath cfg) :=
  match h : ostep p.sys l with
  | none => none
  | some s' => some ⟨l :: p.rev, s', by
      rw [List.reverse_cons, orun_append, p.ok]
      simp [orun, h]⟩

structure WS (cfg : Cfg) where
  path : OPath cfg
  perm : List Nat
  blocked : List Bool
  nSwap : Nat := 0
  nPhantom : Nat := 0
  nDropWin : Nat := 0
  nPushBusy : Nat := 0  -- pushes while a message waits in the channel (`MT.coordStep` polls it before a push)

def WS.start (cfg : Cfg) : WS cfg :=
  { path := OPath.start cfg, perm := List.range cfg.initialWorkers,
    blocked := List.replicate cfg.initialWorkers false }

abbrev RW (cfg : Cfg) := Except String (WS cfg)

def env {cfg : Cfg} (v : WS cfg) (a : EnvAct) : RW cfg :=
  match v.path.step (.env a) with
  | some p => .ok { v with path := p }
  | none => .error s!"coordinator operation {repr a} is not possible in the model state"

def chk {cfg : Cfg} (v : WS cfg) (b : Bool) (what : String) : RW cfg :=
  if b then .ok v else .error s!"the coordinator observed {what}, the model state differs"

def wStep {cfg : Cfg} (v : WS cfg) (j : Nat) (pre : WPc → Bool) (post : WPc → Bool) : RW cfg :=
  match v.path.sys.ws[j]? with
  | none => .error "no such worker in the model"
  | some w =>
    if !pre w then .error s!"model worker {j} is at {repr w}"
    else match v.path.step (.worker j) with
      | none => .error s!"worker step not enabled (model worker {j} at {repr w})"
      | some p =>
        match p.sys.ws[j]? with
        | some w' =>
          if post w' then .ok { v with path := p }
          else .error s!"the model's step has a different outcome (model worker {j}: {repr w} -> {repr w'})"
        | none => .error "worker vanished"

def findSwap {cfg : Cfg} (v : WS cfg) : Option Nat :=
  (List.range v.perm.length).find? fun i2 =>
    v.blocked.getD i2 false && v.path.sys.ws[v.perm.getD i2 0]? == some .steal

def ensureSteal {cfg : Cfg} (v : WS cfg) (i : Nat) : WS cfg :=
  if v.path.sys.ws[v.perm.getD i 0]? == some .waiting then
    match findSwap v with
    | some i2 => { v with perm := swapPerm v.perm i i2, nSwap := v.nSwap + 1 }
    | none => v
  else v

def setBlocked {cfg : Cfg} (v : WS cfg) (i : Nat) (b : Bool) : WS cfg := { v with blocked := v.blocked.set i b }

/-- the worker events: identical to `Trace.onW` (the worker loop is the same code in all four types) -/
def onW {cfg : Cfg} (v : WS cfg) (i : Nat) (e : WEv) : RW cfg :=
  if i ≥ v.perm.length then .error "unknown worker" else
  match e with
  | .start =>
    if v.path.sys.ws[v.perm.getD i 0]? == some .chkShutdown then .ok v else .error "a new worker starts at chkShutdown"
  | .sd b => wStep v (v.perm.getD i 0) (· == .chkShutdown) (fun w' => (w' == .exited) == b)
  | .pop q => let v := ensureSteal v i; wStep v (v.perm.getD i 0) (· == .steal) (· == .got q)
  | .closed => let v := ensureSteal v i; wStep v (v.perm.getD i 0) (· == .steal) (· == .exited)
  | .wait =>
    let v := ensureSteal v i
    let j := v.perm.getD i 0
    match v.path.sys.ws[j]? with
    | some .steal =>
      if v.path.sys.closed then .ok { setBlocked v i true with nDropWin := v.nDropWin + 1 }
      else (wStep v j (· == .steal) (· == .waiting)).map fun v => setBlocked v i true
    | some .waiting => .ok { setBlocked v i true with nPhantom := v.nPhantom + 1 }
    | w => .error s!"model worker {j} is at {repr w}"
  | .woke => .ok (setBlocked v i false)
  | .inc => wStep v (v.perm.getD i 0) (fun w => match w with | .got _ => true | _ => false) (fun _ => true)
  | .ok q => wStep v (v.perm.getD i 0) (· == .work q) (· == .send q)
  | .fail q => wStep v (v.perm.getD i 0) (· == .work q) (· == .failDecr)
  | .sent q _ => wStep v (v.perm.getD i 0) (· == .send q) (· == .decr)
  | .dec => wStep v (v.perm.getD i 0) (fun w => w == .decr || w == .failDecr) (fun _ => true)
  | .setErr => wStep v (v.perm.getD i 0) (· == .failSet) (· == .failWake)
  | .sentWake => wStep v (v.perm.getD i 0) (· == .failWake) (· == .exited)
  | .exit =>
    let j := v.perm.getD i 0
    match v.path.sys.ws[j]? with
    | some .exited => .ok v
    | some .chkShutdown => wStep v j (· == .chkShutdown) (· == .exited)
    | w => .error s!"thread returns while model worker {j} is at {repr w}"

def onRecv {cfg : Cfg} (v : WS cfg) : RecvObs → RW cfg
  | .empty => chk v v.path.sys.chan.isEmpty "an empty channel"
  | .result q => do
    let v ← chk v (v.path.sys.chan.head? == some (.result q)) s!"result {q} at the head of the channel"
    env v .recv
  | .wake => do
    let v ← chk v (v.path.sys.chan.head? == some .wake) "the wake-up message at the head of the channel"
    env v .recv
  | .disc => .error "the channel cannot be disconnected: the writer holds a sender"

def onEv {cfg : Cfg} (v : WS cfg) : Ev → RW cfg
  | .w i e => onW v i e
  | .drop => env v .close
  | .ret (.data q) => env v (.deliver q)
  | .c (.push q) =>
    env { v with nPushBusy := v.nPushBusy + (if v.path.sys.chan.isEmpty then 0 else 1) } (.push q)
  | .c (.ldActive a) => chk v (v.path.sys.active == a) s!"active_workers = {a}"
  | .c (.spawn _ q d) => do
    let v ← chk v (v.path.sys.queue.length == q) s!"work_queue.len() = {q}"
    if d then
      let v ← env v .spawn
      pure { v with perm := v.perm ++ [v.perm.length], blocked := v.blocked ++ [false] }
    else pure v
  | .c (.err true) => env v .takeErr
  | .c (.err false) => chk v (!v.path.sys.errStored) "an empty error store"
  | .c (.tryRecv r) => onRecv v r
  | .c (.recv r) => onRecv v r
  | .c (.src .err) => env v .setErr
  | _ => .ok v      -- control flow of the writers' coordinator: not part of the open system

def finalOk (s : Sys) : Bool := s.closed && s.shutdown && s.ws.all (· == .exited)

def replayFrom {cfg : Cfg} (v : WS cfg) (k : Nat) : List Ev → Except (Nat × String) (WS cfg)
  | [] => .ok v
  | e :: r =>
    match onEv v e with
    | .ok v' => replayFrom v' (k + 1) r
    | .error m => .error (k, s!"{m}; model: {showSys v.path.sys}")

def replay (cfg : Cfg) (evs : List Ev) : Except (Nat × String) (WS cfg) :=
  match replayFrom (WS.start cfg) 0 (resolveSpawn evs) with
  | .ok v =>
    if finalOk v.path.sys then .ok v
    else .error (evs.length, s!"final state: queue not closed or a worker has not exited; model: {showSys v.path.sys}")
  | .error e => .error e

end LzmaVerif.MT.TraceW
