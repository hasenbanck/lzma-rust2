import LzmaVerif.Proofs.LzipDict
import LzmaVerif.Proofs.XzInt
import Mathlib.Tactic.IntervalCases
/-! # C02 — container header fields round-trip: LZIP dictionary byte, XZ multibyte integers, LZMA2 dictionary property -/
namespace LzmaVerif.Props.C02
open LzmaVerif LzmaVerif.Lzip

theorem encodeDict_eq (d : Nat) (h1 : 4096 ≤ d) (h2 : d ≤ 2^29) :
    (2 ^ ceilLog2 d - d) / 2 ^ (ceilLog2 d - 4) ≤ 7 ∧
    encodeDict d = some ((2 ^ ceilLog2 d - d) / 2 ^ (ceilLog2 d - 4) * 32 + ceilLog2 d) ∧
    d ≤ 2 ^ ceilLog2 d - 2 ^ (ceilLog2 d - 4) * ((2 ^ ceilLog2 d - d) / 2 ^ (ceilLog2 d - 4)) ∧
    2 ^ ceilLog2 d - 2 ^ (ceilLog2 d - 4) * ((2 ^ ceilLog2 d - d) / 2 ^ (ceilLog2 d - 4) + 1) < d := by
  obtain ⟨hb12, hb29, hle, hgt⟩ := ceilLog2_spec d h1 h2
  have henc : encodeDict d =
      (if 2 ^ ceilLog2 d > d then
        (if (2 ^ ceilLog2 d - d) / 2 ^ (ceilLog2 d - 4) > 7 then
          (if ceilLog2 d + 1 > 29 then none else some (ceilLog2 d + 1))
         else some ((2 ^ ceilLog2 d - d) / 2 ^ (ceilLog2 d - 4) * 32 + ceilLog2 d))
       else some (ceilLog2 d)) := by
    unfold encodeDict encodeDictWith
    simp only [min_eq, max_eq]
    have c1 : ¬ (d < 4096 ∨ d > 2 ^ 29) := by omega
    have c2 : ¬ (ceilLog2 d > 29) := by omega
    simp only [c1, c2, if_false, pow_div16 (ceilLog2 d) (by omega)]
  rw [henc]
  generalize ceilLog2 d = b at *
  have hU : 0 < 2 ^ (b - 4) := Nat.pow_pos (by decide)
  have hsplit : 2 ^ b = 16 * 2 ^ (b - 4) := pow_split b (by omega)
  have hhalf : b = 12 ∨ 8 * 2 ^ (b - 4) < d := by
    rcases hgt with h | h
    · exact Or.inl h
    · right
      have e : 2 ^ (b - 1) = 8 * 2 ^ (b - 4) := by
        have : b - 1 = (b - 4) + 3 := by omega
        rw [this, Nat.pow_add]; omega
      omega
  have hk1 : (2 ^ b - d) / 2 ^ (b - 4) * 2 ^ (b - 4) ≤ 2 ^ b - d := Nat.div_mul_le_self _ _
  have hk2 : 2 ^ b - d < ((2 ^ b - d) / 2 ^ (b - 4) + 1) * 2 ^ (b - 4) :=
    Nat.lt_mul_of_div_lt (Nat.lt_succ_self _) hU
  generalize (2 ^ b - d) / 2 ^ (b - 4) = k at *
  have hk7 : k ≤ 7 := by
    by_contra hc
    have : 8 * 2 ^ (b - 4) ≤ k * 2 ^ (b - 4) := Nat.mul_le_mul_right _ (by omega)
    rcases hhalf with h | h
    · subst h
      have : (2:Nat) ^ 12 = 4096 := by decide
      omega
    · omega
  refine ⟨hk7, ?_, ?_, ?_⟩
  · by_cases hgt' : 2 ^ b > d
    · have c3 : ¬ (k > 7) := by omega
      simp only [hgt', if_true, c3, if_false]
    · simp only [hgt', if_false]
      have : k = 0 := by
        by_contra hc
        have : 1 * 2 ^ (b - 4) ≤ k * 2 ^ (b - 4) := Nat.mul_le_mul_right _ (by omega)
        omega
      rw [this]; simp only [Nat.zero_mul, Nat.zero_add]
  · rw [Nat.mul_comm]; omega
  · rw [Nat.mul_comm]; omega

/-- **C02 / LZIP header byte.**  For every dictionary size the format supports, the byte the
writer emits (i) fits a byte, (ii) is accepted by the reader, (iii) announces a dictionary `d'`
with `d ≤ d'`, and (iv) `d'` is the smallest size any accepted byte (`e'' < 256`) can announce
that is `≥ d`. -/
theorem lzipDict (d : Nat) (h1 : 4096 ≤ d) (h2 : d ≤ 2^29) :
    ∃ e d', encodeDict d = some e ∧ e < 256 ∧ decodeDict e = some d' ∧ d ≤ d' ∧
      ∀ e'' d'', e'' < 256 → decodeDict e'' = some d'' → d ≤ d'' → d' ≤ d'' := by
  obtain ⟨hb12, hb29, hle, hgt⟩ := ceilLog2_spec d h1 h2
  obtain ⟨hk7, henc, hge, hlt⟩ := encodeDict_eq d h1 h2
  generalize ceilLog2 d = b at *
  generalize (2 ^ b - d) / 2 ^ (b - 4) = k at *
  have hU : 0 < 2 ^ (b - 4) := Nat.pow_pos (by decide)
  have hsplit : 2 ^ b = 16 * 2 ^ (b - 4) := pow_split b (by omega)
  have hpb : 2 ^ b ≤ 2 ^ 29 := Nat.pow_le_pow_right (by decide) hb29
  have hkU : 2 ^ (b - 4) * k ≤ 7 * 2 ^ (b - 4) := by
    rw [Nat.mul_comm]; exact Nat.mul_le_mul_right _ hk7
  refine ⟨k * 32 + b, 2 ^ b - 2 ^ (b - 4) * k, henc, by omega, ?_, hge, ?_⟩
  · rw [decodeDict_eq b k hb12 hb29 hk7]
    have : 4096 ≤ 2 ^ b - 2 ^ (b - 4) * k ∧ 2 ^ b - 2 ^ (b - 4) * k ≤ 2 ^ 29 := by omega
    simp only [this, and_self, if_true]
  · intro e'' d'' hbyte hdec hdd
    obtain ⟨hb1, hb2, hd'', _, _⟩ := decodeDict_some e'' d'' hdec
    have hk2le7 : e'' / 32 ≤ 7 := by omega
    generalize e'' % 32 = b2 at *
    generalize e'' / 32 = k2 at *
    have hV : 0 < 2 ^ (b2 - 4) := Nat.pow_pos (by decide)
    have hsplit2 : 2 ^ b2 = 16 * 2 ^ (b2 - 4) := pow_split b2 (by omega)
    rcases Nat.lt_trichotomy b2 b with hlt2 | heq | hgt2
    · -- smaller base: d'' ≤ 2^b2 ≤ 2^(b-1) < d unless b = 12 (impossible, b2 ≥ 12)
      exfalso
      have hmono : 2 ^ (b2 - 4) * 2 ≤ 2 ^ (b - 4) := by
        have : 2 ^ (b2 - 4 + 1) ≤ 2 ^ (b - 4) := Nat.pow_le_pow_right (by decide) (by omega)
        rwa [Nat.pow_succ] at this
      -- d > 8U because b > 12
      rcases hgt with h | h
      · omega
      · have e : 2 ^ (b - 1) = 8 * 2 ^ (b - 4) := by
          have : b - 1 = (b - 4) + 3 := by omega
          rw [this, Nat.pow_add]; omega
        omega
    · subst heq
      -- same base: k2 ≤ k
      have hk2le : k2 ≤ k := by
        by_contra hc
        have : (k + 1) * 2 ^ (b2 - 4) ≤ k2 * 2 ^ (b2 - 4) := Nat.mul_le_mul_right _ (by omega)
        rw [Nat.mul_comm (2 ^ (b2 - 4)) (k + 1)] at hlt
        rw [Nat.mul_comm (2 ^ (b2 - 4)) k2] at hd''
        omega
      have : 2 ^ (b2 - 4) * k2 ≤ 2 ^ (b2 - 4) * k := Nat.mul_le_mul_left _ hk2le
      omega
    · -- larger base: d'' ≥ 9·2^(b2-4) ≥ 18·2^(b-4) > 2^b ≥ d'
      have hmono : 2 ^ (b - 4) * 2 ≤ 2 ^ (b2 - 4) := by
        have : 2 ^ (b - 4 + 1) ≤ 2 ^ (b2 - 4) := Nat.pow_le_pow_right (by decide) (by omega)
        rwa [Nat.pow_succ] at this
      have : 2 ^ (b2 - 4) * k2 ≤ 2 ^ (b2 - 4) * 7 := Nat.mul_le_mul_left _ hk2le7
      omega

/-- non-vacuity: the hypotheses are met by an off-grid size, and the byte is the expected one -/
example : encodeDict 5000 = some 0xCD ∧ decodeDict 0xCD = some 5120 := by decide

/-- **Witness against the pinned code** (defect F4): with the fraction rounded *up* the header
announces 4608 bytes for a 5000-byte dictionary. -/
theorem lzipDictBuggy_witness :
    (encodeDictBuggy 5000).bind decodeDict = some 4608 ∧ ¬ (5000 ≤ 4608) := by decide

open LzmaVerif.XzInt in
/-- **C02 / XZ multibyte integers.**  Every value below 2^63 is encoded into at most 9 bytes,
the size function used for the index/backward-size computation predicts that length, and the
reader-side parser returns the value and consumes exactly those bytes, whatever follows. -/
theorem multibyte_rt (v : Nat) (hv : v < 2 ^ 63) (rest : List Nat) :
    ∃ bs, XzInt.encode v = some bs ∧ bs.length = sizeFor v ∧ bs.length ≤ 9 ∧
      parseReader (bs ++ rest) = .ok v bs.length := by
  have hsz : sizeFor v ≤ 9 := sizeForFuel_le_nine 10 hv
  refine ⟨encodeFuel 10 v, if_neg (by omega), encodeFuel_length 10 v, ?_, ?_⟩
  · rwa [encodeFuel_length]
  · have h := parseReaderAux_encodeFuel 10 v 9 0 0 0 rest (by omega) (by decide) hsz
      (by unfold sizeFor at hsz; omega)
    rwa [Nat.pow_zero, Nat.mul_one, Nat.zero_add, Nat.zero_add, ← encodeFuel_length] at h

/-- values of 2^63 and above are refused by the encoder (never silently truncated) -/
theorem multibyte_refuses (v : Nat) (hv : 2 ^ 63 ≤ v) : XzInt.encode v = none := by
  have : v > 2 ^ 63 - 1 := by omega
  simp only [XzInt.encode, this, if_true]

example : XzInt.encode 300 = some [0xAC, 0x02] ∧ XzInt.parseReader [0xAC, 0x02, 7] = .ok 300 2 := by
  decide

open LzmaVerif.XzInt in
/-- **C02 / LZMA2 dictionary property.**  For every dictionary size from 4 KiB to 3 GiB the
block header announces a size the reader accepts, at least as large as the one requested, and
no smaller property would do. -/
theorem lzma2DictProp (d : Nat) (h1 : 4096 ≤ d) (h2 : d ≤ 3 * 2 ^ 30) :
    ∃ p d', propOfDict d = some p ∧ p ≤ 40 ∧ dictOfProp p = some d' ∧ d ≤ d' ∧
      ∀ q d'', q < p → dictOfProp q = some d'' → d'' < d := by
  have hne : d ≠ 0xFFFFFFFF := by omega
  have hlt : ¬ d < 4096 := by omega
  have h39 : d ≤ propSize 39 := by
    have : propSize 39 = 3 * 2 ^ 30 := by decide
    omega
  obtain ⟨r, hr⟩ := findProp_total d 41 0 (by decide) (by decide) h39
  obtain ⟨_, r40, rge, rmin⟩ := findProp_spec d 41 0 r hr
  refine ⟨r, propSize r, ?_, by omega, ?_, rge, ?_⟩
  · simp only [propOfDict, hlt, hne, if_false]; exact hr
  · have a : ¬ r > 40 := by omega
    have b : ¬ r = 40 := by omega
    simp only [dictOfProp, a, b, if_false]; rfl
  · intro q d'' hq hd
    have a : ¬ q > 40 := by omega
    have b : ¬ q = 40 := by omega
    simp only [dictOfProp, a, b, if_false, Option.some.injEq] at hd
    rw [← hd]
    exact rmin q (Nat.zero_le _) hq

example : XzInt.propOfDict 5000 = some 1 ∧ XzInt.dictOfProp 1 = some 6144 := by decide

end LzmaVerif.Props.C02
