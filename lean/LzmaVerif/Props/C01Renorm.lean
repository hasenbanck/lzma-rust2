import LzmaVerif.Proofs.MfRenormHc4
import LzmaVerif.Proofs.MfRenormBt4
import LzmaVerif.Props.C01Mf
/-!
# C01: the match finders AFTER they have renormalised their 31-bit positions

`src/lz/hc4.rs` / `bt4.rs` keep their own position counter `lz_pos : i32`; the hash tables, the chain and the tree
store `lz_pos` values, 0 means "empty".  When `lz_pos` reaches `0x7FFFFFFF`, `move_pos` subtracts
`0x7FFFFFFF - cyclic_size` from the counter and from every stored entry, clamping at 0
(`Hash234::normalize`, `LZEncoder::normalize`).  `Model/Hc4Renorm.lean` / `Model/Bt4Renorm.lean` are the step models
WITH that branch (and with the start value of `lz_pos` as a parameter); the real finders are run against them with
biased starts (hook `mf_trace_biased`, request `mf.trace … lzstart=`), so that the crossing happens inside the trace.

The theorems: a SIMULATION.  For every input, every script of `find_matches()` / `skip(n)` calls, every start value
`lz_pos ≥ cyclic_size`, every threshold (`NormParams`, regenerated from the source; `ok` = the offset is computed
from the threshold) and any number of crossings, the renormalising finder reports exactly the matches of the logical
finder of `Model/Hc4.lean` / `Model/Bt4.lean` (`hc4_renorm_simulates`, `bt4_renorm_simulates`).  Hence what is proved
of the matches the logical finders report holds for the renormalising ones (`hc4_sound_with_renorm`,
`bt4_tree_matches_valid_with_renorm`, …; for BT4 also the access log), and the counter and every stored entry stay
below the threshold (`hc4_renorm_fits_31_bits`, `bt4_renorm_fits_31_bits`): no `i32` subtraction `lz_pos - entry` can wrap, whatever the
input size.  Of the hypothesis `size + dict + 2 < 2^31` of the theorems about the logical finders, only the WINDOW needs a part
(`read_pos`, `write_pos : i32` index a buffer of `dict + extra` bytes; `Proofs/EncWindow*.lean`).

The relation is `Mf.ERel` (`Proofs/MfRenorm.lean`); why the ambiguous value 0 ("empty" or "clamped") is harmless: head of
`Model/Hc4Renorm.lean`.
-/
namespace LzmaVerif.Props.C01Renorm
open LzmaVerif.Mf

theorem generated_hc4_norm_ok : MfGen.hc4Norm.ok := by decide
theorem generated_bt4_norm_ok : MfGen.bt4Norm.ok := by decide
/-- the threshold is the largest `i32` (so "below the threshold" = "fits 31 bits") -/
theorem generated_norm_threshold : MfGen.hc4Norm.maxPos = 2 ^ 31 - 1 ∧ MfGen.bt4Norm.maxPos = 2 ^ 31 - 1 := by decide

/-- **HC4 simulation**: for every input `d`, option set `c`, script, start value `lzStart ≥ cyclic_size` of `lz_pos`
    and normalisation constants `N` (any threshold; `N.ok`: offset = threshold - cyclic_size), the renormalising
    finder produces the same trace `[(position, matches)]` as the logical finder. -/
theorem hc4_renorm_simulates (N : NormParams) (hN : N.ok) (P : Hc4.Hc4Params) (hP : P.ok) (c : Hc4.Cfg)
    (d : Array UInt8) (lzStart : Nat) (hs : Hc4.cyclicSize P c ≤ lzStart) (script : List Nat) :
    (Hc4.runScriptN N P c d lzStart script).1 = (Hc4.runScript P c d script).1 :=
  (Hc4.runScriptAuxN_sim N P c d hN hP script [] (Hc4.initN_sim P c hP lzStart hs)).1

theorem hc4_renorm_state_related (N : NormParams) (hN : N.ok) (P : Hc4.Hc4Params) (hP : P.ok) (c : Hc4.Cfg)
    (d : Array UInt8) (lzStart : Nat) (hs : Hc4.cyclicSize P c ≤ lzStart) (script : List Nat) :
    Hc4.Sim (Hc4.cyclicSize P c) (Hc4.runScriptN N P c d lzStart script).2 (Hc4.runScript P c d script).2 :=
  (Hc4.runScriptAuxN_sim N P c d hN hP script [] (Hc4.initN_sim P c hP lzStart hs)).2

/-- one more `find_matches` / `skip` in related states: same matches, related states again (the `find` and `skip`
    fields of `EncFast.Finder.Sim`, `Proofs/EncFastSim.lean`, for the renormalising finder against the logical one; no
    theorem about the encoders' drivers over the renormalising finder is stated) -/
theorem hc4_renorm_step (N : NormParams) (hN : N.ok) (P : Hc4.Hc4Params) (hP : P.ok) (c : Hc4.Cfg)
    (d : Array UInt8) (sN sL : Hc4.State) (h : Hc4.Sim (Hc4.cyclicSize P c) sN sL) :
    (Hc4.findN N P c d sN).1 = (Hc4.find P c d sL).1 ∧
    Hc4.Sim (Hc4.cyclicSize P c) (Hc4.findN N P c d sN).2 (Hc4.find P c d sL).2 ∧
    ∀ n, Hc4.Sim (Hc4.cyclicSize P c) (Hc4.skipN N P c d n sN) (Hc4.skip P c d n sL) :=
  ⟨(Hc4.findN_sim N P c d hN hP h).1, (Hc4.findN_sim N P c d hN hP h).2, fun n => Hc4.skipN_sim N P c d hN n h⟩

/-- **HC4 soundness with renormalisation**: every find of every script on the renormalising finder reports only
    valid matches (real repetitions inside data and dictionary, at most the limit long), with increasing lengths,
    within the capacity of `Matches` - for EVERY input size (no `2^31` hypothesis) and every start of `lz_pos`. -/
theorem hc4_sound_with_renorm (N : NormParams) (hN : N.ok) (P : Hc4.Hc4Params) (hP : P.ok) (c : Hc4.Cfg)
    (d : Array UInt8) (hd : 1 ≤ c.dict) (hml : 3 ≤ c.mlmax) (lzStart : Nat)
    (hs : Hc4.cyclicSize P c ≤ lzStart) (script : List Nat) :
    ∀ f ∈ (Hc4.runScriptN N P c d lzStart script).1,
      (∀ m ∈ f.2, ValidMatch d c.dict f.1 (min c.mlmax (d.size - f.1)) m) ∧
      lensIncreasing f.2 = true ∧
      (3 ≤ c.niceLen → f.2.length ≤ c.niceLen - 1) := by
  rw [hc4_renorm_simulates N hN P hP c d lzStart hs script]
  exact Hc4.hc4_script_sound P hP c d hd hml script

/-- the same at the constants regenerated from the source, started like `HC4::new` does (`lz_pos = dict_size + 1`) -/
theorem hc4_generated_sound_with_renorm (c : Hc4.Cfg) (d : Array UInt8) (hd : 1 ≤ c.dict) (hml : 3 ≤ c.mlmax)
    (script : List Nat) :
    ∀ f ∈ (Hc4.runScriptN MfGen.hc4Norm MfGen.hc4Params c d (c.dict + MfGen.hc4Params.lzPosInitExtra) script).1,
      (∀ m ∈ f.2, ValidMatch d c.dict f.1 (min c.mlmax (d.size - f.1)) m) ∧
      lensIncreasing f.2 = true ∧
      (3 ≤ c.niceLen → f.2.length ≤ c.niceLen - 1) :=
  hc4_sound_with_renorm _ generated_hc4_norm_ok _ C01Mf.generated_hc4_params_ok c d hd hml _
    (Nat.le_refl _) script

/-- **31 bits suffice**: started below the threshold, `lz_pos` of the renormalising finder stays in
    `[cyclic_size, maxPos)` through every script, and no stored entry exceeds it - so `lz_pos - entry` never wraps
    in `i32` and the model's natural-number arithmetic is the code's arithmetic, for inputs of any size. -/
theorem hc4_renorm_fits_31_bits (N : NormParams) (hN : N.ok) (P : Hc4.Hc4Params) (hP : P.ok) (c : Hc4.Cfg)
    (d : Array UInt8) (lzStart : Nat) (hs : Hc4.cyclicSize P c ≤ lzStart) (hlt : lzStart < N.maxPos)
    (script : List Nat) :
    let s := (Hc4.runScriptN N P c d lzStart script).2
    Hc4.cyclicSize P c ≤ s.lzPos ∧ s.lzPos < N.maxPos ∧
    ∀ i : Nat, s.h2.getD i 0 ≤ s.lzPos ∧ s.h3.getD i 0 ≤ s.lzPos ∧ s.h4.getD i 0 ≤ s.lzPos ∧
      s.chain.getD i 0 ≤ s.lzPos := by
  intro s
  have hS := hc4_renorm_state_related N hN P hP c d lzStart hs script
  refine ⟨hS.lzN, ?_, fun i => ⟨(hS.h2.get i).1, (hS.h3.get i).1, (hS.h4.get i).1, (hS.chain.get i).1⟩⟩
  exact (Hc4.runScriptAuxN_lzB N P c d hN script _ [] ⟨hs, hlt⟩).2

/-- **BT4 simulation**: same trace, for every input, option set, script, start value, threshold; and the final
    states are related (same position, ring position, ACCESS LOG; tables and tree related entry by entry) -/
theorem bt4_renorm_simulates (N : NormParams) (hN : N.ok) (P : Bt4.Bt4Params) (hP : P.ok) (c : Bt4.Cfg)
    (data : Array UInt8) (lzStart : Nat) (hs : Bt4.cyclicSize P c ≤ lzStart) (script : List Nat)
    (logging : Bool) :
    (Bt4.runScriptN N P c data lzStart script logging).2 = (Bt4.runScript P c data script logging).2 ∧
    Bt4.Sim (Bt4.cyclicSize P c) (Bt4.runScriptN N P c data lzStart script logging).1
      (Bt4.runScript P c data script logging).1 := by
  have h := Bt4.runOpsN_sim (data := data) hN hP script #[] (Bt4.initN_sim logging lzStart hs)
  unfold Bt4.runScriptN Bt4.runScript
  exact ⟨congrArg Array.toList h.2, h.1⟩

/-- one more `find_matches` / `skip` in related states -/
theorem bt4_renorm_step (N : NormParams) (hN : N.ok) (P : Bt4.Bt4Params) (hP : P.ok) (c : Bt4.Cfg)
    (data : Array UInt8) (sN sL : Bt4.St) (h : Bt4.Sim (Bt4.cyclicSize P c) sN sL) :
    (Bt4.findN N P c data sN).2 = (Bt4.find P c data sL).2 ∧
    Bt4.Sim (Bt4.cyclicSize P c) (Bt4.findN N P c data sN).1 (Bt4.find P c data sL).1 ∧
    ∀ n, Bt4.Sim (Bt4.cyclicSize P c) (Bt4.skipN N P c data n sN) (Bt4.skip P c data n sL) :=
  ⟨(Bt4.findN_sim hN hP h).2, (Bt4.findN_sim hN hP h).1, fun n => Bt4.skipN_sim hN hP n h⟩

/-- **BT4 (B5) with renormalisation**: in every state the renormalising finder reaches by a script, every match
    `find_matches` reports - hash candidates and tree descent, every `depth_limit` - is a real repetition.
    (`HypA` carries `data.size + dict + 2 < 2^31`: the proof of the logical theorem `bt4_tree_matches_valid`
    uses it in exactly one place, `InvG.noNorm`, to say that ITS counter stays below the threshold, which is
    irrelevant here.) -/
theorem bt4_tree_matches_valid_with_renorm (N : NormParams) (hN : N.ok) {P : Bt4.Bt4Params} {c : Bt4.Cfg}
    {data : Array UInt8} (hA : Bt4.HypA P c data) (lzStart : Nat) (hs : Bt4.cyclicSize P c ≤ lzStart)
    (script : List Nat) (logging : Bool) :
    let s := (Bt4.runScriptN N P c data lzStart script logging).1
    ∀ m ∈ (Bt4.findN N P c data s).2.toList, ValidMatch data c.dict s.pos (min c.mlmax (data.size - s.pos)) m := by
  intro s
  have hS := (bt4_renorm_simulates N hN P hA.toHyp.ok c data lzStart hs script logging).2
  rw [(Bt4.findN_sim hN hA.toHyp.ok hS).2, hS.pos]
  exact Bt4.bt4_tree_matches_valid hA script logging

/-- lengths, distances, strictly increasing lengths, capacity - with renormalisation -/
theorem bt4_find_bounds_with_renorm (N : NormParams) (hN : N.ok) {P : Bt4.Bt4Params} {c : Bt4.Cfg}
    {data : Array UInt8} (hH : Bt4.Hyp P c data) (lzStart : Nat) (hs : Bt4.cyclicSize P c ≤ lzStart)
    (script : List Nat) (logging : Bool) :
    let s := (Bt4.runScriptN N P c data lzStart script logging).1
    (∀ m ∈ (Bt4.findN N P c data s).2.toList,
      2 ≤ m.1 ∧ m.1 ≤ min c.mlmax (data.size - s.pos) ∧ m.2 + 1 ≤ s.pos ∧ m.2 + 1 ≤ c.dict) ∧
    lensIncreasing (Bt4.findN N P c data s).2.toList = true ∧
    (Bt4.findN N P c data s).2.size ≤ c.niceLen - 1 := by
  intro s
  have hS := (bt4_renorm_simulates N hN P hH.ok c data lzStart hs script logging).2
  rw [(Bt4.findN_sim hN hH.ok hS).2, hS.pos]
  exact Bt4.bt4_find_bounds hH script logging

/-- the access log of the renormalising finder IS the access log of the logical finder, so
    `bt4_indices_in_bounds` covers it: no table, tree or window index out of range after a renormalisation -/
theorem bt4_indices_in_bounds_with_renorm (N : NormParams) (hN : N.ok) {P : Bt4.Bt4Params} {c : Bt4.Cfg}
    {data : Array UInt8} (hA : Bt4.HypA P c data) (lzStart : Nat) (hs : Bt4.cyclicSize P c ≤ lzStart)
    (script : List Nat) :
    ∀ l, (Bt4.runScriptN N P c data lzStart script true).1.log = some l → ∀ a ∈ l, Bt4.AccessOk P c data a := by
  have hS := (bt4_renorm_simulates N hN P hA.toHyp.ok c data lzStart hs script true).2
  rw [hS.log]
  exact Bt4.bt4_indices_in_bounds hA script

/-- the same at the constants regenerated from the source, started like `BT4::new` does (`lz_pos = cyclic_size`) -/
theorem bt4_generated_tree_matches_valid_with_renorm {c : Bt4.Cfg} {data : Array UInt8}
    (hA : Bt4.HypA MfGen.bt4Params c data) (script : List Nat) (logging : Bool) :
    let s := (Bt4.runScriptN MfGen.bt4Norm MfGen.bt4Params c data (Bt4.cyclicSize MfGen.bt4Params c) script logging).1
    ∀ m ∈ (Bt4.findN MfGen.bt4Norm MfGen.bt4Params c data s).2.toList,
      ValidMatch data c.dict s.pos (min c.mlmax (data.size - s.pos)) m :=
  bt4_tree_matches_valid_with_renorm _ generated_bt4_norm_ok hA _ (Nat.le_refl _) script logging

/-- **31 bits suffice** (BT4) -/
theorem bt4_renorm_fits_31_bits (N : NormParams) (hN : N.ok) (P : Bt4.Bt4Params) (hP : P.ok) (c : Bt4.Cfg)
    (data : Array UInt8) (lzStart : Nat) (hs : Bt4.cyclicSize P c ≤ lzStart) (hlt : lzStart < N.maxPos)
    (script : List Nat) (logging : Bool) :
    let s := (Bt4.runScriptN N P c data lzStart script logging).1
    Bt4.cyclicSize P c ≤ s.lzPos ∧ s.lzPos < N.maxPos ∧
    ∀ i : Nat, s.h2.getD i 0 ≤ s.lzPos ∧ s.h3.getD i 0 ≤ s.lzPos ∧ s.h4.getD i 0 ≤ s.lzPos ∧
      s.tree.getD i 0 ≤ s.lzPos := by
  intro s
  have hS := (bt4_renorm_simulates N hN P hP c data lzStart hs script logging).2
  refine ⟨hS.lzN, ?_, fun i => ⟨(hS.h2.get i).1, (hS.h3.get i).1, (hS.h4.get i).1, (hS.tree.get i).1⟩⟩
  exact Bt4.runScriptN_lz_lt hN lzStart script logging hs hlt

/-! ## non-vacuity: a crossing inside a run

Dictionary 8 (`cyclic_size = 9`), threshold 40 instead of `0x7FFFFFFF` (the theorems hold for every threshold); the
runs are in the comment at the end: started at `lz_pos = 30`, the 10th position reaches 40, all
tables are renormalised (`lz_pos` becomes 9) - in the middle of the data - and the matches found afterwards still
reach back across the crossing. -/

def tinyNorm : NormParams := { maxPos := 40, offBase := 40 }

/-- "abcabcabcabcXabcabcabc_abX" -/
def w1 : Array UInt8 :=
  #[97, 98, 99, 97, 98, 99, 97, 98, 99, 97, 98, 99, 88, 97, 98, 99, 97, 98, 99, 97, 98, 99, 95, 97, 98, 88]
/-- "aXcdefghaYcdefgh__" -/
def w6 : Array UInt8 := #[97, 88, 99, 100, 101, 102, 103, 104, 97, 89, 99, 100, 101, 102, 103, 104, 95, 95]

example : tinyNorm.ok ∧ ({} : NormParams).ok := by decide

example : tinyNorm.ok ∧ ({} : NormParams).ok ∧ Hc4.cyclicSize {} Hc4.cfg8 ≤ 30 ∧ 30 < tinyNorm.maxPos := by decide

/- NOT checked by the build: evaluated with `#eval` only (small tables `Hc4.tinyHash` / `Bt4.wHashT`; on the table arrays
   `decide +kernel` needs too long for these runs):
   * `(Hc4.runScriptN tinyNorm {hash := tinyHash} cfg8 w1 30 (List.replicate 26 0)).1` equals the logical trace, contains
     `(13, [(3, 3), (6, 6)]), (14, [(2, 3), (5, 6)])` after the crossing at position 9; final `lz_pos` 22 vs 32.
   * `(Bt4.runScriptN {maxPos := 90, offBase := 90} {hash := wHashT} ⟨64, 8, 273, 0⟩ tData 70 [28, 0]).2 =
     [(28, [(6, 7), (7, 21)])]`, crossing inside the `skip(28)`; final `lz_pos` 74 vs 94.
   * `NormParams.ok` matters (and the invariant `cyclic_size ≤ lz_pos` behind the value 0): with `offBase := 41`,
     `maxPos := 40`, start 31, on `w6` = "aXcdefghaYcdefgh__" and script `[8, 0]` the renormalising HC4 reports
     `[(8, [(8, 7)])]` - `lz_pos` is 8 < `cyclic_size` = 9 right after the crossing, the EMPTY hash2 slot (value 0) of the
     new pair "aY" passes `delta2 < cyclic_size` and an invalid match comes out (`d[9] = 'Y' ≠ 'X' = d[1]`); with
     `offBase := 40` and in the logical finder the answer is `[(8, [])]`. -/

end LzmaVerif.Props.C01Renorm
