import LzmaVerif.Proofs.MT
import LzmaVerif.Proofs.Split
import LzmaVerif.Proofs.BcjStream
/-!
# C13 — compressed output is a pure function of input and options

* The model encoder is a Lean function, so for the modelled part determinism is by construction; it is
  transferred to the code by the byte-exact correspondence of C01/C02 (the real bytes are reproduced by
  the model from the parse) and by the repeated-run / partition oracle of this check.
* `mt_output_is_schedule_free` – for the protocol of the MT readers (the writers' coordinator is not
  `MT.coordStep`, see `Model/MTTraceW.lean`): any two complete runs, under ANY two
  schedules and any worker counts ≥ 1, hand over the same sequence of units (0,1,2,… in order).
* `unit_cutting_depends_on_bytes_only` – the slices are determined by the total byte count and the
  configured unit size, not by the partition into write calls.
* `filter_output_partition_free` – the BCJ stage inside XZ does not depend on the partition.
-/
namespace LzmaVerif.Props.C13
open LzmaVerif

theorem mt_output_is_schedule_free (cfg₁ cfg₂ : MT.Cfg) (hu : cfg₁.units = cfg₂.units)
    (h₁ : 1 ≤ cfg₁.maxWorkers) (h₂ : 1 ≤ cfg₂.maxWorkers)
    (sched₁ sched₂ : List MT.Label) (s₁ s₂ : MT.Sys)
    (r₁ : MT.runSched (MT.init cfg₁) sched₁ = some s₁) (r₂ : MT.runSched (MT.init cfg₂) sched₂ = some s₂)
    (d₁ : s₁.pc = .idle (some .done)) (d₂ : s₂.pc = .idle (some .done)) :
    s₁.delivered = s₂.delivered := by
  rw [MT.mt_done_delivered cfg₁ h₁ sched₁ s₁ r₁ d₁, MT.mt_done_delivered cfg₂ h₂ sched₂ s₂ r₂ d₂, hu]

theorem unit_cutting_depends_on_bytes_only (lim : Nat) (hl : 0 < lim) (p q : List Nat) (h : p.sum = q.sum) :
    Split.mtUnits lim p = Split.mtUnits lim q := Split.mtUnits_partition_independent lim hl p q h

theorem filter_output_partition_free (a : Filters.Arch) (start : Nat) (p q : List (List Nat))
    (h : p.flatten = q.flatten) : BcjStream.writeParts a start p = BcjStream.writeParts a start q := by
  rw [BcjStream.writeParts_eq_oneShot, BcjStream.writeParts_eq_oneShot, h]

end LzmaVerif.Props.C13
