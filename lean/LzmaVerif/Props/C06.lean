import LzmaVerif.Proofs.Total
/-!
# C06 — decoders stay total on untrusted bytes (PARTIAL: the arithmetic and progress part)

What a theorem can carry of "no panic, abort, hang or blow-up" is (1) the fixed-width arithmetic that
attacker-controlled values flow through never leaves its type and every index stays inside its buffer
(`Model/Guards.lean`: u16/u32/u64/usize operations return `none` where Rust would overflow / index out of
bounds, and the theorems show `none` never happens), and (2) progress: every loop of the reader models
consumes input or produces output, so the fuel the models carry is never what stops them, the number of
records / members / blocks / chunks is bounded by the input length, and the work per decoded symbol is
bounded by a constant.  The arithmetic of the code before four repairs (dictionary size 0 and 0xFFFFFFFF, 64 KiB
stored chunk, Index capacity) is kept as `…Buggy` / `…Old` definitions (`pinned_arithmetic_witnesses`).

Allocation bound of the property ("declared dictionary + proportional to the input"):
`lzma2_reader_buffer` / `lzma_reader_buffer` (buffer ≤ max dict 4096 + 15 and ≤ declared size + preset +
15 when a size is declared), `index_capacity_bounded` with `index_records_bounded_by_input`,
`lzip_mt_scan_bounded` (≤ |file|/4 members, disjoint, inside the file).

NOT carried by theorems: panics / aborts / stack depth of the real code outside the modelled arithmetic,
wall-clock time, the allocator.  Those are decided by the hostile-input oracle on the real decoders
(panic, process abort in a child process, time, peak heap against the bound of the property).
-/
namespace LzmaVerif.Props.C06
open LzmaVerif LzmaVerif.Guards

/-- LZMA2 dictionary rounding (`get_dict_size`): total for every caller-supplied u32, also 0 and 0xFFFFFFFF -/
theorem lzma2_dict_rounding_total : ∀ d, d < 2 ^ 32 →
    ∃ r, lzma2DictRound d = some r ∧ min d Consts.DICT_SIZE_MAX ≤ r ∧ r % 16 = 0 ∧ r < 2 ^ 32 :=
  Total.lzma2DictRound_total

theorem lzma2_reader_buffer (dict : Nat) (hd : dict < 2 ^ 32) (presetLen : Option Nat) :
    ∃ r, lzma2ReaderBuf dict presetLen = some r ∧ r.bufLen = Lzma2.dictBufOf dict ∧
      4096 ≤ r.bufLen ∧ r.bufLen ≤ max dict 4096 + 15 ∧ r.bufLen < 2 ^ 32 ∧ r.pos ≤ r.bufLen :=
  Total.lzma2ReaderBuf_total dict hd presetLen

/-- `LZMAReader::construct2`: error exactly above DICT_SIZE_MAX, otherwise a buffer bounded by the declared
    dictionary and (when a size is declared) by size + preset; the `as u32` cast is exact -/
theorem lzma_reader_buffer (dict uncomp presetLen : Nat) (hd : dict < 2 ^ 32) (hu : uncomp < 2 ^ 64)
    (hp : presetLen < 2 ^ 64) :
    (Consts.DICT_SIZE_MAX < dict ∧ construct2Dict dict uncomp presetLen = some (.error ())) ∨
    (dict ≤ Consts.DICT_SIZE_MAX ∧ ∃ r,
      construct2Dict dict uncomp presetLen = some (.ok r) ∧
      r = Lzma.lzmaReaderDictBuf dict (Total.sizeOpt uncomp) presetLen ∧
      4096 ≤ r ∧ r % 16 = 0 ∧ r ≤ Lzma.lzmaDictBuf dict ∧ r ≤ max dict 4096 + 15 ∧ r < 2 ^ 32 ∧
      (uncomp ≤ 2 ^ 63 - 1 → r ≤ max (uncomp + presetLen) 4096 + 15)) :=
  Total.construct2Dict_total dict uncomp presetLen hd hu hp

theorem lzma2_chunk_sizes_total (control u16 : Nat) (hu : u16 < 2 ^ 16) :
    (lzmaChunkSize control u16 = some (control % 32 * 65536 + (u16 + 1)) ∧
      1 ≤ control % 32 * 65536 + (u16 + 1) ∧ control % 32 * 65536 + (u16 + 1) ≤ 2 ^ 21) ∧
    storedChunkSize u16 = some (u16 + 1) :=
  ⟨Total.lzmaChunkSize_total control u16 hu, (Total.storedChunkSize_total u16 hu).2⟩

theorem index_capacity_bounded (count : Nat) : indexCapacity count ≤ 1024 := Total.indexCapacity_le count

/-- an Index that announces more records than the input has bytes is rejected, whatever the count -/
theorem index_records_bounded_by_input {inp inp1 : List Nat} {n : Nat} (h1 : Xz.mbReader inp = .ok (n, inp1))
    (hbig : inp.length < n) : ∃ e, Xz.parseIndex inp = .error e :=
  Total.parseIndex_rejects_count_gt_length h1 hbig

/-- the backward member scan of `LZIPReaderMT` on any file: terminates without the fuel, members are
    inside the file, pairwise disjoint, at least 4 bytes each; the work-unit buffers of an accepted file add up
    to exactly the file size -/
theorem lzip_mt_scan_bounded (file : List Nat) :
    match scanFile file with
    | .ok ms => ms ≠ [] ∧ ms.length ≤ file.length / 4 ∧
        (∀ m ∈ ms, 4 ≤ m.size ∧ m.start + m.size ≤ file.length) ∧
        ms.Pairwise (fun m1 m2 => m1.start + m1.size ≤ m2.start) ∧
        (ms.map (·.size)).sum = file.length
    | .error e => e ≠ .fuel ∧ e ≠ .arith :=
  Total.scanFile_total file

/-- progress of the container / chunk loops: the model's fuel never decides the result -/
theorem xz_fuel_irrelevant (multi : Bool) (inp : List Nat) (cap : Nat) (fuel : Nat) (hf : inp.length < fuel) :
    Xz.decode multi inp cap =
      match Xz.parseStreamHeader inp with
      | .error e => .err e
      | .ok (chk, rest) => Xz.readBlocks multi inp.length fuel chk rest [] [] cap :=
  Total.xz_decode_fuel_indep multi inp cap fuel hf

theorem lzma2_fuel_irrelevant (fuel fuel' : Nat) (s : Lzma2.RState) (inp : List Nat) (cap : Nat)
    (h : inp.length < fuel) (h' : inp.length < fuel') : Lzma2.chunkLoop fuel s inp cap = Lzma2.chunkLoop fuel' s inp cap :=
  Total.chunkLoop_fuel_indep fuel fuel' s inp cap h h'

/-- with a cap of 2 MiB per input byte the LZMA2 model always gives a definite answer -/
theorem lzma2_definite (dict : Nat) (preset : Array Nat) (input : List Nat) (cap : Nat)
    (hb : ∀ x ∈ input, x < 256) (hcap : 2 ^ 21 * input.length ≤ cap) :
    Lzma2.decode dict preset input cap ≠ .capped :=
  Total.lzma2_decode_definite dict preset input cap hb hcap

theorem lzip_members_bounded_by_input (inp : List Nat) (cap : Nat) (data : List Nat) (consumed : Nat)
    (recs : List LzipFile.Member) (h : LzipFile.decode inp cap = .ok data consumed recs) :
    26 * recs.length ≤ inp.length :=
  Total.decode_members_count inp cap data consumed recs h

/-- bounded work per symbol: at most 48 range-coder decisions, whatever the context and the input -/
theorem decisions_per_symbol_bounded (pr : Lzma.Params) (c : Lzma.Ctx) (s : Lzma.Sym) (hs : Lzma.SymOk s) :
    (Lzma.symBits pr c s).length ≤ 48 :=
  Total.symBits_length_le pr c s hs

/-- the arithmetic of the code before the repairs fails on these inputs -/
theorem pinned_arithmetic_witnesses :
    (lzma2ReaderBufBuggy 0 none = some { bufLen := 0, pos := 0, presetSkip := 0 } ∧ lzResetIndex 0 = none) ∧
    (storedChunkSizeBuggy 0xFFFF = none ∧ storedChunkSizeBuggyWrapped 0xFFFF = 0 ∧ storedChunkSize 0xFFFF = some 65536) ∧
    lzma2DictRoundOld 0xFFFFFFFF = none ∧ indexCapacityOldBytes (2 ^ 63) = none :=
  ⟨Total.lzma2_dict0_reset_panicked, Total.storedChunkSizeBuggy_overflows, Total.lzma2DictRoundOld_overflows,
   Total.indexCapacityOld_overflows⟩

end LzmaVerif.Props.C06
