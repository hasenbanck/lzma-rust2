/-
  C01 (match finders): the hash-chain match finder HC4 (src/lz/hc4.rs + hash234.rs) reports only valid
  matches, for ALL inputs, scripts and every parameter set `P` with `P.ok` (the translator regenerates
  `P` from the Rust source).  Headline theorems; the proofs are in `Proofs/Hc4*.lean`.

  Model: `Model/Hc4.lean` (validated against the real code through the hook `mf_trace`).
-/
import LzmaVerif.Proofs.Hc4Bounds
import LzmaVerif.Proofs.MfRenorm

namespace LzmaVerif.Mf.Hc4

/-- (H1) "the hashing algorithm guarantees that if the first byte matches, also the second byte does" (bt4.rs:171, :185):
    equal `hash2` values and equal first bytes give equal second bytes; equal `hash3` values and equal
    first bytes give equal second and third bytes.  (`m`, `m'` are the hash4 masks, irrelevant here.) -/
theorem hashes_sound (H : HashParams) (hok : hashOk H) (m m' b0 b1 b2 b3 c1 c2 c3 : Nat)
    (hb1 : b1 < 256) (hc1 : c1 < 256) (hb2 : b2 < 256) (hc2 : c2 < 256) :
    ((calcHashes H m b0 b1 b2 b3).h2 = (calcHashes H m' b0 c1 c2 c3).h2 → b1 = c1) ∧
    ((calcHashes H m b0 b1 b2 b3).h3 = (calcHashes H m' b0 c1 c2 c3).h3 → b1 = c1 ∧ b2 = c2) :=
  ⟨hash2_sound H hok m m' b0 b1 b2 b3 c1 c2 c3 hb1 hc1,
   hash3_sound H hok m m' b0 b1 b2 b3 c1 c2 c3 hb1 hc1 hb2 hc2⟩

example : hashOk {} := by decide
example : (calcHashes {} 65535 97 98 99 100).h2 = (calcHashes {} 65535 97 98 120 121).h2 := by decide

/-- (H2) the invariant `Inv` (`Proofs/Hc4Inv.lean`: table sizes, `-1 ≤ cyclic_pos < cyclic_size`,
    `lz_pos = cyclic_size + #inserted positions`, every hash-table / chain entry is 0 or the `lz_pos` of
    an inserted earlier position, hash-table entries sit in the slot of that position's hash) holds
    initially and is preserved by `find_matches` and `skip` -/
theorem hc4_inv (P : Hc4Params) (hP : P.ok) (c : Cfg) (d : Array UInt8) (hd : 1 ≤ c.dict)
    (hm : 1 ≤ c.mlmax) :
    Inv P c d (init P c) ∧
    (∀ s, Inv P c d s → Inv P c d (find P c d s).2) ∧
    (∀ s n, Inv P c d s → Inv P c d (skip P c d n s)) :=
  ⟨init_inv P hP c d, fun s h => find_inv P hP c d s h hm, fun s n h => skip_inv P hP c d n s h⟩

/-- (H2) every reachable state satisfies the invariant, and `lz_pos` stays below the normalisation
    threshold (so leaving the normalisation out of the step function is justified) -/
theorem hc4_reachable_inv (P : Hc4Params) (hP : P.ok) (c : Cfg) (d : Array UInt8)
    (hsz : d.size + c.dict + 2 < 2 ^ 31) (hd : 1 ≤ c.dict) (hm : 1 ≤ c.mlmax) (s : State)
    (hr : Reachable P c d s) : Inv P c d s ∧ s.lzPos < 0x7FFFFFFF :=
  ⟨hr.inv hP hm, Inv.lzPos_lt P hP c d s (hr.inv hP hm) hsz⟩

/-- (H3) In every reachable state, every match reported by `find_matches` at position `p = s.pos` is a valid
    match (inside the data, distance at most `dict` and at most `p`, length at most
    `min match_len_max avail`, really a repetition); lengths increase strictly; for `nice_len ≥ 3` the
    number of matches fits `Matches::new(nice_len - 1)`.
    (`3 ≤ match_len_max` is needed: `extend_match` is called with `current_len = 3`.  For
    `nice_len = 2` the capacity claim is false, in the model and in the real code, see
    `capacity_exceeded_niceLen2`.) -/
theorem hc4_find_sound (P : Hc4Params) (hP : P.ok) (c : Cfg) (d : Array UInt8)
    (hd : 1 ≤ c.dict) (hml : 3 ≤ c.mlmax) (s : State) (hr : Reachable P c d s) :
    (∀ m ∈ (find P c d s).1, ValidMatch d c.dict s.pos (min c.mlmax (d.size - s.pos)) m) ∧
    lensIncreasing (find P c d s).1 = true ∧
    (3 ≤ c.niceLen → (find P c d s).1.length ≤ c.niceLen - 1) :=
  find_sound P c d hP s (hr.inv hP (by omega)) hml

/-- (H4) In every reachable state all table indices (`hash2/3/4_table[..]`, `chain[cyclic_pos]`, `chain[i]`),
    all data reads (`get_byte`, `calc_hashes`), all `extend_match` argument triples and all
    `lz_pos - entry` subtractions of `find_matches` and of a `skip` iteration are in bounds: the Rust
    code cannot panic on an index there.  (`nice_len ≤ match_len_max` is needed for the read
    `get_byte(len_best, 0)` to stay inside the logical data; the real buffer is larger.) -/
theorem hc4_indices_in_bounds (P : Hc4Params) (hP : P.ok) (c : Cfg) (d : Array UInt8)
    (hd : 1 ≤ c.dict) (hml : 3 ≤ c.mlmax) (hnm : c.niceLen ≤ c.mlmax) (s : State)
    (hr : Reachable P c d s) :
    (∀ a ∈ findAcc P c d s, a.okB d.size = true) ∧ (∀ a ∈ skip1Acc P c d s, a.okB d.size = true) :=
  ⟨findAcc_ok P c d hP s (hr.inv hP (by omega)) hml hnm,
   skip1Acc_ok P c d hP s (hr.inv hP (by omega))⟩

/-- (H5) every find of every script reports only valid matches (with increasing lengths, within capacity) -/
theorem hc4_script_sound (P : Hc4Params) (hP : P.ok) (c : Cfg) (d : Array UInt8)
    (hd : 1 ≤ c.dict) (hml : 3 ≤ c.mlmax) (script : List Nat) :
    ∀ f ∈ (runScript P c d script).1,
      (∀ m ∈ f.2, ValidMatch d c.dict f.1 (min c.mlmax (d.size - f.1)) m) ∧
      lensIncreasing f.2 = true ∧
      (3 ≤ c.niceLen → f.2.length ≤ c.niceLen - 1) :=
  (runScriptAux_sound P hP c d hml script (init P c) [] Reachable.init (fun _ h => by cases h)).1

theorem runScript_reachable (P : Hc4Params) (hP : P.ok) (c : Cfg) (d : Array UInt8)
    (hd : 1 ≤ c.dict) (hml : 3 ≤ c.mlmax) (script : List Nat) :
    Reachable P c d (runScript P c d script).2 :=
  (runScriptAux_sound P hP c d hml script (init P c) [] Reachable.init (fun _ h => by cases h)).2

/-- `normalize` at `lz_pos = 0x7FFFFFFF` (`off = 0x7FFFFFFF - cyclic_size`, entry := max(entry, off) - off,
    `lz_pos := lz_pos - off`) keeps every `delta < cyclic_size` and maps all others to
    `delta ≥ cyclic_size` -/
theorem normalize_delta (cs lz e : Nat) (hcs : cs ≤ lz) (he : e ≤ lz) :
    (lz - e < cs → (lz - (lz - cs)) - normEntry (lz - cs) e = lz - e) ∧
    (cs ≤ lz - e → cs ≤ (lz - (lz - cs)) - normEntry (lz - cs) e) :=
  -- `normEntry` is `normPos`: the entry related to itself, normalised on one side
  have h := (ERel.refl (cs := cs) he).norm hcs
  ⟨h.delta_eq, fun hge => Nat.le_of_not_lt fun hlt => Nat.not_le_of_lt (h.lt_iff.mp hlt) hge⟩

/-! ## examples and counter-witnesses (dictionary size 8, so `cyclic_size = 9`) -/

def cfg8 : Cfg := { dict := 8, niceLen := 8, mlmax := 273 }

/-- "abc_abX_abcd____" -/
def w4 : Array UInt8 := #[97, 98, 99, 95, 97, 98, 88, 95, 97, 98, 99, 100, 95, 95, 95, 95]
/-- "abcdefghiabxyz": "ab" repeats at distance 9 -/
def w2 : Array UInt8 := #[97, 98, 99, 100, 101, 102, 103, 104, 105, 97, 98, 120, 121, 122]
/-- "abcabdefgabcxy": "abc" repeats at distance 9, "ab" at distance 6 -/
def w3 : Array UInt8 := #[97, 98, 99, 97, 98, 100, 101, 102, 103, 97, 98, 99, 120, 121]
/-- "abcdefghiabcdxyz": "abcd" repeats at distance 9 -/
def w5 : Array UInt8 := #[97, 98, 99, 100, 101, 102, 103, 104, 105, 97, 98, 99, 100, 120, 121, 122]

/-- hash tables of 256 / 1024 / 256 entries, so that the kernel can evaluate whole runs (`decide +kernel` on the
    65536-entry tables of the real constants needs minutes and gigabytes per table operation); NOT
    `hashOk`, used only for the run-level witnesses below -/
def tinyHash : HashParams := { hash2Size := 256, hash3Size := 1024, h4Floor := 0xFF }

/-- the hypotheses of the theorems are satisfiable … -/
example : ({} : Hc4Params).ok ∧ 1 ≤ cfg8.dict ∧ 3 ≤ cfg8.mlmax ∧ cfg8.niceLen ≤ cfg8.mlmax ∧
    w4.size + cfg8.dict + 2 < 2 ^ 31 := by decide
example : Reachable {} cfg8 w4 (runScript {} cfg8 w4 [8]).2 :=
  runScript_reachable {} (by decide) cfg8 w4 (by decide) (by decide) [8]
example : Inv {} cfg8 w4 (init {} cfg8) := (hc4_inv {} (by decide) cfg8 w4 (by decide) (by decide)).1
example := hc4_find_sound {} (by decide) cfg8 w4 (by decide) (by decide) _
  (runScript_reachable {} (by decide) cfg8 w4 (by decide) (by decide) [8])
example := hc4_indices_in_bounds {} (by decide) cfg8 w4 (by decide) (by decide) (by decide) _
  (runScript_reachable {} (by decide) cfg8 w4 (by decide) (by decide) [8])
example := hc4_script_sound {} (by decide) cfg8 w4 (by decide) (by decide) [3, 0, 0, 2, 0, 0, 0]
/-- … and the conclusions are not vacuous: the search at position 8 of `w4` (table reads give
    `delta2 = 4`, `delta3 = 8`, no chain predecessor) reports a hash2 and a hash3 match, with the real
    constants … -/
example : findMatches {} cfg8 w4 #[0, 0, 0, 0, 0, 0, 0, 0, 0] 8 18 8 8 4 8 0 = [(2, 3), (3, 7)] := by
  decide +kernel
/-- … and a whole run (with the small tables) -/
example : (runScript { hash := tinyHash } cfg8 w4 [3, 0, 0, 2, 0, 0, 0]).1 =
    [(3, []), (4, [(2, 3)]), (7, [(3, 3)]), (8, [(2, 3), (3, 7)]), (9, [(2, 7)])] := by
  rw [(runScript_view _ _ _ (by decide) (by decide) (by decide) _).1]
  decide +kernel
example : (findAcc { hash := tinyHash } cfg8 w4 (runScript { hash := tinyHash } cfg8 w4 [8]).2).length = 16 ∧
    (findAcc { hash := tinyHash } cfg8 w4 (runScript { hash := tinyHash } cfg8 w4 [8]).2).all
      (·.okB w4.size) = true := by
  have h := runScript_view { hash := tinyHash } cfg8 w4 (by decide) (by decide) (by decide) [8]
  rw [view_findAcc _ _ _ _ (by decide) h.2.2, h.2.1]
  decide +kernel

/-- The parameters matter: with `delta2 <= cyclic_size` a match at distance `dict + 1 = 9` is reported
    (search at position 9 of `w2`: the tables give `delta2 = 9`, `delta3 = 19` (none), no chain predecessor) … -/
theorem d2_nonstrict_witness :
    findMatches { d2Strict := false } cfg8 w2 #[0, 0, 0, 0, 0, 0, 0, 0, 0] 0 19 9 5 9 19 0 = [(2, 8)] ∧
    findMatches {} cfg8 w2 #[0, 0, 0, 0, 0, 0, 0, 0, 0] 0 19 9 5 9 19 0 = [] := by decide +kernel

/-- … the same as a whole run from `init` (small tables) -/
theorem d2_nonstrict_run :
    (runScript { d2Strict := false, hash := tinyHash } cfg8 w2 [9, 0]).1 = [(9, [(2, 8)])] ∧
    (runScript { hash := tinyHash } cfg8 w2 [9, 0]).1 = [(9, [])] := by
  rw [(runScript_view _ _ _ (by decide) (by decide) (by decide) _).1,
    (runScript_view _ _ _ (by decide) (by decide) (by decide) _).1]
  decide +kernel

theorem d2_nonstrict_invalid : ¬ ValidMatch w2 cfg8.dict 9 (min cfg8.mlmax (w2.size - 9)) (2, 8) := by
  intro h; exact absurd h.2.2.2.2.1 (by decide)

/-- likewise with `delta3 <= cyclic_size` (position 9 of `w3`: `delta2 = 6`, `delta3 = 9`) -/
theorem d3_nonstrict_witness :
    findMatches { d3Strict := false } cfg8 w3 #[0, 0, 0, 0, 0, 0, 0, 0, 0] 0 19 9 5 6 9 0 =
      [(2, 5), (3, 8)] ∧
    findMatches {} cfg8 w3 #[0, 0, 0, 0, 0, 0, 0, 0, 0] 0 19 9 5 6 9 0 = [(2, 5)] := by decide +kernel

theorem d3_nonstrict_run :
    (runScript { d3Strict := false, hash := tinyHash } cfg8 w3 [9, 0]).1 = [(9, [(2, 5), (3, 8)])] ∧
    (runScript { hash := tinyHash } cfg8 w3 [9, 0]).1 = [(9, [(2, 5)])] := by
  rw [(runScript_view _ _ _ (by decide) (by decide) (by decide) _).1,
    (runScript_view _ _ _ (by decide) (by decide) (by decide) _).1]
  decide +kernel

theorem d3_nonstrict_invalid : ¬ ValidMatch w3 cfg8.dict 9 (min cfg8.mlmax (w3.size - 9)) (3, 8) := by
  intro h; exact absurd h.2.2.2.2.1 (by decide)

/-- and with `delta > cyclic_size` as the exit test of the chain loop -/
theorem chain_nonstrict_run :
    (runScript { chainStopGe := false, hash := tinyHash } cfg8 w5 [9, 0]).1 = [(9, [(4, 8)])] ∧
    (runScript { hash := tinyHash } cfg8 w5 [9, 0]).1 = [(9, [])] := by
  rw [(runScript_view _ _ _ (by decide) (by decide) (by decide) _).1,
    (runScript_view _ _ _ (by decide) (by decide) (by decide) _).1]
  decide +kernel

/-- `nice_len = 2`: two matches are reported but `Matches::new(nice_len - 1)` has room for one (the real
    code panics with an index error at hc4.rs:120, `matches.dist[count] = delta3 - 1`, on this input) -/
theorem capacity_exceeded_niceLen2 :
    findMatches {} { dict := 8, niceLen := 2, mlmax := 273 } w4 #[0, 0, 0, 0, 0, 0, 0, 0, 0] 8 18 8 8 4 8 0
      = [(2, 3), (3, 7)] := by decide +kernel

end LzmaVerif.Mf.Hc4
