import LzmaVerif.Props.C01Lzma2
import LzmaVerif.Proofs.EndToEndLzma
import LzmaVerif.Proofs.Xz
/-!
# C16 — readers consume exactly the bytes of their stream

For every stream the model writers produce (LZMA: `encodeParse` of a parse that `parseRun` accepts) and ANY bytes that
follow it:
* `lzma_declared_size_exact`, `lzma_end_marker_exact` – the LZMA reader (declared size without marker / end
  marker) returns the data having consumed exactly the stream's bytes: its result does not depend on what
  follows, and the count is the stream length (this is where the range decoder's 5-byte initialisation, the
  encoder's 5-byte flush and the final normalisation have to match – `rc_roundtrip`);
* `xz_single_stream_exact` – the single-stream XZ reader stops right after the 12-byte footer.
* `lzma2_exact` – raw LZMA2: for every valid sequence of writer events the chunk decoder consumes exactly the
  encoder's bytes (up to and including the 0x00 end byte) whatever follows.
The real readers are run on streams followed by nothing / zeros / random bytes / 0xFF /
another stream with three buffer schedules; `consumed` must equal the stream length.
-/
namespace LzmaVerif.Props.C16
open LzmaVerif Lzma

theorem lzma_declared_size_exact (pr : Params) (dictBuf : Nat) (preset : Array Nat) (parse : List Sym) (n : Nat)
    (c' : Coder) (h' : Hist)
    (hp : parseRun dictBuf parse Coder.init (presetUsedOf preset dictBuf) = some (c', h'))
    (hn : h'.size = (presetUsedOf preset dictBuf).size + n) (cap : Nat) :
    ∃ bytes, encodeParse pr dictBuf (presetUsedOf preset dictBuf) (some n) (n + 1) parse = some bytes ∧
      ∀ rest, decodeRaw pr dictBuf preset (some n) (bytes ++ rest) cap
        = .ok (h'.extract (presetUsedOf preset dictBuf).size h'.size) bytes.length parse := by
  obtain ⟨bytes, henc, hdec⟩ := C01.lzma_size_uniform pr dictBuf preset parse n c' h' hp hn
  exact ⟨bytes, henc, fun rest => hdec rest cap⟩

theorem lzma_end_marker_exact (pr : Params) (dictBuf : Nat) (hd : dictBuf ≤ END_DIST) (preset : Array Nat)
    (parse : List Sym) (c' : Coder) (h' : Hist)
    (hp : parseRun dictBuf parse Coder.init (presetUsedOf preset dictBuf) = some (c', h'))
    (cap : Nat) (hcap : parse.length < cap) :
    ∃ bytes, encodeParse pr dictBuf (presetUsedOf preset dictBuf) none (cap + 1) (parse ++ [.mtch END_DIST 2]) = some bytes ∧
      ∀ rest, decodeRaw pr dictBuf preset none (bytes ++ rest) cap
        = .ok (h'.extract (presetUsedOf preset dictBuf).size h'.size) bytes.length (parse ++ [.mtch END_DIST 2]) := by
  obtain ⟨bytes, henc, -, hdec⟩ := lzma_marker_uniform pr dictBuf hd preset parse 2 (by omega) c' h' hp
  exact ⟨bytes, henc (cap + 1) (Nat.lt_succ_of_lt hcap), fun rest => hdec rest cap (Nat.le_of_lt hcap)⟩

theorem xz_single_stream_exact (c : Xz.Check) (fs : List Xz.Filter) (hfs : Xz.FiltersOk fs)
    (blocks : List (List Nat × List Nat))
    (hb : ∀ b ∈ blocks, Xz.PayloadOk (Xz.readerDict fs) b.1 (Xz.applyFilters fs b.2) ∧
      Xz.unfilter fs (Xz.applyFilters fs b.2) = b.2)
    (hsz : Xz.SizesOk c fs blocks) (rest : List Nat) (cap : Nat)
    (hcap : ((blocks.map (·.2)).flatten).length ≤ cap) :
    Xz.decode false (Xz.streamBytes c fs blocks ++ rest) cap
      = .ok (blocks.map (·.2)).flatten (Xz.streamBytes c fs blocks).length (blocks.map (Xz.blkOf fs)).reverse :=
  Xz.xz_roundtrip_blocks c fs hfs blocks hb hsz rest cap hcap

theorem lzma2_exact (dict : Nat) (preset : Array Nat) (pb : Nat) (hpb : pb ≤ 224)
    (hlclp : (paramsOfProps pb).lc + (paramsOfProps pb).lp ≤ 4)
    (chunks : List Lzma2.Chunk) (data : List Nat)
    (hok : Lzma2.ChunksOk pb chunks (Lzma2.initW dict preset pb) data) :
    ∃ bytes, Lzma2.encodeChunks pb chunks (Lzma2.initW dict preset pb) [] = some bytes ∧
      ∀ (rest : List Nat) (cap : Nat), data.length ≤ cap →
        Lzma2.decode dict preset (bytes ++ rest) cap
          = .ok { out := data.toArray, consumed := bytes.length, chunks := chunks } :=
  Props.C01.lzma2_roundtrip dict preset pb hpb hlclp chunks data hok

end LzmaVerif.Props.C16
