import LzmaVerif.Proofs.Trunc
import LzmaVerif.Proofs.Bcj2
/-!
# C05 — truncation surfaces as an error, never as wrong or endless data

What the reader models answer on a prefix of a well-formed stream, for EVERY cut position.  Unlike the round-trip theorems
these are about the decoders alone wherever possible: they need no encoder and hold for whatever the decoder would have
accepted in full.

* `lzma_truncation_is_eof` – raw LZMA (`decodeRaw`): if the decoder accepts `input` consuming `c` bytes, then on every
  prefix shorter than `c` it returns exactly `UnexpectedEof` (`Prog.decRun_extBy`: a run on a prefix either misses a
  byte or is the same run).
* `lzma2_truncation_never_ok` – LZMA2 chunk loop: no prefix shorter than the consumed part of an accepted input is accepted,
  for any cap.
* `lzip_truncation` – multi-member LZIP: a proper non-empty prefix is an error unless the cut is EXACTLY a
  member boundary (then it is a complete, valid, shorter file – nothing a reader could notice).
* `xz_truncation` – single-stream XZ of any check / filter chain / number of blocks (hypotheses of
  `xz_roundtrip_blocks`: the payload's round trip `PayloadOk` and the filter inverse, no truncation property of the codec):
  every proper prefix, including the empty one, answers an error or `.capped` (the model's output cap, reachable only
  inside the payload codec).
* `bcj2_truncation` – BCJ2: a proper prefix of ANY one of the four streams of an encoder output is an error.
* `lzip_empty_input_is_accepted` – the recorded known finding: the empty input decodes to the empty output.

Not expressible in these models: I/O errors raised by the source at a given `read` call, short reads and
`Interrupted` (the models take the input as a list, so they are partition-independent by construction);
those are covered by the fault-injection oracle on the real readers/writers (every read-call index).
-/
namespace LzmaVerif.Props.C05
open LzmaVerif

theorem lzma_truncation_is_eof {pr : Lzma.Params} {dictBuf : Nat} {preset : Array Nat} {size : Option Nat}
    {input : List Nat} {cap : Nat} {out : Array Nat} {c : Nat} {parse : List Lzma.Sym}
    (h : Lzma.decodeRaw pr dictBuf preset size input cap = .ok out c parse) (k : Nat) (hk : k < c) :
    Lzma.decodeRaw pr dictBuf preset size (input.take k) cap = .err .eof :=
  Lzma.decodeRaw_trunc h k hk

/-! ### The error class of the LZMA reader (order of events at the end of `LZMAReader::read_decode`)

`lzma_missing_byte_is_eof`: once the range decoder has asked for a byte behind the end of the source, the answer is
`UnexpectedEof` - whatever the symbol loop stopped for (`stream_error()` is examined before the result of `decode`).
`lzma_corrupt_symbol_is_other`: a corrupt symbol ("dist overflow", or an end marker in a stream with a declared size)
reached WITHOUT a missing byte is `Other`, even when the normalisation that would follow needs a byte that is not
there: `LZMADecoder::decode` returns the error of `LZDecoder::repeat` at once. -/

theorem lzma_missing_byte_is_eof (pr : Lzma.Params) (dictBuf : Nat) (preset : Array Nat) (size : Option Nat)
    (input : List Nat) (cap : Nat) (d0 : Rc.Dec) (r : Lzma.LoopRes) (ps : Rc.Probs) (e : Rc.Dec)
    (hinit : Rc.Dec.init input = some d0)
    (hrun : (Lzma.rawProg pr dictBuf preset size cap).decRun (Lzma.rawPs0 pr) d0 = (r, ps, e))
    (hover : e.over > 0) :
    Lzma.decodeRaw pr dictBuf preset size input cap = .err .eof := by
  rw [Lzma.decodeRaw_run pr dictBuf preset size cap hinit hrun]
  exact Lzma.rawResult_over0 _ _ _ _ _ _ hover

theorem lzma_corrupt_symbol_is_other (pr : Lzma.Params) (dictBuf : Nat) (preset : Array Nat) (size : Option Nat)
    (input : List Nat) (cap : Nat) (d0 : Rc.Dec) (r : Lzma.LoopRes) (ps : Rc.Probs) (e : Rc.Dec)
    (hinit : Rc.Dec.init input = some d0)
    (hrun : (Lzma.rawProg pr dictBuf preset size cap).decRun (Lzma.rawPs0 pr) d0 = (r, ps, e))
    (hstop : r.stop = .distOverflow ∨ (r.stop = .endMarker ∧ size.isSome)) (hover : e.over = 0) :
    Lzma.decodeRaw pr dictBuf preset size input cap = .err .other := by
  rw [Lzma.decodeRaw_run pr dictBuf preset size cap hinit hrun]
  exact Lzma.rawResult_repeatErr _ _ _ _ _ _ hstop hover

/-- class of a model answer, for kernel evaluation -/
def errIs : Lzma.DecOut → Lzma.Err → Bool
  | .err e, e' => e == e'
  | _, _ => false

/-- the run of the symbol loop on the 6-byte stream `00 80 d4 0a a3 9d` -/
def cornerRun : Lzma.LoopRes × Rc.Probs × Rc.Dec :=
  (Lzma.rawProg LzipFile.lzipParams 4096 #[] none 4).decRun (Lzma.rawPs0 LzipFile.lzipParams)
    ⟨0xFFFFFFFF, 0x80d40aa3, [0x9d], 0⟩

/-- kernel evaluation of the model: the first symbol is a match into the empty dictionary ("dist overflow"); it
    takes its last bit from the last byte, and no byte is missing -/
theorem corner_run : cornerRun.1.stop = .distOverflow ∧ cornerRun.2.2.over = 0 ∧ cornerRun.2.2.inp = [] := by
  rw [cornerRun, Lzma.rawPs0, ← Rc.Sparse.toArr_fresh, Prog.decRun_sparse]
  decide +kernel

/-- non-vacuity of the two theorems above, and the corner itself.  After the run above `range < 2^24`: the
    normalisation that would follow needs a 7th byte.  The real reader says `Other`, and so does the model; one byte
    less, and the symbol itself misses a byte (otherwise the run would be the same and would have left the 6th byte
    unread): `UnexpectedEof`. -/
example :
    errIs (Lzma.decodeRaw LzipFile.lzipParams 4096 #[] none [0x00, 0x80, 0xd4, 0x0a, 0xa3, 0x9d] 4) .other = true ∧
    errIs (Lzma.decodeRaw LzipFile.lzipParams 4096 #[] none [0x00, 0x80, 0xd4, 0x0a, 0xa3] 4) .eof = true := by
  have hc := corner_run
  generalize hrun : cornerRun = t at hc
  obtain ⟨r, ps, e⟩ := t
  obtain ⟨hstop, hover, hinp⟩ := hc
  constructor
  · rw [lzma_corrupt_symbol_is_other _ _ _ _ [0x00, 0x80, 0xd4, 0x0a, 0xa3, 0x9d] _ _ r ps e rfl hrun (Or.inl hstop) hover]
    rfl
  · generalize hrun' : (Lzma.rawProg LzipFile.lzipParams 4096 #[] none 4).decRun (Lzma.rawPs0 LzipFile.lzipParams)
      ⟨0xFFFFFFFF, 0x80d40aa3, [], 0⟩ = t'
    obtain ⟨r', ps', e'⟩ := t'
    have hext : Rc.ExtBy [0x9d] ⟨0xFFFFFFFF, 0x80d40aa3, [], 0⟩ ⟨0xFFFFFFFF, 0x80d40aa3, [0x9d], 0⟩ :=
      ⟨rfl, rfl, rfl, rfl, rfl⟩
    rcases Prog.decRun_extBy _ _ _ _ _ hext r' r ps' ps e' e hrun' hrun with ho | ⟨_, _, he⟩
    · rw [lzma_missing_byte_is_eof _ _ _ _ [0x00, 0x80, 0xd4, 0x0a, 0xa3] _ _ r' ps' e' rfl hrun' ho]
      rfl
    · have := he.2.2.2.2
      rw [hinp] at this
      exact absurd this.symm (List.append_ne_nil_of_right_ne_nil _ (by simp))

theorem lzma2_truncation_never_ok {dict : Nat} {preset : Array Nat} {input : List Nat} {cap : Nat} {r : Lzma2.DecOk}
    (h : Lzma2.decode dict preset input cap = .ok r) (k : Nat) (hk : k < r.consumed) (cap' : Nat) (r' : Lzma2.DecOk) :
    Lzma2.decode dict preset (input.take k) cap' ≠ .ok r' :=
  Lzma2.decode_trunc h k hk cap' r'

theorem lzip_truncation (ms : List (Nat × List Nat × List Nat)) (hm : ∀ m ∈ ms, LzipFile.MemberOk m)
    (cap : Nat) (hcap : (LzipFile.fileData ms).length ≤ cap)
    (k : Nat) (hk0 : 0 < k) (hk : k < (LzipFile.fileBytes ms).length) :
    (∃ e, LzipFile.decode ((LzipFile.fileBytes ms).take k) cap = .err e) ∨
    (∃ j, 0 < j ∧ j < ms.length ∧ (LzipFile.fileBytes (ms.take j)).length = k ∧
      LzipFile.decode ((LzipFile.fileBytes ms).take k) cap =
        .ok (LzipFile.fileData (ms.take j)) k (LzipFile.fileRecs (ms.take j))) :=
  LzipFile.lzip_trunc ms hm cap hcap k hk0 hk

theorem xz_truncation (c : Xz.Check) (fs : List Xz.Filter) (hfs : Xz.FiltersOk fs)
    (blocks : List (List Nat × List Nat))
    (hb : ∀ b ∈ blocks, Xz.PayloadOk (Xz.readerDict fs) b.1 (Xz.applyFilters fs b.2) ∧
      Xz.unfilter fs (Xz.applyFilters fs b.2) = b.2)
    (hsz : Xz.SizesOk c fs blocks) (cap : Nat) (hcap : ((blocks.map (·.2)).flatten).length ≤ cap)
    (k : Nat) (hk : k < (Xz.streamBytes c fs blocks).length) :
    (∃ e, Xz.decode false ((Xz.streamBytes c fs blocks).take k) cap = .err e) ∨
    Xz.decode false ((Xz.streamBytes c fs blocks).take k) cap = .capped :=
  Xz.xz_trunc_blocks_ok c fs hfs blocks hb hsz cap hcap k hk

theorem bcj2_truncation (convert : Nat → Bool) (data : List Nat) (h : ∀ b ∈ data, b < 256) (hne : data ≠ [])
    (k : Nat) :
    (k < (Bcj2.encode convert data).main.length →
      Bcj2.isErr (Bcj2.decode ((Bcj2.encode convert data).main.take k) (Bcj2.encode convert data).call
        (Bcj2.encode convert data).jump (Bcj2.encode convert data).rc data.length)) ∧
    (k < (Bcj2.encode convert data).call.length →
      Bcj2.isErr (Bcj2.decode (Bcj2.encode convert data).main ((Bcj2.encode convert data).call.take k)
        (Bcj2.encode convert data).jump (Bcj2.encode convert data).rc data.length)) ∧
    (k < (Bcj2.encode convert data).jump.length →
      Bcj2.isErr (Bcj2.decode (Bcj2.encode convert data).main (Bcj2.encode convert data).call
        ((Bcj2.encode convert data).jump.take k) (Bcj2.encode convert data).rc data.length)) ∧
    (k < (Bcj2.encode convert data).rc.length →
      Bcj2.isErr (Bcj2.decode (Bcj2.encode convert data).main (Bcj2.encode convert data).call
        (Bcj2.encode convert data).jump ((Bcj2.encode convert data).rc.take k) data.length)) :=
  Bcj2.trunc_any convert data h hne k

/-- known finding (KNOWN_FINDINGS.jsonl, `truncation-accepted:lzip:empty-input`) as the model has it -/
theorem lzip_empty_input_is_accepted (cap : Nat) : LzipFile.decode [] cap = .ok [] 0 [] :=
  LzipFile.decode_empty cap

end LzmaVerif.Props.C05
