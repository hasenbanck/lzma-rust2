import LzmaVerif.Proofs.XzStrict
import LzmaVerif.Proofs.LzipFile
/-!
# C03 — streams interoperate with the reference implementation (both directions)

"Interoperates" is split into (a) what can be proved – the writers' output satisfies the FORMAT, stated
as an executable strict decoder that enforces every MUST rule of xz-file-format 1.x the way liblzma does
(`XzStrict.decodeStrict`; the crate's own reader is laxer in two respects, see `crate_reader_is_laxer`) – and (b) what ties
the format model to the reference: on every run the strict decoder, liblzma's decoder and the crate's
reader are executed on the same files (our writer's output, liblzma's output for presets / filter chains /
checks, structure-aware mutants with recomputed CRCs) and their verdicts and data are compared.

* `xz_writer_output_is_strictly_valid` – every single-stream file the writer model emits (any check, any
  admissible filter chain, at most 2^29 blocks, stream and data below 2^63 bytes) is accepted by the strict decoder
  with the original data; `XzStrict.writer_output_strict_concat` – also any concatenation with 4-aligned padding.
* `strict_accepts_subset_of_reader` – whatever the strict decoder accepts the crate's reader accepts with
  the same result: the reader decodes everything that is valid (the liblzma → ours direction at the
  container level; the LZMA/LZMA2 payload level is C01's decoder correctness + correspondence on
  liblzma-produced payloads).
* `xz_writer_index_overflow_rejected` – the boundary, for more than 2^34 one-byte blocks: an Index larger than 2^34
  bytes makes `write_stream_footer` truncate the backward size (`as u32`); liblzma would reject that file, and so
  does the crate's reader, which compares the backward size with the Index.  Proved on the model, not replayable on a
  real machine (needs > 128 GiB of RAM).
* LZIP: `lzip_writer_output_is_valid` (header version/dict byte, CRC, data size, member size fields all
  verified by the model reader, which enforces every field).
* `.lzma`: the round trip is C01's `lzma_roundtrip_size` / `_marker` (with the header: `lzma_alone_fast_roundtrip_*`, Props/C02Fast.lean); the known divergence lc+lp>4 (liblzma refuses) is a
  recorded finding.
-/
namespace LzmaVerif.Props.C03
open LzmaVerif LzmaVerif.Xz LzmaVerif.XzStrict

theorem xz_writer_output_is_strictly_valid (c : Check) (fs : List Filter) (hfs : FiltersOk fs)
    (blocks : List (List Nat × List Nat))
    (hb : ∀ b ∈ blocks, PayloadOk (readerDict fs) b.1 (applyFilters fs b.2) ∧ unfilter fs (applyFilters fs b.2) = b.2)
    (hlen : (streamBytes c fs blocks).length < 2 ^ 63) (hdat : ((blocks.map (·.2)).flatten).length < 2 ^ 63)
    (hn : blocks.length ≤ 2 ^ 29)
    (cap : Nat) (hcap : ((blocks.map (·.2)).flatten).length ≤ cap) :
    decodeStrict (streamBytes c fs blocks) cap
      = .ok (blocks.map (·.2)).flatten (streamBytes c fs blocks).length (blocks.map (blkOf fs)).reverse :=
  writer_output_strict' c fs hfs blocks hb hlen hdat hn cap hcap

theorem strict_accepts_subset_of_reader (inp : List Nat) (cap : Nat) (d : List Nat) (n : Nat) (b : List Block)
    (h : decodeStrict inp cap = .ok d n b) : Xz.decode true inp cap = .ok d n b :=
  strict_implies_lax inp cap d n b h

/-- the crate's reader is laxer than the format in two respects — reserved Block Flags bits and non-shortest
    multibyte integers (block header and Index): three small files accepted by it and rejected by the strict
    decoder (and by liblzma).  Forged Index records / backward sizes are rejected by both
    (`forged_witnesses_rejected`, C04). -/
theorem crate_reader_is_laxer :
    (∃ b, Xz.decode true laxWitness 16 = .ok [0x41] 56 b) ∧ decodeStrict laxWitness 16 = .err .invalidInput ∧
    (∃ b, Xz.decode true laxWitnessVli 16 = .ok [0x41] 60 b) ∧ decodeStrict laxWitnessVli 16 = .err .invalidData ∧
    (∃ b, Xz.decode true laxWitnessIndexVli 16 = .ok [0x41] 57 b) ∧
    decodeStrict laxWitnessIndexVli 16 = .err .invalidData :=
  ⟨lax_not_strict_witness.1, lax_not_strict_witness.2.2, lax_not_strict_witness_vli.1, lax_not_strict_witness_vli.2,
   lax_not_strict_witness_index_vli.1, lax_not_strict_witness_index_vli.2⟩

/-- more than 2^34 one-byte blocks: the Index is beyond 2^34 bytes and the writer's footer is wrong (truncating cast);
    the strict decoder, like liblzma, and the crate's own reader reject the writer's output -/
theorem xz_writer_index_overflow_rejected (c : Check) (N : Nat) (hN : 2 ^ 34 < N) (hN2 : N < 2 ^ 63) :
    Xz.decode false (streamBytes c [.lzma2 4096] (List.replicate N tinyBlock)) N = .err .invalidData ∧
    decodeStrict (streamBytes c [.lzma2 4096] (List.replicate N tinyBlock)) N = .err .invalidData :=
  writer_index_overflow c N hN hN2

/-- every multi-member LZIP file the writer model emits is accepted by the (field-by-field strict) reader
    model with the original data -/
theorem lzip_writer_output_is_valid (ms : List (Nat × List Nat × List Nat)) (hne : ms ≠ [])
    (hm : ∀ m ∈ ms, LzipFile.MemberOk m) (cap : Nat) (hcap : (LzipFile.fileData ms).length ≤ cap) :
    LzipFile.decode (LzipFile.fileBytes ms) cap =
      .ok (LzipFile.fileData ms) (LzipFile.fileBytes ms).length (LzipFile.fileRecs ms) :=
  LzipFile.lzip_roundtrip_recs_nil ms hne hm cap hcap

end LzmaVerif.Props.C03
