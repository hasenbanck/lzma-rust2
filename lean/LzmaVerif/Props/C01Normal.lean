/-
  C01 (NORMAL / optimal-parsing encoder mode): the model of the default mode of presets 4-9 and what is proved of it.

  `Model/EncNormal.lean` + `Model/EncPrices.lean` are an executable transcription of
  `NormalEncoderMode::get_next_symbol` with `convert_opts`, `update_opt_state_and_reps`, `calc1_byte_prices`,
  `calc_long_rep_prices`, `calc_normal_match_prices` (src/enc/encoder_normal.rs), of the price machinery of
  src/enc/encoder.rs / src/enc/range_enc.rs (price tables, their refresh counters, `PRICES`) and of the part of
  encoder.rs that drives them for raw LZMA1, on top of the finder models and the probability models of
  `Model/Lzma.lean`.  Its output is the PARSE.  It is tied to the code byte for byte: the real `LZMAWriter` in
  `EncodeMode::Normal` and the model must produce identical bytes on every sampled input (request
  `encnormal.parse … enc=1 bytesonly=1`, HC4 and BT4); the driver also runs `parseRun` on the model's parse on every
  request.

  (N1) `normal_parse_valid`:  for EVERY input, every `lc/lp/pb`, `1 ≤ dict_size ≤ 2^32`, `2 ≤ nice_len ≤ 273`, every
       `depth_limit`, the parse of the modelled normal encoder over HC4 satisfies `parseRun` (every symbol admissible,
       every copy inside dictionary and history) and denotes exactly the input.  No hypothesis is left open.  The
       probability models, price tables, refresh counters and the left-over contents of `opts[]` do not enter:
       `nextCore_ok` and `loop_valid` hold for every value of them (they choose the parse, they cannot make it invalid).
       (`LZMAOptions` allows `nice_len` 8..273; outside 2..273 the Rust itself indexes out of range or emits
       unencodable lengths.  `274 ≤ OPTS`, `1152 · OPTS < INFINITY_PRICE` are checked for the constants regenerated from
       the source.)  `normal_parse_valid_generic` (and `EncNormal.normalParse_valid`, which of `OPTS` needs `nice_len ≤ OPTS`
       only): the same for every `FinderSound` match finder whose reported lengths strictly increase (`hFinc`,
       `lensIncreasing`: the match loops of the optimiser walk the list by length; the fast mode does not need it).
       `lensIncreasing` is proved for HC4 (`hc4_find_inc`) and for BT4 (`Bt4.find_bounds`), but the theorems below are
       stated for HC4 only: for the normal mode over BT4 there is the model, its byte-for-byte comparison with the code,
       and no stated theorem.
  (N2) `normal_roundtrip` / `_reader` / `_marker` / `_generated`: composed with `C01.lzma_roundtrip_size/_marker`:
       finder + optimal parser + range encoder + decoder return the input and consume exactly the encoder's bytes.
-/
import LzmaVerif.Proofs.EncNormalLoop
import LzmaVerif.Proofs.EncFastHc4
import LzmaVerif.Props.C01Fast

namespace LzmaVerif.Props.C01Normal
open LzmaVerif Mf Lzma EncFast EncNormal

theorem normal_parse_valid_generic {σ : Type} {F : Finder σ} {d : Array UInt8} {dict : Nat}
    (FS : FinderSound F d dict 273) (hFinc : ∀ s, FS.R s → lensIncreasing (F.find d s).1 = true)
    (P : NormalParams) (hP : P.ok) (hopts : 274 ≤ P.opts) (pr : Params) (dictOpt nice dictBuf : Nat)
    (hn2 : 2 ≤ nice) (hn273 : nice ≤ 273) (hd1 : 1 ≤ dict) (hdb : min dict d.size ≤ dictBuf) (h32 : dict ≤ 2 ^ 32):
    ∃ c' h', parseRun dictBuf (normalParse F P pr dictOpt nice d) Coder.init (#[] : Hist) = some (c', h') ∧
      h' = d.map (fun b => b.toNat) :=
  normalParse_valid FS hFinc P hP pr dictOpt nice dictBuf hn2 hn273 (by omega) hd1 hdb h32

theorem normalParseHc4_eq (H : Hc4.Hc4Params) (P : NormalParams) (hP : P.ok) (pr : Params) (dict nice depth : Nat)
    (d : Array UInt8) :
    normalParseHc4 H P pr dict nice depth d =
      normalParse (hc4Finder H { dict := dict, niceLen := nice, mlmax := 273, depthLimit := depth }) P pr dict nice d := by
  unfold normalParseHc4
  rw [hP.2.1]

theorem hc4_find_inc (H : Hc4.Hc4Params) (hH : H.ok) (dict nice depth : Nat) (hd1 : 1 ≤ dict) (d : Array UInt8) :
    ∀ s, (hc4Sound H hH dict nice depth hd1 d).R s →
      lensIncreasing ((hc4Finder H { dict := dict, niceLen := nice, mlmax := 273, depthLimit := depth }).find d s).1 = true :=
  fun s h => (Hc4.hc4_find_sound H hH _ d hd1 (by show 3 ≤ 273; omega) s h).2.1

/-- **(N1)** the normal encoder over HC4 -/
theorem normal_parse_valid (H : Hc4.Hc4Params) (hH : H.ok) (P : NormalParams) (hP : P.ok) (hopts : 274 ≤ P.opts) (pr : Params)
    (dict nice depth dictBuf : Nat) (d : Array UInt8)
    (hn2 : 2 ≤ nice) (hn273 : nice ≤ 273) (hd1 : 1 ≤ dict) (hdb : min dict d.size ≤ dictBuf) (h32 : dict ≤ 2 ^ 32):
    ∃ c' h', parseRun dictBuf (normalParseHc4 H P pr dict nice depth d) Coder.init (#[] : Hist) = some (c', h') ∧
      h' = d.map (fun b => b.toNat) := by
  rw [normalParseHc4_eq H P hP]
  exact normal_parse_valid_generic (hc4Sound H hH dict nice depth hd1 d) (hc4_find_inc H hH dict nice depth hd1 d)
    P hP hopts pr dict nice dictBuf hn2 hn273 hd1 hdb h32

/-- **(N2)**, declared size: the model encoder's bytes for the normal parse decode to exactly the data -/
theorem normal_roundtrip (pr : Params) (H : Hc4.Hc4Params) (hH : H.ok) (P : NormalParams) (hP : P.ok) (hopts : 274 ≤ P.opts)
    (dict nice depth dictBuf : Nat) (d : Array UInt8)
    (hn2 : 2 ≤ nice) (hn273 : nice ≤ 273) (hd1 : 1 ≤ dict) (hdb : min dict d.size ≤ dictBuf) (h32 : dict ≤ 2 ^ 32)
    (rest : List Nat) (cap : Nat) :
    ∃ bytes, encodeParse pr dictBuf #[] (some d.size) (d.size + 1) (normalParseHc4 H P pr dict nice depth d) = some bytes ∧
      decodeRaw pr dictBuf #[] (some d.size) (bytes ++ rest) cap
        = .ok (d.map (fun b => b.toNat)) bytes.length (normalParseHc4 H P pr dict nice depth d) :=
  C01Fast.roundtrip_of_valid pr dictBuf d _
    (normal_parse_valid H hH P hP hopts pr dict nice depth dictBuf d hn2 hn273 hd1 hdb h32) rest cap

/-- **(N2)** with the dictionary buffer size `LZMAReader` really uses for a raw stream of declared size -/
theorem normal_roundtrip_reader (pr : Params) (H : Hc4.Hc4Params) (hH : H.ok) (P : NormalParams) (hP : P.ok) (hopts : 274 ≤ P.opts)
    (dict nice depth : Nat) (d : Array UInt8) (hn2 : 2 ≤ nice) (hn273 : nice ≤ 273) (hd1 : 1 ≤ dict) (h32 : dict ≤ 2 ^ 32)
    (rest : List Nat) (cap : Nat) :
    ∃ bytes, encodeParse pr (lzmaReaderDictBuf dict (some d.size) 0) #[] (some d.size) (d.size + 1)
        (normalParseHc4 H P pr dict nice depth d) = some bytes ∧
      decodeRaw pr (lzmaReaderDictBuf dict (some d.size) 0) #[] (some d.size) (bytes ++ rest) cap
        = .ok (d.map (fun b => b.toNat)) bytes.length (normalParseHc4 H P pr dict nice depth d) :=
  normal_roundtrip pr H hH P hP hopts dict nice depth _ d hn2 hn273 hd1 (C01Fast.readerDictBuf_ge dict d.size) h32 rest cap

/-- **(N2)**, end marker (`use_end_marker = true`; `cap` is the model's output bound) -/
theorem normal_roundtrip_marker (pr : Params) (H : Hc4.Hc4Params) (hH : H.ok) (P : NormalParams) (hP : P.ok) (hopts : 274 ≤ P.opts)
    (dict nice depth dictBuf : Nat) (d : Array UInt8)
    (hn2 : 2 ≤ nice) (hn273 : nice ≤ 273) (hd1 : 1 ≤ dict) (hdb : min dict d.size ≤ dictBuf) (h32 : dict ≤ 2 ^ 32) (hbuf : dictBuf ≤ END_DIST)
    (rest : List Nat) (cap : Nat) (hcap : (normalParseHc4 H P pr dict nice depth d).length < cap) :
    ∃ bytes, encodeParse pr dictBuf #[] none (cap + 1)
        (normalParseHc4 H P pr dict nice depth d ++ [.mtch END_DIST 2]) = some bytes ∧
      decodeRaw pr dictBuf #[] none (bytes ++ rest) cap
        = .ok (d.map (fun b => b.toNat)) bytes.length (normalParseHc4 H P pr dict nice depth d ++ [.mtch END_DIST 2]) :=
  C01Fast.roundtrip_marker_of_valid pr dictBuf d _
    (normal_parse_valid H hH P hP hopts pr dict nice depth dictBuf d hn2 hn273 hd1 hdb h32) hbuf rest cap hcap

/-- constants of encoder_normal.rs / lib.rs (defaults of `NormalParams` = the current source) -/
theorem default_normal_params_ok : ({} : NormalParams).ok := by decide

/-- the constants regenerated from the source satisfy what the proofs need -/
theorem generated_normal_params_ok : EncNormal.genParams.ok := by decide

/-- `OPTS` regenerated from the source is large enough for a maximal match from position 0 (`273 < OPTS`) -/
theorem generated_opts_ge : 274 ≤ EncNormal.genParams.opts := by decide

/-- every entry of `PRICES` (regenerated from range_enc.rs) is at most `1 << 7`; `bitPrice_le`, `litPrice_le` rest on it -/
theorem generated_prices_le : Consts.PRICES.all (fun x => decide (x ≤ 128)) = true :=
  List.all_toArray.symm.trans prices_all

/-- the round trip at the HC4 and normal-mode parameters regenerated from /repo's source -/
theorem normal_roundtrip_generated (pr : Params) (dict nice depth : Nat) (d : Array UInt8)
    (hn2 : 2 ≤ nice) (hn273 : nice ≤ 273) (hd1 : 1 ≤ dict) (h32 : dict ≤ 2 ^ 32) (rest : List Nat) (cap : Nat) :
    ∃ bytes, encodeParse pr (lzmaReaderDictBuf dict (some d.size) 0) #[] (some d.size) (d.size + 1)
        (normalParseHc4 MfGen.hc4Params EncNormal.genParams pr dict nice depth d) = some bytes ∧
      decodeRaw pr (lzmaReaderDictBuf dict (some d.size) 0) #[] (some d.size) (bytes ++ rest) cap
        = .ok (d.map (fun b => b.toNat)) bytes.length (normalParseHc4 MfGen.hc4Params EncNormal.genParams pr dict nice depth d) :=
  normal_roundtrip_reader pr MfGen.hc4Params C01Mf.generated_hc4_params_ok EncNormal.genParams generated_normal_params_ok
    generated_opts_ge dict nice depth d hn2 hn273 hd1 h32 rest cap

/-- "abcabcabcabcXabcabcabc_abX" (as in `C01Fast`) -/
def w1 : Array UInt8 :=
  #[97, 98, 99, 97, 98, 99, 97, 98, 99, 97, 98, 99, 88, 97, 98, 99, 97, 98, 99, 97, 98, 99, 95, 97, 98, 88]


/-- the hypotheses are satisfiable: the theorems instantiated at the real constants on `w1`
    (dictionary 4096, nice_len 32, default depth, lc/lp/pb = 3/0/2) -/
example := normal_parse_valid {} (by decide) {} (by decide) (by decide) ⟨3, 0, 2⟩ 4096 32 0 4096 w1 (by decide) (by decide)
  (by decide) (by decide) (by decide)
example := normal_roundtrip_generated ⟨3, 0, 2⟩ 4096 32 0 w1 (by decide) (by decide) (by decide) (by decide) [1, 2, 3] 100


/-- on views (`Proofs/Hc4View.lean`): the kernel evaluates the check without touching a table -/
def hc4AnswersOk (H : Hc4.Hc4Params) (c : Hc4.Cfg) (d : Array UInt8) : Nat → Hc4.View → Bool
  | 0, _ => true
  | n + 1, v =>
    (v.find H c d).all (validMatchB d c.dict v.pos (min c.mlmax (d.size - v.pos))) && lensIncreasing (v.find H c d) &&
      hc4AnswersOk H c d n (v.skip1 H c d)

theorem hc4AnswersOk_spec (H : Hc4.Hc4Params) (c : Hc4.Cfg) (d : Array UInt8)
    (h2 : 0 < H.hash.hash2Size) (h3 : 0 < H.hash.hash3Size) (hm : 1 ≤ c.mlmax) :
    ∀ (n : Nat) (s : Hc4.State), Hc4.Sized H c s → hc4AnswersOk H c d n s.view = true → d.size ≤ s.pos + n →
      ∀ k s', s' = Hc4.skip H c d k s →
      (∀ m ∈ (Hc4.find H c d s').1, ValidMatch d c.dict s'.pos (min c.mlmax (d.size - s'.pos)) m) ∧
        lensIncreasing (Hc4.find H c d s').1 = true
  | 0, s, _, _, hs, k, s', hk => by
    rw [hc4_find_past_end H c d _ hm (by rw [hk, hc4_skip_pos]; omega)]
    exact ⟨fun m hm => absurd hm List.not_mem_nil, rfl⟩
  | n + 1, s, hsz, h, hs, k, s', hk => by
    simp only [hc4AnswersOk, Bool.and_eq_true, List.all_eq_true] at h
    cases k with
    | zero =>
      rw [hk, show Hc4.skip H c d 0 s = s from rfl, Hc4.view_find H c d s hm]
      exact ⟨fun m hm => validMatchB_sound _ _ _ _ _ (h.1.1 m hm), h.1.2⟩
    | succ k =>
      obtain ⟨e, hsz'⟩ := Hc4.view_skip1 H c d h2 h3 s hsz
      exact hc4AnswersOk_spec H c d h2 h3 hm n _ hsz' (e ▸ h.2) (by rw [hc4_skip1_pos]; omega) k s' hk

/-- the check from `HC4::new` on covers every state `skip k init` -/
theorem hc4AnswersOk_init (H : Hc4.Hc4Params) (c : Hc4.Cfg) (d : Array UInt8)
    (h2 : 0 < H.hash.hash2Size) (h3 : 0 < H.hash.hash3Size) (hm : 1 ≤ c.mlmax)
    (h : hc4AnswersOk H c d d.size (Hc4.View.init H c) = true) (k : Nat) (s : Hc4.State)
    (hk : s = Hc4.skip H c d k (Hc4.init H c)) :
    (∀ m ∈ (Hc4.find H c d s).1, ValidMatch d c.dict s.pos (min c.mlmax (d.size - s.pos)) m) ∧
      lensIncreasing (Hc4.find H c d s).1 = true :=
  hc4AnswersOk_spec H c d h2 h3 hm d.size (Hc4.init H c) ⟨Array.size_replicate, Array.size_replicate, Array.size_replicate⟩
    (Hc4.view_init H c ▸ h) (Nat.le_add_left _ _) k s hk

/-- what `hc4Sound` derives from `Hc4Params.ok` for every `d`, here from the check along one `d` -/
def hc4SoundOn (H : Hc4.Hc4Params) (c : Hc4.Cfg) (d : Array UInt8)
    (h2 : 0 < H.hash.hash2Size) (h3 : 0 < H.hash.hash3Size) (hm : c.mlmax = 273)
    (h : hc4AnswersOk H c d d.size (Hc4.View.init H c) = true) : FinderSound (hc4Finder H c) d c.dict 273 where
  R := fun s => ∃ k, s = Hc4.skip H c d k (Hc4.init H c)
  pos := fun s => s.pos
  init_R := ⟨0, rfl⟩
  init_pos := rfl
  find_R := fun s ⟨k, hk⟩ => ⟨k + 1, by
    rw [hk]
    exact (Hc4.find_snd H c d _ (by omega)).trans (hc4_skip_skip H c d 1 k _)⟩
  find_pos := fun s _ => hc4_find_pos H c d s (by omega)
  find_valid := fun s ⟨k, hk⟩ => by
    rw [← hm]
    exact (hc4AnswersOk_init H c d h2 h3 (by omega) h k s hk).1
  skip_R := fun s n ⟨k, hk⟩ => ⟨k + n, by rw [hk]; exact hc4_skip_skip H c d n k _⟩
  skip_pos := fun s n _ => hc4_skip_pos H c d n s

/-- the theorem at parameters small enough to run: dictionary 16, nice_len 8, lc/lp/pb = 0/0/0, `opts[]` of 64 entries
    (`nice_len ≤ OPTS` suffices) and the small hash tables of `Hc4.tinyHash`.  These are not `hashOk`, so `hc4Sound`
    does not apply; that the finder answers correctly along `w1` is checked by evaluation instead (`hc4SoundOn`). -/
example : (parseRun 16 (normalParseHc4 { hash := Hc4.tinyHash } { opts := 64 } ⟨0, 0, 0⟩ 16 8 0 w1) Coder.init
    (#[] : Hist)).map (·.2) = some (w1.map (fun b => b.toNat)) := by
  have hok : hc4AnswersOk { hash := Hc4.tinyHash } ⟨16, 8, 273, 0⟩ w1 w1.size
      (Hc4.View.init { hash := Hc4.tinyHash } ⟨16, 8, 273, 0⟩) = true := by
    decide +kernel
  obtain ⟨c', h', hp, hh⟩ := normalParse_valid (hc4SoundOn _ _ w1 (by decide) (by decide) rfl hok)
    (fun s ⟨k, hk⟩ => (hc4AnswersOk_init _ _ w1 (by decide) (by decide) (by decide) hok k s hk).2)
    { opts := 64 } (by decide) ⟨0, 0, 0⟩ 16 8 16 (by decide) (by decide) (by decide) (by decide) (by decide) (by decide)
  rw [normalParseHc4_eq _ _ (by decide), hp, Option.map_some, hh]

/-- an early exit: a run of one byte ends in a repeated match of at least `nice_len` -/
example : normalParseHc4 { hash := Hc4.tinyHash } { opts := 64 } ⟨0, 0, 0⟩ 16 8 0 (Array.replicate 12 7) =
    [.lit 7, .rep 0 11] := by decide +kernel

end LzmaVerif.Props.C01Normal
