import LzmaVerif.Proofs.WorkQueue
import LzmaVerif.Generated.SyncShape
/-!
# C10 — dropping or finishing an MT reader/writer releases all of its threads

Protocol model: `Model/WorkQueue.lean` (one coordinator that pushes `n` units and then closes the
queue – which is what `Drop` and `finish` do – and `k` workers looping on `steal`).

* `skeleton_matches` – the synchronisation skeleton re-extracted from `src/work_queue.rs` on this run
  (`Generated/SyncShape.lean`) is the one the model transcribes: `close` = lock, store, unlock,
  notify_all; `steal` = lock, pop, load, wait; `push` = load, lock, push, unlock, notify_one.
* `drop_releases_all_threads` – for every number of units, every number of workers and EVERY
  schedule: once nothing can move any more, the coordinator is done and every worker has exited.
* `every_schedule_is_finite` – no schedule is longer than `10n + 8k + 5` steps, so that terminal
  state is always reached (no livelock, no unbounded spinning).
* `pinned_close_loses_wakeup` – witness: the close() of the pinned tree (store + notify without the
  mutex) has a 6-step schedule after which a worker waits forever.
-/
namespace LzmaVerif.Props.C10
open LzmaVerif.WorkQueue LzmaVerif.SyncOps

/-- the skeleton the model was written for (push_back and the unlock that follows it are one model
step: nothing can observe the state in between while the mutex is held) -/
def modelCloseOps : List QOp := [.lock, .storeClosed, .unlock, .notifyAll]
def modelStealOps : List QOp := [.lock, .popFront, .loadClosed, .wait]
def modelPushOps : List QOp := [.loadClosed, .lock, .pushBack, .unlock, .notifyOne]

theorem skeleton_matches :
    SyncShape.closeOps = modelCloseOps ∧ SyncShape.stealOps = modelStealOps ∧
    SyncShape.pushOps = modelPushOps := by decide

/-- `Drop` of each of the four MT types, as re-extracted on this run: set the shutdown flag, then close
    the queue – unconditionally (no branch, no early return), which is the `drop` step of the protocol
    model (`MT.callerStep … true`: `shutdown := true, closed := true`, all waiters woken). -/
def modelDropOps : List DOp := [.storeShutdown, .closeQueue]

theorem drop_skeleton_matches :
    SyncShape.lzma2ReaderDropOps = modelDropOps ∧ SyncShape.lzipReaderDropOps = modelDropOps ∧
    SyncShape.lzma2WriterDropOps = modelDropOps ∧ SyncShape.lzipWriterDropOps = modelDropOps := by decide

theorem drop_releases_all_threads (n k : Nat) (sched : List Tid) (s : Sys)
    (hr : runSched (init true n k) sched = some s) (ht : terminal s = true) :
    s.p = .done ∧ ∀ w ∈ s.ws, w = .exited :=
  fixed_no_lost_wakeup n k sched s hr ht

theorem every_schedule_is_finite (n k : Nat) (sched : List Tid) (s : Sys)
    (hr : runSched (init true n k) sched = some s) : sched.length ≤ 10 * n + 8 * k + 5 :=
  fixed_terminates_bound n k sched s hr

theorem pinned_close_loses_wakeup :
    ∃ sched s, runSched (init false 0 1) sched = some s ∧ terminal s = true ∧ s.ws = [.waiting] :=
  buggy_lost_wakeup

/-- the worker bound: `num_workers.clamp(1, 256)` -/
theorem worker_bound (requested : Nat) : 1 ≤ max 1 (min requested 256) ∧ max 1 (min requested 256) ≤ 256 := by
  omega

end LzmaVerif.Props.C10
