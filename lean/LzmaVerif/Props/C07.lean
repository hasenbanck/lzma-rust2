import LzmaVerif.Proofs.BcjStream
import LzmaVerif.Proofs.Split
import LzmaVerif.Proofs.LzDecoder
import LzmaVerif.Proofs.EncWindow
import LzmaVerif.Proofs.RcNormalize
/-!
# C07 — results do not depend on how callers split writes, flushes and reads

Theorems (for EVERY input, EVERY partition into write calls incl. empty ones, EVERY sequence of read
buffer sizes with a non-zero one in it, incl. zero-length and one-byte buffers, EVERY pattern of short reads of the
inner source as far as one `read` of the model follows it: 8200 iterations, `Model/Stream.lean`):

* `bcj_writer_partition_free` – the streaming BCJ writer used inside `XZWriter` emits, for all eight
  architectures, exactly the one-shot filtering of the concatenated input;
* `bcj_reader_schedule_free` – `BCJReader` yields exactly the one-shot decoding of its source for every
  sequence of destination sizes and every sequence of short inner reads;
* `zero_length_reads_are_harmless` – inserting zero-length reads anywhere changes nothing;
* `delta_partition_free` – the Delta coder carries its state across calls: coding `xs ++ ys` is coding
  `xs`, then `ys` from the state reached;
* `container_cutting_partition_free` – block/member/unit boundaries depend on byte counts only;
* `rc_call_boundaries_unobservable` – the normalisations with which `LZMADecoder::decode` closes every call change
  neither the decisions nor the bytes consumed, for every list of call programs fixed in advance.

The streaming models (`Model/Stream.lean`, `Model/BcjStream.lean`) are run against the real
`BCJWriter`/`BCJReader` on every check (random partitions, buffer schedules and short reads).
-/
namespace LzmaVerif.Props.C07
open LzmaVerif

theorem bcj_writer_partition_free (a : Filters.Arch) (start : Nat) (parts : List (List Nat)) :
    BcjStream.writeParts a start parts = Filters.oneShot a true start parts.flatten :=
  BcjStream.writeParts_eq_oneShot a start parts

theorem bcj_reader_schedule_free (a : Filters.Arch) (start : Nat) (src sizes grants : List Nat)
    (hnz : ∃ x ∈ sizes, x ≠ 0) :
    BcjStream.readAll a start src sizes grants = Filters.oneShot a false start src :=
  BcjStream.readAll_eq_oneShot a start src sizes grants hnz

theorem zero_length_reads_are_harmless {σ : Type} (F : Stream.BlockFilter σ) (hF : Stream.Restartable F) (st : σ)
    (src sizes sizes' grants grants' : List Nat) (fuel fuel' : Nat)
    (hsame : sizes'.filter (· ≠ 0) = sizes.filter (· ≠ 0)) (hnz : ∃ x ∈ sizes, x ≠ 0)
    (hfuel : sizes.count 0 + src.length < fuel) (hfuel' : sizes'.count 0 + src.length < fuel') :
    Stream.rRun F fuel' (Stream.rInit st src) sizes' grants' [] = Stream.rRun F fuel (Stream.rInit st src) sizes grants [] :=
  Stream.rRun_insert_zeros F hF st src sizes sizes' grants grants' fuel fuel' hsame hnz hfuel hfuel'

theorem delta_partition_free (f : Filters.Delta → Nat → Nat × Filters.Delta) (d : Filters.Delta) (xs ys : List Nat) :
    (Filters.Delta.run f d (xs ++ ys)).1 =
      (Filters.Delta.run f d xs).1 ++ (Filters.Delta.run f (Filters.Delta.run f d xs).2 ys).1 := by
  induction xs generalizing d with
  | nil => rfl
  | cons x xs ih =>
    simp only [List.cons_append, Filters.Delta.run]
    rw [ih]

theorem container_cutting_partition_free (lim : Nat) (hl : 2 ≤ lim) (p q : List Nat) (h : p.sum = q.sum) :
    Split.xzBlocks lim p = Split.xzBlocks lim q ∧ Split.lzipMembers lim p = Split.lzipMembers lim q ∧
    Split.mtUnits lim p = Split.mtUnits lim q :=
  ⟨Split.xzBlocks_partition_independent lim hl p q h, Split.lzipMembers_partition_independent lim hl p q h,
    Split.mtUnits_partition_independent lim (by omega) p q h⟩

/-! `lz_reader_partition_free`: the decoder's cyclic dictionary buffer (`lz::LZDecoder`: put_byte, repeat with
its wrap-around / direct / overlapping copy branches, matches cut by the read limit and completed by
`repeat_pending`, `flush` wrapping the position) driven by the reader loop hands out, for EVERY list of read
sizes with the same sum, the same bytes – namely the one-shot history of the symbols (`lz_reader_refines`).
The model is tied to the code by the hook `verif_hooks::lz_decoder_script` (driver `lzdec.run`). -/

theorem lz_reader_refines (dict : Nat) (preset : Option (List Nat)) (syms : List LzDecoder.Sym) (sizes : List Nat)
    (hd : 1 ≤ dict) (hadm : LzDecoder.Admissible dict (LzDecoder.presetUsed dict preset).toArray syms) :
    ∃ s' rest, LzDecoder.readAll (LzDecoder.new dict preset) sizes syms =
      .ok (((LzDecoder.applySyms (LzDecoder.presetUsed dict preset).toArray syms).toList.drop
              (LzDecoder.presetUsed dict preset).length).take sizes.sum, s', rest) :=
  LzDecoder.readAll_refine dict preset syms sizes hd hadm

theorem lz_reader_partition_free (dict : Nat) (preset : Option (List Nat)) (syms : List LzDecoder.Sym)
    (sizes₁ sizes₂ : List Nat) (hd : 1 ≤ dict)
    (hadm : LzDecoder.Admissible dict (LzDecoder.presetUsed dict preset).toArray syms)
    (hsum : sizes₁.sum = sizes₂.sum) :
    (LzDecoder.readAll (LzDecoder.new dict preset) sizes₁ syms).map (·.1) =
      (LzDecoder.readAll (LzDecoder.new dict preset) sizes₂ syms).map (·.1) :=
  LzDecoder.readAll_partition_free dict preset syms sizes₁ sizes₂ hd hadm hsum

/-! `LZMADecoder::decode` closes every call with `rc.normalize()`.  For every list of decision programs, one per call,
every `ProbsOk` table and every state with `2^16 ≤ range`, normalising after each call changes neither decisions, adapted
probabilities nor - after the final normalisation - the decoder state.  The list is fixed in advance: calls whose program
depends on what earlier calls decoded (as the real calls' do) are not covered by the statement.  Schedule dependent in the real reader: how much decoded data
has been handed out when an error is reported; the error CLASS is not (oracle `error-class-depends-on-read-sizes`,
C04/C05/C06).  Not proved: the composition with `lz_reader_partition_free` (the whole-stream model `Lzma.decodeRaw` has
no calls). -/

theorem rc_call_boundaries_unobservable {α : Type} (segs : List (Prog α)) (ps : Rc.Probs) (d : Rc.Dec)
    (hps : Rc.ProbsOk ps) (hd : Rc.RangeOk d) :
    (Prog.segRun true segs ps d).1 = (Prog.segRun false segs ps d).1 ∧
    (Prog.segRun true segs ps d).2.1 = (Prog.segRun false segs ps d).2.1 ∧
    (Prog.segRun true segs ps d).2.2.normalize = (Prog.segRun false segs ps d).2.2.normalize :=
  Prog.segRun_eq segs ps d d hps hd (Or.inl rfl)

/-- non-vacuity: the hypotheses hold for a concrete state and a one-bit call, and the normalisation that closes the call
    really reads a byte there (one byte less is left) -/
example : Rc.RangeOk Prog.exDec ∧
    (Prog.segRun true [Prog.exSeg] #[1024] Prog.exDec).2.2.inp.length + 1
      = (Prog.segRun false [Prog.exSeg] #[1024] Prog.exDec).2.2.inp.length :=
  ⟨by unfold Rc.RangeOk Prog.exDec; decide, by decide⟩

/-! The LZMA writers.  `encoder_view_partition_free`: for every oracle standing for the search (any function of the views
seen so far, constrained only by the read-ahead bound of its mode) and any two partitions of the same bytes into write
calls, the sequence of views (position, look-back of min(pos, dict) bytes, look-ahead capped by what the code can
observe, match length limit) at every `move_pos` is identical – window moves, pending bytes and the finishing flag
included.  `encoder_lookahead_constants`: the constants EXTRA_SIZE_AFTER re-extracted from the source cover the
read-ahead of both modes; `encoder_small_lookahead_witness`: with the constant reduced by MATCH_LEN_MAX (a seeded
change) the views DO depend on the partition. -/

theorem encoder_view_partition_free (dict nice : Nat) (mode : EncWindow.Mode) (mf : EncWindow.MF) (lzma2 : Bool)
    (hd : Consts.DICT_SIZE_MIN ≤ dict) (hn1 : 4 ≤ nice) (hn2 : nice ≤ Consts.MATCH_LEN_MAX)
    (O : EncWindow.Oracle) (parts₁ parts₂ : List (List Nat)) (h : parts₁.flatten = parts₂.flatten) :
    EncWindow.traceOf EncWindow.listBuf (EncWindow.mkParams dict nice mode mf lzma2) O parts₁ =
      EncWindow.traceOf EncWindow.listBuf (EncWindow.mkParams dict nice mode mf lzma2) O parts₂ :=
  EncWindow.view_independence_real dict nice mode mf lzma2 hd hn1 hn2 O parts₁ parts₂ h

theorem encoder_lookahead_constants (m : EncWindow.Mode) :
    m.maxAhead ≤ m.extraAfter ∧ m.availCap ≤ m.extraAfter + Consts.MATCH_LEN_MAX :=
  EncWindow.extra_after_covers_search m

theorem encoder_small_lookahead_witness :
    ((EncWindow.traceOf EncWindow.noBuf EncWindow.seededFast EncWindow.greedyMax (EncWindow.cyclicParts 0 [546])).map (·.matchLimit))[273]? = some 273 ∧
    ((EncWindow.traceOf EncWindow.noBuf EncWindow.seededFast EncWindow.greedyMax (EncWindow.cyclicParts 0 [274, 272])).map (·.matchLimit))[273]? = some 0 :=
  EncWindow.small_extra_after_breaks_independence

end LzmaVerif.Props.C07
