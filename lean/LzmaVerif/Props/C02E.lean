import LzmaVerif.Proofs.EndToEnd
/-!
# C02 (continued) — the XZ and LZIP containers round-trip, end to end

(`Props/C02.lean` is imported by the container proofs, so the statements that use those proofs live here.)

`xz_container_roundtrip`, `lzip_container_roundtrip`: for every check type, every admissible filter chain (Delta / the
eight BCJ filters with format-conforming start offsets / LZMA2), every list of blocks of bytes, each with any valid
sequence of LZMA2 writer events for its filtered data, the reader model returns exactly the data and consumes exactly
the file, with no hypothesis about the codec or the filters left; likewise for multi-member LZIP files, given a parse of
each member's data.  What remains as hypotheses is what the real encoder's search supplies and the driver validates on
every real stream (`checkChunks`, `parseRun`), plus the size side conditions (sizes below 2^63 / 2^64, at most 2^29
blocks).
-/
namespace LzmaVerif.Props.C02
open LzmaVerif

theorem xz_filter_chain_inverse (fs : List Xz.Filter) (hfs : Xz.FiltersOk fs) (xs : List Nat) (hx : Xz.Bytes xs) :
    Xz.unfilter fs (Xz.applyFilters fs xs) = xs :=
  Xz.unfilter_applyFilters fs hfs xs hx

theorem xz_container_roundtrip (c : Xz.Check) (fs : List Xz.Filter) (hfs : Xz.FiltersOk fs) (bs : List Xz.EBlock)
    (hb : ∀ b ∈ bs, b.Ok fs)
    (hlen : (Xz.streamBytes c fs (Xz.wire fs bs)).length < 2 ^ 63) (hdat : (Xz.dataOf bs).length < 2 ^ 63)
    (hn : bs.length ≤ 2 ^ 29)
    (rest : List Nat) (cap : Nat) (hcap : (Xz.dataOf bs).length ≤ cap) :
    Xz.decode false (Xz.streamBytes c fs (Xz.wire fs bs) ++ rest) cap
      = .ok (Xz.dataOf bs) (Xz.streamBytes c fs (Xz.wire fs bs)).length ((Xz.wire fs bs).map (Xz.blkOf fs)).reverse :=
  Xz.xz_end_to_end' c fs hfs bs hb hlen hdat hn rest cap hcap

theorem lzip_container_roundtrip (ms : List LzipFile.EMember) (hne : ms ≠ []) (hm : ∀ m ∈ ms, m.Ok)
    (trailing : List Nat) (ht : trailing.take 4 ≠ Consts.LZIP_MAGIC) (ht2 : LzipFile.TrailingOk trailing)
    (cap : Nat) (hcap : (LzipFile.membersData ms).length ≤ cap) :
    LzipFile.decode (LzipFile.fileBytes (LzipFile.wireMembers ms) ++ trailing) cap
      = .ok (LzipFile.membersData ms) ((LzipFile.fileBytes (LzipFile.wireMembers ms)).length + min 4 trailing.length)
          (LzipFile.fileRecs (LzipFile.wireMembers ms)) :=
  LzipFile.lzip_end_to_end ms hne hm trailing ht ht2 cap hcap

end LzmaVerif.Props.C02
