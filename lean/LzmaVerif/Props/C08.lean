import LzmaVerif.Proofs.MT
/-!
# C08 — multi-threaded readers/writers are equivalent to the single-threaded ones

Protocol model `Model/MT.lean`: a coordinator inside the caller's `read`, up to `maxWorkers` workers,
work queue, result channel, reorder buffer, error store.  What a worker computes from unit `i` depends
only on `i` (each unit is decoded by a fresh single-threaded reader / encoded by a fresh single-threaded
writer), so *what the caller receives* is determined by the ORDER of delivered sequence numbers.

For every configuration (any number of units, any unit outcomes, any worker limit ≥ 1) and EVERY
schedule:

* `mt_delivers_in_order` – the caller receives units `0, 1, 2, …` in order, no gaps, no duplicates,
  whichever worker finishes first;
* `mt_nothing_lost` – a healthy unit that has been dispatched and not yet delivered is in the queue, a
  worker's hands, the channel or the reorder buffer (in exactly one of them: `MT.mt_conservation`);
* `mt_end_of_stream_is_complete` – if the caller is told end-of-stream then ALL units have been
  delivered, the source ended cleanly and no unit failed.

Together with the per-unit round trip (C01/C02: each unit is a self-contained run of chunks / member)
this gives MT output = ST output.  The per-unit statement is tied to the code by the C01/C02 checks; the
cutting of units by the MT writers is `mtUnits_eq_ideal` (C18).
-/
namespace LzmaVerif.Props.C08
open LzmaVerif.MT

theorem mt_delivers_in_order (cfg : Cfg) (hcfg : 1 ≤ cfg.maxWorkers) (sched : List Label) (s : Sys)
    (hr : runSched (init cfg) sched = some s) :
    s.delivered = List.range s.delivered.length ∧ s.nextReturn = s.delivered.length :=
  mt_order cfg hcfg sched s hr

theorem mt_nothing_lost (cfg : Cfg) (hcfg : 1 ≤ cfg.maxWorkers) (sched : List Label) (s : Sys)
    (hr : runSched (init cfg) sched = some s) (q : Nat) (h1 : s.nextReturn ≤ q) (h2 : q < s.nextDispatch)
    (hok : cfg.units.getD q .ok = .ok) :
    q ∈ s.queue ∨ (∃ w ∈ s.ws, w = .got q ∨ w = .work q ∨ w = .send q) ∨ .result q ∈ s.chan ∨ q ∈ s.ooo :=
  mt_ok_unit_not_lost cfg hcfg sched s hr q h1 h2 hok

theorem mt_end_of_stream_is_complete (cfg : Cfg) (hcfg : 1 ≤ cfg.maxWorkers) (sched : List Label) (s : Sys)
    (hr : runSched (init cfg) sched = some s) (hdone : s.pc = .idle (some .done)) :
    s.delivered.length = cfg.units.length ∧ cfg.srcOk = true ∧ ∀ o ∈ cfg.units, o = .ok :=
  mt_complete cfg hcfg sched s hr hdone

/-- the output is schedule-free: any two complete runs deliver the same sequence -/
theorem mt_output_schedule_free (cfg : Cfg) (hcfg : 1 ≤ cfg.maxWorkers) (sched₁ sched₂ : List Label) (s₁ s₂ : Sys)
    (h₁ : runSched (init cfg) sched₁ = some s₁) (h₂ : runSched (init cfg) sched₂ = some s₂)
    (d₁ : s₁.pc = .idle (some .done)) (d₂ : s₂.pc = .idle (some .done)) :
    s₁.delivered = s₂.delivered :=
  (mt_done_delivered cfg hcfg sched₁ s₁ h₁ d₁).trans (mt_done_delivered cfg hcfg sched₂ s₂ h₂ d₂).symm

end LzmaVerif.Props.C08
