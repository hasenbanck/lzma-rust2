import LzmaVerif.Proofs.RcRoundtrip
import LzmaVerif.Proofs.LoopRt
import LzmaVerif.Proofs.DecodeRaw
import LzmaVerif.Proofs.EncWindowInv
/-!
# C01 — LZMA compress then decompress returns exactly the input

`lzma_roundtrip_size` / `lzma_roundtrip_marker` (the latter in `Proofs/EndToEndLzma.lean`, as a special case of
`lzma_marker_uniform`): for EVERY parameter set `lc, lp, pb`, EVERY dictionary
buffer size, EVERY preset dictionary, EVERY parse that denotes data (every symbol admissible, every copy
inside the dictionary – `parseRun`), and ANY bytes following the stream:

  the model encoder produces a byte string, and the model decoder (`decodeRaw`, i.e. `LZMAReader` over a raw
  LZMA1 stream) run on that byte string followed by the extra bytes returns exactly the denoted data, has
  consumed exactly the encoder's bytes, and recovers the parse.

Chain: `sym_rt` (one symbol) → `loop_enc_size` / `loop_enc_marker` (the encoder's walk of the symbol loop along the parse;
`loop_rt_*` are their read-outs without the encoder) → `rc_roundtrip`.  The theorems quantify over every parse that `parseRun` accepts; the
modelled parsers are in Props/C01Fast.lean and Props/C01Normal.lean.  On every check the parse is recovered from the
real encoder's bytes, must satisfy `parseRun` against the input, and the model encoder must reproduce the real bytes
from it exactly (translation validation, see DESIGN.md).
-/
namespace LzmaVerif.Props.C01
open LzmaVerif Lzma Prog Rc

theorem probsOk_fresh (pr : Params) : ProbsOk (Array.replicate (numProbs pr.lc pr.lp) PROB_INIT) :=
  ProbsOk_replicate _

/-- the declared-size round trip with ONE byte string for whatever follows it and every cap -/
theorem lzma_size_uniform (pr : Params) (dictBuf : Nat) (preset : Array Nat) (parse : List Sym) (n : Nat)
    (c' : Coder) (h' : Hist)
    (hp : parseRun dictBuf parse Coder.init (presetUsedOf preset dictBuf) = some (c', h'))
    (hn : h'.size = (presetUsedOf preset dictBuf).size + n) :
    ∃ bytes, encodeParse pr dictBuf (presetUsedOf preset dictBuf) (some n) (n + 1) parse = some bytes ∧
      ∀ (rest : List Nat) (cap : Nat), decodeRaw pr dictBuf preset (some n) (bytes ++ rest) cap
        = .ok (h'.extract (presetUsedOf preset dictBuf).size h'.size) bytes.length parse := by
  generalize hpu : presetUsedOf preset dictBuf = pu at *
  have henc := loop_enc_size pr dictBuf parse Coder.init pu c' h' (n + 1) n [] 0
    (Array.replicate (numProbs pr.lc pr.lp) PROB_INIT) Enc.init hp hn (parse_fits hp hn)
  refine ⟨_, by simp only [encodeParse, henc]; rfl, fun rest cap => ?_⟩
  obtain ⟨d0, d', hinit, hdec, hinp, hover, _⟩ :=
    rc_roundtrip _ _ _ (probsOk_fresh pr) _ _ _ henc rest
  have hrun := hdec
  rw [← hpu] at hrun
  rw [decodeRaw_run pr dictBuf preset (some n) cap hinit hrun, rawResult, hpu, rawFinish_limit _ _ _ _ _ rfl hover]
  simp only [hinp, List.append_nil, List.reverse_reverse, List.length_append, Nat.add_sub_cancel]

theorem lzma_roundtrip_size (pr : Params) (dictBuf : Nat) (preset : Array Nat) (parse : List Sym) (n : Nat)
    (c' : Coder) (h' : Hist)
    (hp : parseRun dictBuf parse Coder.init (presetUsedOf preset dictBuf) = some (c', h'))
    (hn : h'.size = (presetUsedOf preset dictBuf).size + n) (rest : List Nat) (cap : Nat) :
    ∃ bytes, encodeParse pr dictBuf (presetUsedOf preset dictBuf) (some n) (n + 1) parse = some bytes ∧
      decodeRaw pr dictBuf preset (some n) (bytes ++ rest) cap
        = .ok (h'.extract (presetUsedOf preset dictBuf).size h'.size) bytes.length parse := by
  obtain ⟨bytes, henc, hdec⟩ := lzma_size_uniform pr dictBuf preset parse n c' h' hp hn
  exact ⟨bytes, henc, hdec rest cap⟩


/-! ## Encoder window moves keep the position contexts

`LZEncoderData::move_window` shifts the buffer by
`move_offset = (read_pos + 1 - keep_size_before - pending_size) & !(MOVE_BLOCK_ALIGN-1)` and the encoder derives
`pos_state` / the literal position bits from the buffer-relative position (`pos & ((1 << pb) - 1)`, `pb, lp ≤ 4`).  The
decoder uses the absolute position.  They agree if every move offset is a multiple of 16 – which holds because the
offset is a multiple of `MOVE_BLOCK_ALIGN` (re-extracted from `src/lz/lz_encoder.rs` on every run) and
`16 ∣ MOVE_BLOCK_ALIGN`. -/

/-- `x & !(MOVE_BLOCK_ALIGN - 1)` for a power-of-two alignment, as arithmetic -/
def moveOffset (x : Nat) : Nat := x / Consts.MOVE_BLOCK_ALIGN * Consts.MOVE_BLOCK_ALIGN

/-- it is the rounding of the window model's `move_window` -/
theorem moveOffset_eq_alignDown (x : Nat) : moveOffset x = EncWindow.alignDown x := rfl

theorem moveOffset_mod16 (x : Nat) : moveOffset x % 16 = 0 := EncWindow.alignDown_mod16 x

/-- a window move leaves the `pos_state` / literal-position context of a position as it is, for every mask width up to
    4 bits -/
theorem window_move_keeps_position_bits (k : Nat) (hk : k ≤ 4) (pos x : Nat) (hle : moveOffset x ≤ pos) :
    (pos - moveOffset x) % 2 ^ k = pos % 2 ^ k := by
  obtain ⟨q, hq⟩ : 2 ^ k ∣ moveOffset x :=
    Nat.dvd_trans (Nat.pow_dvd_pow 2 hk) (Nat.dvd_of_mod_eq_zero (moveOffset_mod16 x))
  rw [hq] at hle ⊢
  exact Nat.sub_mul_mod hle

/-- the alignment is necessary: with an 8-byte alignment a move by 8 flips bit 3 of the position -/
example : (24 - 8) % 2 ^ 4 ≠ 24 % 2 ^ 4 := by decide


/-! ## LZMA2 chunk size limit of the encoder

`encode_for_lzma2` runs `while uncompressed_size <= LZMA2_UNCOMPRESSED_LIMIT && pending <= LZMA2_COMPRESSED_LIMIT
{ encode_symbol }`; a symbol covers 1..MATCH_LEN_MAX bytes.  The chunk header stores `size - 1` in 5 + 16 bits, so
a chunk may hold at most 2^21 bytes (`ChunksOk` requires it, the reader model's `lzmaChunkSize` cannot express
more).  With the constants re-extracted from `src/enc/encoder.rs` on this run the loop can never exceed it. -/

/-- the uncompressed size the chunk loop ends with, for the symbol lengths it is offered -/
def chunkLoopUnc : Nat → List Nat → Nat
  | acc, [] => acc
  | acc, l :: ls => if acc ≤ Consts.LZMA2_UNCOMPRESSED_LIMIT then chunkLoopUnc (acc + l) ls else acc

theorem lzma2_limit_constants_fit : Consts.LZMA2_UNCOMPRESSED_LIMIT + Consts.MATCH_LEN_MAX ≤ 2 ^ 21 := by decide

theorem lzma2_chunk_loop_fits (lens : List Nat) (h : ∀ l ∈ lens, l ≤ Consts.MATCH_LEN_MAX) :
    ∀ acc, acc ≤ Consts.LZMA2_UNCOMPRESSED_LIMIT + Consts.MATCH_LEN_MAX →
      chunkLoopUnc acc lens ≤ 2 ^ 21 := by
  have hc := lzma2_limit_constants_fit
  induction lens with
  | nil => intro acc ha; simp only [chunkLoopUnc]; omega
  | cons l ls ih =>
    intro acc ha
    simp only [chunkLoopUnc]
    split
    · rename_i hle
      apply ih (fun x hx => h x (List.mem_cons_of_mem _ hx))
      have := h l (List.mem_cons_self ..)
      omega
    · omega

/-- the bound is tight: one more byte of limit and a maximal match overflows the 21-bit size field -/
example : chunkLoopUnc 0 [Consts.LZMA2_UNCOMPRESSED_LIMIT, Consts.MATCH_LEN_MAX] = 2 ^ 21 := by decide

end LzmaVerif.Props.C01
