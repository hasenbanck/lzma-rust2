import LzmaVerif.Proofs.Twins
import LzmaVerif.Proofs.TwinsCalls
import LzmaVerif.Generated.TwinParams
/-!
# C14 — feature configurations (optimization on/off, std/no_std) behave identically

The `optimization` feature swaps four safe functions for `unsafe` / SIMD / assembly twins.  Both variants
of each twin are modelled (`Model/Twins.lean`, fixed-width semantics explicit, every memory index the
optimized variant touches is part of its result) and proved equal for ALL inputs satisfying the callers'
invariants.  The models are parameterised by the constants the twins depend on; those are re-extracted from
the source on every run (`tools/extract_twins.py` → `Generated/TwinParams.lean`, a source line that no longer
matches is an extraction error), `generated_params_ok` is re-proved by `decide`, and the theorems below are
instantiated FOR the generated parameters.

* `extend_match_twins_agree` – match extension: 8-byte words + `trailing_zeros / 8` = byte-wise longest
  common prefix, for every pair of byte strings.
* `fast_reject_twins_agree` – the 2-byte fast reject through a clamped unaligned u16 read gives the portable
  verdict whenever two bytes are available (caller's invariant).
* `match_len_fast_reject_twins_agree` – the same for the whole function as it is called
  (`get_match_len_fast_reject` = reject, then `extend_match` with `current_len = 2`): whenever the portable twin
  does not panic the optimized one returns the same length; `match_len_fast_reject_spec` is the byte-wise answer
  of both.  This is the granularity at which the real function is run against the model (hook
  `lz_match_len_fast_reject`, driver `twin.reject`); `extLogical` models `(limit - current_len) as usize` for
  `limit < current_len` as that run shows it (witness `Twins.fastReject_small_limit_extends`).
* `normalize_twins_agree` – hash-table renormalisation: SIMD body + scalar head/tail = scalar everywhere, for
  every vector width and alignment offset, on all i32 values (wrap-around included).
* `direct_bits_twins_agree` – range decoder direct bits: the x86-64 assembly formulation equals the portable
  loop on every state with `2^16 ≤ range`, as long as the reads stay inside the chunk buffer, the only situation in
  which the assembly is used (`pos + count ≤ len` guard, e0695aa; the translator checks that the guard is in the
  source).  `direct_bits_overrun_witness` is the divergence without the guard (reproduced on the real code by the
  transcript engine); `aarch64_sign_test_witness` is a divergence between the aarch64 assembly (unsigned compare) and
  the portable/x86 code (sign test) on corrupt streams that cannot be executed in this sandbox.

* `direct_bits_dispatch_agrees` – the function as it is called: guard `count > 0 && pos + count ≤ len`, then
  assembly or portable loop, equals the portable loop from every state with `2^16 ≤ range` — any buffer, any
  position (also beyond the end), any count; no side condition left, because `count` bits normalise at most
  `count` times.  The real `decode_direct_bits` (buffer decoder = default dispatch, and the portable loop through
  a non-buffer reader) is run against `directBitsOpt` / `directPortable` through the hook `rc_decode_direct_bits`
  (driver `twin.direct`).

no_std vs std has no twin arithmetic (only the Read/Write/Error replacements): it is decided by the
transcript comparison of the four builds (`harness-feat`), as is every twin end to end.
-/
namespace LzmaVerif.Props.C14
open LzmaVerif LzmaVerif.Twins

theorem generated_params_ok : TwinGen.params.Ok ∧ TwinGen.extractionErrors = 0 := by decide

theorem ok : TwinGen.params.Ok := generated_params_ok.1

theorem extend_match_twins_agree (s1 s2 : List Nat) (h1 : Bytes s1) (h2 : Bytes s2) :
    extendMatchSafe TwinGen.params s1 s2 = byteMatchLen s1 s2 :=
  extendMatchSafe_eq_byteMatchLen TwinGen.params ok.wordSize_pos ok.tzDiv s1 s2 h1 h2

theorem extend_match_unsafe_agrees (buf : List Nat) (hB : Bytes buf) (readPos curLen dist limit : Nat)
    (hc : curLen ≤ limit) (hb : readPos + curLen + (limit - curLen) ≤ buf.length) :
    (extendMatchOptT TwinGen.params buf readPos curLen dist limit).1 =
      curLen + byteMatchLen (slice buf (readPos + curLen) (limit - curLen))
                            (slice buf (readPos + curLen - dist) (limit - curLen)) :=
  extendMatchOpt_eq_portable TwinGen.params buf _ _ _ _ _
    (extendMatchPortable_spec TwinGen.params ok.wordSize_pos ok.tzDiv buf hB _ _ _ _ hc hb)

theorem fast_reject_twins_agree (buf : List Nat) (h2 : 2 ≤ buf.length) (hB : Bytes buf)
    (readPos matchDist : Nat) (hd : matchDist ≤ readPos) (v : Bool)
    (hv : fastRejectPortable buf readPos matchDist = some v) :
    (fastRejectOpt TwinGen.params buf readPos matchDist).1 = v :=
  fastRejectOpt_eq_portable TwinGen.params ok.bufLimitSub ok.u16Bytes buf hB _ _ hd v hv

theorem match_len_fast_reject_twins_agree (buf : List Nat) (hB : Bytes buf) (readPos dist lenLimit : Nat)
    (hd : dist + 1 ≤ readPos) (v : Nat)
    (hv : matchLenFastRejectPortable TwinGen.params buf readPos dist lenLimit = some v) :
    (matchLenFastRejectOptT TwinGen.params buf readPos dist lenLimit).1 = v :=
  matchLenFastRejectOpt_eq_portable TwinGen.params ok.bufLimitSub ok.u16Bytes buf hB readPos dist lenLimit hd v hv

theorem match_len_fast_reject_spec (buf : List Nat) (hB : Bytes buf) (readPos dist lenLimit : Nat)
    (hd : dist + 1 ≤ readPos) (h2 : 2 ≤ lenLimit) (hb : readPos + lenLimit ≤ buf.length) :
    (matchLenFastRejectOptT TwinGen.params buf readPos dist lenLimit).1 =
      (if buf.getD readPos 0 ≠ buf.getD (readPos - (dist + 1)) 0
            ∨ buf.getD (readPos + 1) 0 ≠ buf.getD (readPos + 1 - (dist + 1)) 0 then 0
       else 2 + byteMatchLen (slice buf (readPos + 2) (lenLimit - 2))
                             (slice buf (readPos + 2 - (dist + 1)) (lenLimit - 2))) :=
  match_len_fast_reject_twins_agree buf hB readPos dist lenLimit hd _
    (matchLenFastRejectPortable_spec TwinGen.params ok.wordSize_pos
      ok.tzDiv buf hB readPos dist lenLimit h2 hb)

/-- non-vacuity of both: `read_pos = 3`, rep distance 2 (`match_dist = 3`), five bytes repeat -/
example :
    let buf := [1, 2, 3, 1, 2, 3, 1, 2, 9]
    Bytes buf ∧ 2 + 1 ≤ 3 ∧ 2 ≤ 6 ∧ 3 + 6 ≤ buf.length ∧
    matchLenFastRejectPortable TwinGen.params buf 3 2 6 = some 5 := by
  exact ⟨by unfold Bytes; decide, by decide, by decide, by decide, by decide⟩

theorem normalize_twins_agree (off : Int) (lanes pre : Nat) (ps : List Int) :
    normalizeSimd off lanes pre ps = normalizeScalar off ps :=
  normalizeSimd_eq_scalar off lanes pre ps

theorem direct_bits_twins_agree (buf : List Nat) (hB : Bytes buf) (hlen : buf.length = rcBufLen TwinGen.params)
    (k : Nat) (s : DState) (hs0 : RangeOk s)
    (hin : (directPortable TwinGen.params buf (directFuel k) k s).pos ≤ buf.length) :
    directX86 TwinGen.params buf k s = directPortable TwinGen.params buf (directFuel k) k s :=
  directX86_eq_directPortable TwinGen.params ok.topValue ok.shiftBits ok.signShift buf hB ok.asmLimitSub
    k s hs0 hin

theorem direct_bits_dispatch_agrees (buf : List Nat) (hB : Bytes buf) (k : Nat) (s : DState)
    (hs0 : RangeOk s) :
    directBitsOpt TwinGen.params buf k s = directPortable TwinGen.params buf (directFuel k) k s :=
  directBitsOpt_eq_portable TwinGen.params ok.topValue ok.shiftBits ok.signShift ok.asmLimitSub
    buf hB k s hs0

/-- non-vacuity: a corrupt-stream state (`code ≥ range`), the guard holds with equality (the assembly runs) -/
example :
    let s : DState := ⟨0x00FFFFFF, 0xFFFFFFFF, 1, 0⟩
    Bytes [1, 2, 0xFF] ∧ RangeOk s ∧ s.range ≤ s.code ∧ s.pos + 2 ≤ [1, 2, 0xFF].length ∧
    (directBitsOpt TwinGen.params [1, 2, 0xFF] 2 s).pos = 2 := by
  exact ⟨by unfold Bytes; decide, by unfold RangeOk; decide, by decide, by decide, by decide +kernel⟩

/-- the code before e0695aa (no guard): past the end of the buffer the portable reader supplies 0, the assembly
    re-reads the last byte.  State inside the invariant (`code < range`), buffer `[0xFF]` already consumed
    (`pos = len = 1`): portable decodes bit 0, both assembly variants bit 1.  `pos` is 2 in all of them, so the
    chunk is rejected by `is_finished()` at its end in all variants, but the bytes decoded in between differ. -/
theorem direct_bits_overrun_witness :
    let s : DState := ⟨2 ^ 23 + 1, 2 ^ 22, 1, 0⟩
    s.code < s.range ∧
    directPortable srcParams [0xFF] (directFuel 1) 1 s = ⟨2 ^ 30 + 128, 2 ^ 30, 2, 0⟩ ∧
    directX86 srcParams [0xFF] 1 s = ⟨2 ^ 30 + 128, 127, 2, 1⟩ ∧
    directA64 srcParams [0xFF] 1 s = ⟨2 ^ 30 + 128, 127, 2, 1⟩ := by
  decide +kernel

/-- open observation (aarch64 cannot be run here): unsigned compare vs sign test, starting INSIDE the invariant
    (`range = 2^25-1 ≥ 2^24`, `code = range - 1 < range`, next input byte `0xFF`; such a state only arises on
    corrupt streams): the first direct bit makes `code = range` (odd range), the following normalisation pushes
    `code` to `2^32 - 1` with `range/2 = 2^31 - 128`; portable and x86-64 return the bits `10`, aarch64 `11`. -/
theorem aarch64_sign_test_witness :
    let s : DState := ⟨2 ^ 25 - 1, 2 ^ 25 - 2, 0, 0⟩
    s.code < s.range ∧ 2 ^ 24 ≤ s.range ∧
    (directPortable srcParams [0xFF] (directFuel 2) 2 s).result = 2 ∧
    (directX86 srcParams [0xFF] 2 s).result = 2 ∧
    (directA64 srcParams [0xFF] 2 s).result = 3 ∧
    (directX86 srcParams [0xFF] 2 s).pos = 1 ∧ (directA64 srcParams [0xFF] 2 s).pos = 1 := by
  decide

end LzmaVerif.Props.C14
