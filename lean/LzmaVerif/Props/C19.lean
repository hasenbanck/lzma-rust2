import LzmaVerif.Proofs.Options
import LzmaVerif.Proofs.XzParse
import LzmaVerif.Props.C17
/-!
# C19 — a writer that reports success has produced a decodable stream

The writers validate their options (`LZMAOptions::validate`, filter checks in `XZWriter::new`); the
model of that decision (`Model/Options.lean`) is executed against the real constructors on the whole
boundary grid on every check (accept / reject must agree), and every accepted point must round-trip on the
real code without panic, abort or undecodable output (each grid point runs in its own process).

Theorems – there is no gap between what is ACCEPTED and what the round-trip theorems COVER:
* `accepted_options_are_covered` – every accepted option vector satisfies the hypotheses under which the
  container, codec-parameter and memory theorems are proved (dictionary encodable in the XZ block header,
  `lc+lp ≤ 4` hence a properties byte the LZMA2 reader accepts, parameters inside the probability-table
  layout, estimator hypotheses);
* `rejected_iff_out_of_range` – an option vector is rejected exactly when some field is outside its
  documented range (nothing in range is refused);
* `accepted_filters_are_covered` – accepted filter chains satisfy `Xz.FiltersOk`-style side conditions.
-/
namespace LzmaVerif.Props.C19
open LzmaVerif Options

theorem rejected_iff_out_of_range (o : LzOptions) (lzma2 : Bool) :
    validate o lzma2 = false ↔
      (o.lc > 8 ∨ o.lp > 4 ∨ o.pb > 4 ∨ (lzma2 = true ∧ o.lc + o.lp > 4) ∨ o.dict < 4096 ∨
       o.dict > 768 * 1024 * 1024 ∨ o.nice < 8 ∨ o.nice > 273) := by
  rw [← Bool.not_eq_true, validate_iff]
  cases lzma2 <;> simp <;> omega

theorem accepted_options_are_covered (o : LzOptions) (h : validate o true = true) :
    Xz.DictOk o.dict ∧ o.lc + o.lp ≤ 4 ∧ o.pb ≤ 4 ∧ (o.pb * 5 + o.lp) * 9 + o.lc ≤ 224 ∧
    (∀ normal bt4, C17.OptsOk { dict := o.dict, lc := o.lc, lp := o.lp, pb := o.pb, normal, bt4, nice := o.nice }) := by
  obtain ⟨⟨h1, h2, h3⟩, h4, ⟨h5, h6⟩, h7, h8⟩ := (validate_iff o true).mp h
  have h4 := h4 rfl
  exact ⟨⟨h5, .inl (by omega)⟩, h4, h3, by omega, fun _ _ => ⟨h5, by show o.dict ≤ 2 ^ 30; omega, h1, h2, h3, h7, h8⟩⟩

theorem accepted_filters_are_covered (id prop : Nat) (h : filterOk id prop = true) :
    (id = 3 ∧ 1 ≤ prop ∧ prop ≤ 256) ∨
    (∃ a, Xz.archOfId id = some a ∧ prop % Xz.archAlign a = 0) := by
  unfold filterOk at h
  by_cases h3 : id = 3
  · left; simp only [h3, if_true, decide_eq_true_eq] at h; exact ⟨h3, h⟩
  · right
    simp only [h3, if_false] at h
    by_cases h4 : id = 4
    · exact ⟨.x86, by rw [h4]; rfl, by simp only [Xz.archAlign]; omega⟩
    · simp only [h4, if_false] at h
      by_cases h8 : id = 8 ∨ id = 11
      · simp only [h8, if_true, decide_eq_true_eq] at h
        rcases h8 with e | e <;> subst e
        · exact ⟨.armThumb, rfl, h⟩
        · exact ⟨.riscv, rfl, h⟩
      · simp only [h8, if_false] at h
        by_cases h6 : id = 6
        · simp only [h6, if_true, decide_eq_true_eq] at h
          exact ⟨.ia64, by rw [h6]; rfl, h⟩
        · simp only [h6, if_false] at h
          by_cases hr : 5 ≤ id ∧ id ≤ 10
          · simp only [hr, and_self, if_true, decide_eq_true_eq] at h
            have : id = 5 ∨ id = 7 ∨ id = 9 ∨ id = 10 := by omega
            rcases this with e | e | e | e <;> subst e
            · exact ⟨.ppc, rfl, h⟩
            · exact ⟨.arm, rfl, h⟩
            · exact ⟨.sparc, rfl, h⟩
            · exact ⟨.arm64, rfl, h⟩
          · simp only [hr, if_false] at h; cases h

/-- `XZWriter::new` accepts a configuration only without a preset dictionary (the XZ format cannot announce one, the
    reader model `Xz.decode` starts every block from an empty dictionary - `xz_container_roundtrip` is stated for
    exactly that), with at most three pre-filters, each acceptable, and in-range LZMA options. -/
theorem xz_accepted_has_no_preset (o : LzOptions) (fs : List (Nat × Nat)) (presetLen : Nat)
    (h : xzValidate o fs presetLen = true) :
    presetLen = 0 ∧ validate o true = true ∧ fs.length ≤ 3 ∧ ∀ f ∈ fs, filterOk f.1 f.2 = true := by
  simp only [xzValidate, Bool.and_eq_true, decide_eq_true_eq, List.all_eq_true] at h
  obtain ⟨⟨⟨h1, h2⟩, h3⟩, h4⟩ := h
  exact ⟨h3, h2, h1, h4⟩

/-- `XZWriter::new` before the repair: the same decision without the preset-dictionary clause accepts a 1000-byte
    preset dictionary (witness; the input is replayed on the real code by the C19 grid) -/
theorem pinned_xz_accepts_preset :
    let pinned := fun (o : LzOptions) (fs : List (Nat × Nat)) (_presetLen : Nat) =>
      decide (fs.length ≤ 3) && validate o true && fs.all fun f => filterOk f.1 f.2
    pinned { dict := 65536, lc := 3, lp := 0, pb := 2, nice := 32 } [] 1000 = true ∧
    xzValidate { dict := 65536, lc := 3, lp := 0, pb := 2, nice := 32 } [] 1000 = false := by decide

/-- whatever `LZMAWriter::new` accepts can be terminated by its reader: a `.lzma` header carries the size or the stream
    carries the end marker (for raw streams the size is the caller's business, as in 7z); and a preset dictionary is never
    combined with a header, which has no field for it.  The write / finish side of a declared size is C18's
    (`Split.expectedRun`); the payload round trip is C01's (`lzma_roundtrip_size`, `lzma_roundtrip_marker`). -/
theorem lzma_new_accepted_is_terminable (o : LzOptions) (useHeader useEndMarker expectedKnown hasPreset : Bool)
    (h : lzmaWriterNew o useHeader useEndMarker expectedKnown hasPreset = .ok) :
    validate o false = true ∧ (useHeader = true → useEndMarker = true ∨ expectedKnown = true) ∧
    (useHeader = true → hasPreset = false) := by
  unfold lzmaWriterNew at h
  cases hv : validate o false <;> simp only [hv] at h
  · simp at h
  · cases useHeader <;> cases useEndMarker <;> cases expectedKnown <;> cases hasPreset <;> simp_all

/-- `LZMAWriter::new` before the repair has no such clause: header + no marker + unknown size is accepted (witness;
    replayed on the real code by the `lzma_new` grid of the C19 engine) -/
theorem pinned_lzma_new_accepts_unterminated :
    let pinned := fun (o : LzOptions) (useHeader _useEndMarker _expectedKnown hasPreset : Bool) =>
      if validate o false = false then NewRes.invalid else if hasPreset && useHeader then .unsupported else .ok
    pinned { dict := 65536, lc := 3, lp := 0, pb := 2, nice := 32 } true false false false = .ok ∧
    lzmaWriterNew { dict := 65536, lc := 3, lp := 0, pb := 2, nice := 32 } true false false false = .invalid := by decide

example : lzmaWriterNew { dict := 65536, lc := 3, lp := 0, pb := 2, nice := 32 } true false true false = .ok := by decide

example : xzValidate { dict := 65536, lc := 3, lp := 0, pb := 2, nice := 32 } [(3, 1), (4, 0)] 0 = true := by decide

example : validate { dict := 8388608, lc := 3, lp := 0, pb := 2, nice := 64 } true = true ∧
    validate { dict := 8388608, lc := 4, lp := 1, pb := 2, nice := 64 } true = false ∧
    validate { dict := 8388608, lc := 4, lp := 1, pb := 2, nice := 64 } false = true := by decide

end LzmaVerif.Props.C19
