import LzmaVerif.Proofs.XzForged
import LzmaVerif.Proofs.LzipFile
import LzmaVerif.Proofs.ScanShift
/-!
# C04 — corrupted XZ/LZIP input is never returned as valid different data

The reader models `Xz.decode` / `LzipFile.decode` are executed against the real readers on every check on
thousands of corrupted files (every single-bit flip of small files, substitutions, deletions, insertions,
duplications, swaps, truncations) and on non-format inputs: outcome class, output and bytes consumed must
agree.  Theorems about the models, for EVERY input byte string:

* `xz_acceptance_implies_verified_checks` – if the XZ reader accepts, then for every block it returned the stored
  check it read (`Xz.decodeBlockBodyA`) equals the check of exactly the data it returned, and the output is the
  concatenation of those blocks;
* `lzip_acceptance_implies_verified_trailers` – if the LZIP reader accepts, the input is, byte for byte,
  what the writer model produces for the decoded members (header, stream, CRC-32, data size, member size),
  followed by trailing bytes that do not start with the magic (`lzip_acceptance_tail_is_trailing`: and are not a
  fragment of the magic either — an input ending inside a further member's magic is `UnexpectedEof`);
* `xz_rejects_non_xz`, `lzip_rejects_non_lzip` – non-empty input without the magic is an error, never an
  empty success; `lzip_damaged_header_is_error(_later)` – a member whose magic is intact but whose
  version or dictionary byte is damaged is an error, for the first and for every later member.

* `xz_swapped_blocks_detected` – "swapped regions are an error or the original": exchanging two adjacent blocks
  of a written stream whose compressed or uncompressed sizes differ is an error (the reader compares the Index
  records, in order, with the sizes of the blocks it decoded); `xz_forged_index_rejected`,
  `xz_forged_backward_size_rejected` – so is any other record list in the Index (CRC recomputed) and any other
  Backward Size in the footer (CRC recomputed);
* `xz_swapped_equal_blocks_accepted` – the residual, a limitation of the FORMAT: two adjacent blocks with equal
  compressed and uncompressed sizes have equal Index records, the file with the two exchanged is exactly the
  writer's stream for the exchanged data and is accepted as such (XZ has one check per block and none over the
  whole stream; `xz -t` accepts it too).

* `lzip_mt_scan_accepts_only_tiled_files` – the multi-threaded LZIP reader finds its members by a backward scan
  over the trailers (`LZIPReaderMT::scan_members`, model `Guards.scanFile`); if that scan accepts a file, the
  members it hands to the workers tile the file exactly from byte 0 to its end: no byte of an accepted file is
  outside a member (each member is then decoded by an `LZIPReader`, to which the theorems above apply).
  `lzip_mt_scan_rejects_leading_junk` – 1..19 bytes in front of a file the scan accepts are an error.

What no reader can exclude is a corruption that also matches the 32/64/256-bit check: "is the original"
follows from these theorems under the hypothesis that the check separates the original from the output.
-/
namespace LzmaVerif.Props.C04
open LzmaVerif

theorem xz_acceptance_implies_verified_checks (multi : Bool) (inp : List Nat) (cap : Nat) (d : List Nat) (n : Nat)
    (b : List Xz.Block) (h : Xz.decode multi inp cap = .ok d n b) :
    ∃ log, Xz.decodeA multi inp cap = (.ok d n b, log) ∧ (∀ a ∈ log, a.Verified) ∧ d = (log.map (·.data)).flatten :=
  Xz.decode_accepts_verified multi inp cap d n b h

theorem xz_rejects_non_xz (multi : Bool) (inp : List Nat) (cap : Nat) (h : inp.take 6 ≠ Consts.XZ_MAGIC) :
    ∃ e, Xz.decode multi inp cap = .err e := Xz.decode_rejects_non_xz multi inp cap h

theorem xz_never_overconsumes (multi : Bool) (inp : List Nat) (cap : Nat) (d : List Nat) (n : Nat) (b : List Xz.Block)
    (h : Xz.decode multi inp cap = .ok d n b) : n ≤ inp.length := Xz.decode_consumed_le multi inp cap d n b h

theorem xz_swapped_blocks_detected (multi : Bool) (c : Xz.Check) (fs : List Xz.Filter) (hfs : Xz.FiltersOk fs)
    (pre post : List (List Nat × List Nat)) (b₁ b₂ : List Nat × List Nat)
    (hb : ∀ b ∈ pre ++ b₁ :: b₂ :: post,
      Xz.PayloadOk (Xz.readerDict fs) b.1 (Xz.applyFilters fs b.2) ∧ Xz.unfilter fs (Xz.applyFilters fs b.2) = b.2)
    (hsz : Xz.SizesOk63 c fs (pre ++ b₁ :: b₂ :: post))
    (hne : b₁.1.length ≠ b₂.1.length ∨ b₁.2.length ≠ b₂.2.length)
    (cap : Nat) (hcap : (((pre ++ b₁ :: b₂ :: post).map (·.2)).flatten).length ≤ cap) :
    Xz.decode multi (Xz.swappedStream c fs pre post b₁ b₂) cap = .err .invalidData :=
  Xz.block_swap_detected multi c fs hfs pre post b₁ b₂ hb hsz hne cap hcap

theorem xz_swappedStream_is_the_swap (c : Xz.Check) (fs : List Xz.Filter) (pre post : List (List Nat × List Nat))
    (b₁ b₂ : List Nat × List Nat) :
    ∃ hdr A B₁ B₂ C tail, Xz.streamBytes c fs (pre ++ b₁ :: b₂ :: post) = hdr ++ (A ++ (B₁ ++ (B₂ ++ (C ++ tail)))) ∧
      Xz.swappedStream c fs pre post b₁ b₂ = hdr ++ (A ++ (B₂ ++ (B₁ ++ (C ++ tail)))) ∧
      B₁ = (Xz.blockBytes c fs b₁.1 b₁.2).1 ∧ B₂ = (Xz.blockBytes c fs b₂.1 b₂.2).1 :=
  ⟨_, _, _, _, _, _, Xz.streamBytes_split c fs pre post b₁ b₂, rfl, rfl, rfl⟩

theorem xz_swapped_equal_blocks_accepted (c : Xz.Check) (fs : List Xz.Filter) (hfs : Xz.FiltersOk fs)
    (pre post : List (List Nat × List Nat)) (b₁ b₂ : List Nat × List Nat)
    (hb : ∀ b ∈ pre ++ b₁ :: b₂ :: post,
      Xz.PayloadOk (Xz.readerDict fs) b.1 (Xz.applyFilters fs b.2) ∧ Xz.unfilter fs (Xz.applyFilters fs b.2) = b.2)
    (hsz : Xz.SizesOk c fs (pre ++ b₁ :: b₂ :: post))
    (heq : b₁.1.length = b₂.1.length ∧ b₁.2.length = b₂.2.length)
    (rest : List Nat) (cap : Nat) (hcap : (((pre ++ b₁ :: b₂ :: post).map (·.2)).flatten).length ≤ cap) :
    Xz.swappedStream c fs pre post b₁ b₂ = Xz.streamBytes c fs (pre ++ b₂ :: b₁ :: post) ∧
    Xz.decode false (Xz.swappedStream c fs pre post b₁ b₂ ++ rest) cap
      = .ok ((pre ++ b₂ :: b₁ :: post).map (·.2)).flatten (Xz.swappedStream c fs pre post b₁ b₂).length
          ((pre ++ b₂ :: b₁ :: post).map (Xz.blkOf fs)).reverse :=
  Xz.block_swap_same_sizes_accepted c fs hfs pre post b₁ b₂ hb hsz heq rest cap hcap

theorem xz_forged_index_rejected (multi : Bool) (c : Xz.Check) (fs : List Xz.Filter) (hfs : Xz.FiltersOk fs)
    (blocks : List (List Nat × List Nat))
    (hb : ∀ b ∈ blocks, Xz.PayloadOk (Xz.readerDict fs) b.1 (Xz.applyFilters fs b.2) ∧
      Xz.unfilter fs (Xz.applyFilters fs b.2) = b.2)
    (rs : List (Nat × Nat)) (hn : rs.length < 2 ^ 63) (hrs : ∀ x ∈ rs, Xz.RecOk x) (hne : rs ≠ Xz.recsOf c fs blocks)
    (n : Nat) (cap : Nat) (hcap : ((blocks.map (·.2)).flatten).length ≤ cap) :
    Xz.decode multi (Xz.forgedStream c fs blocks rs n) cap = .err .invalidData :=
  Xz.reader_rejects_forged_index multi c fs hfs blocks hb rs hn hrs hne n cap hcap

theorem xz_forged_backward_size_rejected (multi : Bool) (c : Xz.Check) (fs : List Xz.Filter) (hfs : Xz.FiltersOk fs)
    (blocks : List (List Nat × List Nat))
    (hb : ∀ b ∈ blocks, Xz.PayloadOk (Xz.readerDict fs) b.1 (Xz.applyFilters fs b.2) ∧
      Xz.unfilter fs (Xz.applyFilters fs b.2) = b.2)
    (hsz : Xz.SizesOk63 c fs blocks)
    (n : Nat) (hn4 : n % 4 = 0) (hge : 4 ≤ n) (hle : n ≤ 2 ^ 34)
    (hne : n ≠ (Xz.indexBytes (Xz.recsOf c fs blocks)).length)
    (cap : Nat) (hcap : ((blocks.map (·.2)).flatten).length ≤ cap) :
    Xz.decode multi (Xz.forgedStream c fs blocks (Xz.recsOf c fs blocks) n) cap = .err .invalidData :=
  Xz.reader_rejects_wrong_backward_size multi c fs hfs blocks hb hsz n hn4 hge hle hne cap hcap

open LzipFile in
theorem lzip_acceptance_implies_verified_trailers (inp : List Nat) (cap : Nat) (data : List Nat) (consumed : Nat)
    (recs : List Member) (hb : Bytes inp) (h : decode inp cap = .ok data consumed recs) :
    data = (recs.reverse.map (·.data)).flatten ∧
    ∃ tail, inp = reassemble recs.reverse ++ tail ∧ tail.take 4 ≠ Consts.LZIP_MAGIC ∧
      consumed = (reassemble recs.reverse).length + min 4 tail.length ∧
      (recs = [] → inp = []) ∧ ∀ m ∈ recs, MemberDecodes m :=
  decode_accept inp cap data consumed recs hb h

open LzipFile in
/-- what follows the accepted members is trailing data: it neither starts with the magic nor is a fragment
    (non-empty proper prefix) of it — a file that ends inside a further member's magic is not accepted -/
theorem lzip_acceptance_tail_is_trailing (inp : List Nat) (cap : Nat) (data : List Nat) (consumed : Nat)
    (recs : List Member) (hb : Bytes inp) (h : decode inp cap = .ok data consumed recs) :
    ∃ tail, inp = reassemble recs.reverse ++ tail ∧ tail.take 4 ≠ Consts.LZIP_MAGIC ∧ TrailingOk tail :=
  decode_accept_trailing inp cap data consumed recs hb h

theorem lzip_rejects_non_lzip (inp : List Nat) (cap : Nat) (hne : inp ≠ []) (hm : inp.take 4 ≠ Consts.LZIP_MAGIC) :
    LzipFile.decode inp cap = .err .invalidData := LzipFile.decode_not_lzip inp cap hne hm

theorem lzip_damaged_header_is_error (v db : Nat) (rest : List Nat) (cap : Nat) :
    (v ≠ 1 → LzipFile.decode (Consts.LZIP_MAGIC ++ v :: rest) cap = .err .invalidData) ∧
    (Lzip.decodeDict db = none → LzipFile.decode (Consts.LZIP_MAGIC ++ [1, db] ++ rest) cap = .err .invalidData) :=
  ⟨fun hv => LzipFile.decode_bad_version v rest cap hv, fun hd => LzipFile.decode_bad_dict db rest cap hd⟩

open LzipFile in
theorem lzip_damaged_header_is_error_later (ms : List (Nat × List Nat × List Nat)) (hne : ms ≠ [])
    (hm : ∀ m ∈ ms, MemberOk m) (v : Nat) (rest : List Nat) (hv : v ≠ 1) (cap : Nat)
    (hcap : (fileData ms).length ≤ cap) :
    decode (fileBytes ms ++ (Consts.LZIP_MAGIC ++ v :: rest)) cap = .err .invalidData :=
  decode_later_bad_version ms hne hm v rest hv cap hcap

open Guards in
/-- also: every member starts with the magic bytes and its trailer's `member_size` field is its size -/
theorem lzip_mt_scan_accepts_only_tiled_files (file : List Nat) (ms : List Member) (h : scanFile file = .ok ms) :
    ms ≠ [] ∧ Total.Contig 4 0 ms file.length ∧
    (∀ p, p < file.length → ∃ m ∈ ms, m.start ≤ p ∧ p < m.start + m.size) ∧
    (ms.map (·.size)).sum = file.length ∧
    (∀ m ∈ ms, magicOf file m.start = true ∧ memberSizeOf file (m.start + m.size) = m.size) := by
  obtain ⟨h1, h2, h3, h4⟩ := Total.scanFile_tiles file h
  refine ⟨h1, h2, h3, ?_, h4⟩
  have := h2.sum_sizes
  omega

/-- 1..19 bytes of anything in front of a file that `scan_members` accepts are reported (`InvalidData`, "Data in
    front of the first LZIP member").  (From 20 bytes on
    the bytes in front are read as a trailer: the verdict depends on them, and the theorem above says what an
    acceptance then means.) -/
theorem lzip_mt_scan_rejects_leading_junk (junk rest : List Nat) (ms : List Guards.Member)
    (h : Guards.scanFile rest = .ok ms) (h0 : 0 < junk.length) (h20 : junk.length < 20) :
    Guards.scanFile (junk ++ rest) = .error .leading :=
  Total.scanFile_leading_junk junk rest ms h h0 h20

/-- non-vacuity of `lzip_mt_scan_rejects_leading_junk` -/
example : Guards.scanFile ([9, 9, 9] ++ (Total.exMember ++ Total.exMember)) = .error .leading :=
  lzip_mt_scan_rejects_leading_junk [9, 9, 9] _ _ Total.exScan (by decide) (by decide)

/-- non-vacuity: a two-member file is accepted, with the members at 0 and 26 -/
example : Guards.scanFile (Total.exMember ++ Total.exMember) = .ok [⟨0, 26⟩, ⟨26, 26⟩] := Total.exScan

end LzmaVerif.Props.C04
