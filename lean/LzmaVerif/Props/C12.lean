import LzmaVerif.Proofs.Xz
import LzmaVerif.Proofs.LzipFile
/-!
# C12 — concatenated XZ streams and LZIP members decode to the concatenated data

For ANY number of streams (each with its own check type, filter chain and blocks), ANY stream paddings:

* `xz_concatenation` – paddings that are multiples of four (also after the last stream): the multi-stream
  reader returns the concatenation and consumes everything;
* `xz_bad_padding_between`, `xz_garbage_after_stream` (after a first stream), `xz_bad_padding_at_end` (after any list
  of streams) – padding whose length is not a multiple of four and non-zero garbage are rejected;
* `xz_single_stream_mode_stops` – with multi-stream decoding disabled the reader returns the first stream's
  data and has consumed exactly its bytes, whatever follows;
* `lzip_concatenation` – any non-empty sequence of members decodes to the concatenation.

All are parametric in the payload codec (`PayloadOk`, discharged by the LZMA/LZMA2 round trip of C01).
-/
namespace LzmaVerif.Props.C12
open LzmaVerif

theorem xz_concatenation (s₀ : Xz.Strm) (h₀ : s₀.Ok) (ss : List (Nat × Xz.Strm))
    (hss : ∀ x ∈ ss, x.1 % 4 = 0 ∧ x.2.Ok) (t : Nat) (ht : t % 4 = 0) (cap : Nat)
    (hcap : (s₀.data ++ Xz.catData ss).length ≤ cap) :
    Xz.decode true (s₀.bytes ++ (Xz.catBytes ss ++ List.replicate t 0)) cap
      = .ok (s₀.data ++ Xz.catData ss) (s₀.bytes ++ (Xz.catBytes ss ++ List.replicate t 0)).length
          (Xz.finalBlks ss s₀.blks) :=
  Xz.xz_concat_list s₀ h₀ ss hss t ht cap hcap

theorem xz_bad_padding_between (s : Xz.Strm) (hs : s.Ok) (k : Nat) (hk : k % 4 ≠ 0) (r : List Nat) (cap : Nat)
    (hcap : s.data.length ≤ cap) :
    Xz.decode true (s.bytes ++ (List.replicate k 0 ++ (Consts.XZ_MAGIC ++ r))) cap = .err .invalidData :=
  Xz.xz_misaligned_padding s hs k hk r cap hcap

theorem xz_bad_padding_at_end (s₀ : Xz.Strm) (h₀ : s₀.Ok) (ss : List (Nat × Xz.Strm))
    (hss : ∀ x ∈ ss, x.1 % 4 = 0 ∧ x.2.Ok) (t : Nat) (ht : t % 4 ≠ 0) (cap : Nat)
    (hcap : (s₀.data ++ Xz.catData ss).length ≤ cap) :
    Xz.decode true (s₀.bytes ++ (Xz.catBytes ss ++ List.replicate t 0)) cap = .err .invalidData :=
  Xz.xz_misaligned_trailing_padding s₀ h₀ ss hss t ht cap hcap

theorem xz_garbage_after_stream (s : Xz.Strm) (hs : s.Ok) (k b : Nat) (hb0 : b ≠ 0) (hb : b ≠ 253) (r : List Nat)
    (cap : Nat) (hcap : s.data.length ≤ cap) :
    Xz.decode true (s.bytes ++ (List.replicate k 0 ++ b :: r)) cap = .err .invalidData :=
  Xz.xz_garbage_after_stream s hs k b hb0 hb r cap hcap

theorem xz_single_stream_mode_stops (c : Xz.Check) (fs : List Xz.Filter) (hfs : Xz.FiltersOk fs)
    (blocks : List (List Nat × List Nat))
    (hb : ∀ b ∈ blocks, Xz.PayloadOk (Xz.readerDict fs) b.1 (Xz.applyFilters fs b.2) ∧
      Xz.unfilter fs (Xz.applyFilters fs b.2) = b.2)
    (hsz : Xz.SizesOk c fs blocks) (rest : List Nat) (cap : Nat)
    (hcap : ((blocks.map (·.2)).flatten).length ≤ cap) :
    Xz.decode false (Xz.streamBytes c fs blocks ++ rest) cap
      = .ok (blocks.map (·.2)).flatten (Xz.streamBytes c fs blocks).length (blocks.map (Xz.blkOf fs)).reverse :=
  Xz.xz_roundtrip_blocks c fs hfs blocks hb hsz rest cap hcap

open LzipFile in
theorem lzip_concatenation (ms : List (Nat × List Nat × List Nat)) (hne : ms ≠ []) (hm : ∀ m ∈ ms, MemberOk m)
    (trailing : List Nat) (ht : trailing.take 4 ≠ Consts.LZIP_MAGIC) (ht2 : TrailingOk trailing)
    (cap : Nat) (hcap : (fileData ms).length ≤ cap) :
    decode (fileBytes ms ++ trailing) cap =
      .ok (fileData ms) ((fileBytes ms).length + min 4 trailing.length) (fileRecs ms) :=
  lzip_roundtrip_recs ms hne hm trailing ht ht2 cap hcap

open LzipFile in
/-- trailing data that is a fragment (non-empty proper prefix) of the magic is NOT ignored: the file is reported as
    truncated inside a further member's header -/
theorem lzip_magic_fragment_is_eof (ms : List (Nat × List Nat × List Nat)) (hne : ms ≠ []) (hm : ∀ m ∈ ms, MemberOk m)
    (frag : List Nat) (hf : frag ≠ []) (ht : frag.take 4 ≠ Consts.LZIP_MAGIC)
    (hp : (frag.take 4).isPrefixOf Consts.LZIP_MAGIC = true) (cap : Nat) (hcap : (fileData ms).length ≤ cap) :
    decode (fileBytes ms ++ frag) cap = .err .eof := by
  rw [decode_members ms hm _ _ hcap, List.isEmpty_eq_false_iff.mpr hne]
  exact members_magic_fragment _ _ _ _ _ _ hf ht hp

end LzmaVerif.Props.C12
