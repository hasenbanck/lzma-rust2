/-
  C01 (fast encoder mode): the link from the real encoder's SEARCH to the hypothesis of the LZMA round trip.

  `Model/EncFast.lean` transcribes `FastEncoderMode::get_next_symbol` (src/enc/encoder_fast.rs) and the part of
  src/enc/encoder.rs that drives it for raw LZMA1 (`encode_for_lzma1`, `encode_init`, `encode_symbol`, the
  `find_matches` / `skip` wrappers with the `read_ahead` bookkeeping) over a match-finder model; its output is the
  PARSE.  It is validated against the real `LZMAWriter` (`Driver/EncFast.lean`, request `encfast.parse`): the parse
  recovered from the real bytes and the bytes themselves agree with the model's.

  (F1) `fast_parse_valid`: for EVERY input the parse satisfies `parseRun` (every symbol admissible, every copy inside
       dictionary and history) and denotes exactly the input.
  (F2) `fast_roundtrip`: with `C01.lzma_roundtrip_size`, the model decoder (`decodeRaw` = `LZMAReader` on a raw LZMA1
       stream) returns exactly the input from the model encoder's bytes and consumes exactly those; `_reader`: with
       the dictionary buffer the reader allocates; `_marker`: end marker.

  Over HC4 they hold for every `nice_len` and `depth_limit` (the bounds of `LZMAOptions::validate` are not needed) and
  every distance threshold of the heuristics (`FastParams`); they need `MATCH_LEN_MIN = 2`, `MATCH_LEN_MAX = 273`
  (`FastParams.ok`), `Hc4Params.ok`, `1 ≤ dict_size ≤ 2^32` and a decoder dictionary buffer of at least
  `min dict_size data.size` bytes.  Over BT4 (`_bt4`): in addition `minAvailFinishing ≤ nice_len ≤ 273` and
  `data.size + dict_size + 2 < 2^31`.
-/
import LzmaVerif.Proofs.EncFastHc4
import LzmaVerif.Proofs.EncFastLoop
import LzmaVerif.Proofs.EncFastBt4
import LzmaVerif.Proofs.EncFastSim
import LzmaVerif.Props.C01
import LzmaVerif.Proofs.EndToEndLzma
import LzmaVerif.Props.C01Mf

namespace LzmaVerif.Props.C01Fast
open LzmaVerif Mf Lzma EncFast

/-- (F1) for every sound match finder (`FinderSound`) -/
theorem fast_parse_valid_generic {σ : Type} {F : Finder σ} {d : Array UInt8} {dict : Nat}
    (FS : FinderSound F d dict 273) (P : FastParams) (hP : P.ok) (nice dictBuf : Nat)
    (hd1 : 1 ≤ dict) (hdb : min dict d.size ≤ dictBuf) (h32 : dict ≤ 2 ^ 32) :
    ∃ c' h', parseRun dictBuf (fastParse F P nice d) Coder.init (#[] : Hist) = some (c', h') ∧
      h' = d.map (fun b => b.toNat) := by
  unfold fastParse
  split
  · next h0 => exact ⟨Coder.init, #[], rfl, (h0 ▸ histOf_full d : Lzma2W.histOf d 0 = _)⟩
  · next h0 =>
    -- `encode_init`: `skip(1)` and the first byte as a literal, then the symbol loop from position 1
    obtain ⟨c', hp⟩ := loop_valid FS P hP nice dictBuf hdb h32 Coder.init #[] d.size 1
      (Coder.init.apply (.lit (byteAt d 0))) (F.skip d 1 F.init) [] 0 [.lit (byteAt d 0)] (Nat.sub_le _ _)
      (Nat.pos_of_ne_zero h0) (RepsLt.init_lit _ 1 (Nat.le_refl 1))
      (RepsLt.init_lit _ dict hd1) (FS.skip_R _ _ FS.init_R) (by rw [FS.skip_pos _ _ FS.init_R, FS.init_pos])
      (Or.inl rfl) fun rest => parseRun_lit dictBuf _ rest _ _ (byteAt_lt d 0)
    exact ⟨c', _, hp, histOf_full d⟩

/-- **(F1)** the fast encoder over HC4 -/
theorem fast_parse_valid (H : Hc4.Hc4Params) (hH : H.ok) (P : FastParams) (hP : P.ok)
    (dict nice depth dictBuf : Nat) (d : Array UInt8)
    (hd1 : 1 ≤ dict) (hdb : min dict d.size ≤ dictBuf) (h32 : dict ≤ 2 ^ 32) :
    ∃ c' h', parseRun dictBuf (fastParseHc4 H P dict nice depth d) Coder.init (#[] : Hist) = some (c', h') ∧
      h' = d.map (fun b => b.toNat) := by
  unfold fastParseHc4
  rw [hP.2]
  exact fast_parse_valid_generic (hc4Sound H hH dict nice depth hd1 d) P hP nice dictBuf hd1 hdb h32

/-- any parse of `d` from the empty history goes through encoder and decoder (declared size) -/
theorem roundtrip_of_valid (pr : Params) (dictBuf : Nat) (d : Array UInt8) (parse : List Sym)
    (hv : ∃ c' h', parseRun dictBuf parse Coder.init (#[] : Hist) = some (c', h') ∧ h' = d.map (fun b => b.toNat))
    (rest : List Nat) (cap : Nat) :
    ∃ bytes, encodeParse pr dictBuf #[] (some d.size) (d.size + 1) parse = some bytes ∧
      decodeRaw pr dictBuf #[] (some d.size) (bytes ++ rest) cap = .ok (d.map (fun b => b.toNat)) bytes.length parse := by
  obtain ⟨c', h', hp, rfl⟩ := hv
  have hpu := presetUsedOf_empty dictBuf
  have h := C01.lzma_roundtrip_size pr dictBuf #[] parse d.size c' _ (hpu ▸ hp)
    (by simp only [hpu, Array.size_map, List.size_toArray, List.length_nil, Nat.zero_add]) rest cap
  rwa [hpu, extract_empty_size] at h

/-- the same with the end marker (`use_end_marker = true`; `cap` is the model's output bound) -/
theorem roundtrip_marker_of_valid (pr : Params) (dictBuf : Nat) (d : Array UInt8) (parse : List Sym)
    (hv : ∃ c' h', parseRun dictBuf parse Coder.init (#[] : Hist) = some (c', h') ∧ h' = d.map (fun b => b.toNat))
    (hbuf : dictBuf ≤ END_DIST) (rest : List Nat) (cap : Nat) (hcap : parse.length < cap) :
    ∃ bytes, encodeParse pr dictBuf #[] none (cap + 1) (parse ++ [.mtch END_DIST 2]) = some bytes ∧
      decodeRaw pr dictBuf #[] none (bytes ++ rest) cap
        = .ok (d.map (fun b => b.toNat)) bytes.length (parse ++ [.mtch END_DIST 2]) := by
  obtain ⟨c', h', hp, rfl⟩ := hv
  obtain ⟨bytes, henc, -, hdec⟩ := marker_of_valid pr dictBuf hbuf parse 2 ⟨Nat.le_refl 2, by decide⟩ c' _ hp
  exact ⟨bytes, henc _ (Nat.lt_succ_of_lt hcap), hdec rest cap (Nat.le_of_lt hcap)⟩

/-- **(F2)**, declared size: the model encoder's bytes for the fast parse decode to exactly the data -/
theorem fast_roundtrip (pr : Params) (H : Hc4.Hc4Params) (hH : H.ok) (P : FastParams) (hP : P.ok)
    (dict nice depth dictBuf : Nat) (d : Array UInt8)
    (hd1 : 1 ≤ dict) (hdb : min dict d.size ≤ dictBuf) (h32 : dict ≤ 2 ^ 32)
    (rest : List Nat) (cap : Nat) :
    ∃ bytes, encodeParse pr dictBuf #[] (some d.size) (d.size + 1) (fastParseHc4 H P dict nice depth d) = some bytes ∧
      decodeRaw pr dictBuf #[] (some d.size) (bytes ++ rest) cap
        = .ok (d.map (fun b => b.toNat)) bytes.length (fastParseHc4 H P dict nice depth d) :=
  roundtrip_of_valid pr dictBuf d _ (fast_parse_valid H hH P hP dict nice depth dictBuf d hd1 hdb h32) rest cap

/-- the dictionary buffer the reader allocates (`LZMAReader::construct2`) is large enough -/
theorem readerDictBuf_ge (dict n : Nat) : min dict n ≤ lzmaReaderDictBuf dict (some n) 0 := by
  have hge : ∀ x, x ≤ lzmaDictBuf x := fun x => by
    unfold lzmaDictBuf
    omega
  unfold lzmaReaderDictBuf
  simp only [Nat.add_zero]
  split
  · exact Nat.le_trans (Nat.min_le_right _ _) (Nat.le_trans (hge n) (hge _))
  · exact Nat.le_trans (Nat.min_le_left _ _) (Nat.le_trans (hge dict) (hge _))

/-- **(F2)** with the dictionary buffer size `LZMAReader` really uses for a raw stream of declared size -/
theorem fast_roundtrip_reader (pr : Params) (H : Hc4.Hc4Params) (hH : H.ok) (P : FastParams) (hP : P.ok)
    (dict nice depth : Nat) (d : Array UInt8) (hd1 : 1 ≤ dict) (h32 : dict ≤ 2 ^ 32)
    (rest : List Nat) (cap : Nat) :
    ∃ bytes, encodeParse pr (lzmaReaderDictBuf dict (some d.size) 0) #[] (some d.size) (d.size + 1)
        (fastParseHc4 H P dict nice depth d) = some bytes ∧
      decodeRaw pr (lzmaReaderDictBuf dict (some d.size) 0) #[] (some d.size) (bytes ++ rest) cap
        = .ok (d.map (fun b => b.toNat)) bytes.length (fastParseHc4 H P dict nice depth d) :=
  fast_roundtrip pr H hH P hP dict nice depth _ d hd1 (readerDictBuf_ge dict d.size) h32 rest cap

/-- **(F2)**, end marker (`use_end_marker = true`; `cap` is the model's output bound) -/
theorem fast_roundtrip_marker (pr : Params) (H : Hc4.Hc4Params) (hH : H.ok) (P : FastParams) (hP : P.ok)
    (dict nice depth dictBuf : Nat) (d : Array UInt8)
    (hd1 : 1 ≤ dict) (hdb : min dict d.size ≤ dictBuf) (h32 : dict ≤ 2 ^ 32) (hbuf : dictBuf ≤ END_DIST)
    (rest : List Nat) (cap : Nat) (hcap : (fastParseHc4 H P dict nice depth d).length < cap) :
    ∃ bytes, encodeParse pr dictBuf #[] none (cap + 1)
        (fastParseHc4 H P dict nice depth d ++ [.mtch END_DIST 2]) = some bytes ∧
      decodeRaw pr dictBuf #[] none (bytes ++ rest) cap
        = .ok (d.map (fun b => b.toNat)) bytes.length (fastParseHc4 H P dict nice depth d ++ [.mtch END_DIST 2]) :=
  roundtrip_marker_of_valid pr dictBuf d _ (fast_parse_valid H hH P hP dict nice depth dictBuf d hd1 hdb h32) hbuf rest cap
    hcap

/-- constants of encoder_fast.rs / lib.rs (defaults of `FastParams` = the current source) -/
theorem default_fast_params_ok : ({} : FastParams).ok := by decide

/-- the constants of encoder_fast.rs / lib.rs regenerated from the source satisfy what the proofs need -/
theorem generated_fast_params_ok : MfGen.fastParams.ok := by decide

/-- (F2) at the HC4 and fast-mode parameters regenerated from /repo's source (`Generated/MfParams.lean`) -/
theorem fast_roundtrip_generated (pr : Params) (dict nice depth : Nat) (d : Array UInt8)
    (hd1 : 1 ≤ dict) (h32 : dict ≤ 2 ^ 32) (rest : List Nat) (cap : Nat) :
    ∃ bytes, encodeParse pr (lzmaReaderDictBuf dict (some d.size) 0) #[] (some d.size) (d.size + 1)
        (fastParseHc4 MfGen.hc4Params MfGen.fastParams dict nice depth d) = some bytes ∧
      decodeRaw pr (lzmaReaderDictBuf dict (some d.size) 0) #[] (some d.size) (bytes ++ rest) cap
        = .ok (d.map (fun b => b.toNat)) bytes.length (fastParseHc4 MfGen.hc4Params MfGen.fastParams dict nice depth d) :=
  fast_roundtrip_reader pr MfGen.hc4Params C01Mf.generated_hc4_params_ok MfGen.fastParams generated_fast_params_ok
    dict nice depth d hd1 h32 rest cap

/-- the hypotheses of the BT4 soundness theorem (`Bt4.HypA`) for the finder the LZMA encoder creates
    (`match_len_max = 273`), from explicit decidable conditions on the options -/
theorem bt4_hypA (B : Bt4.Bt4Params) (hB : B.ok) (dict nice depth : Nat) (d : Array UInt8)
    (hd1 : 1 ≤ dict) (hsz : d.size + dict + 2 < 2 ^ 31) (hn1 : B.minAvailFinishing ≤ nice) (hn2 : nice ≤ 273) :
    Bt4.HypA B { dict := dict, niceLen := nice, mlmax := 273, depth := depth } d :=
  ⟨⟨hB, hd1, hsz, Nat.le_trans (Nat.le_of_succ_le (Bt4.ok_avail4 hB)) hn1, (by decide : 3 ≤ 273)⟩, hn1, hn2⟩

/-- **(F1, BT4)**: `minAvailFinishing ≤ nice_len ≤ 273`, below the match finder's renormalisation point
    (`data.size + dict_size + 2 < 2^31`; the normalisation is not part of the step model) -/
theorem fast_parse_valid_bt4 (B : Bt4.Bt4Params) (hB : B.ok) (P : FastParams) (hP : P.ok)
    (dict nice depth dictBuf : Nat) (d : Array UInt8)
    (hd1 : 1 ≤ dict) (hdb : min dict d.size ≤ dictBuf) (hsz : d.size + dict + 2 < 2 ^ 31)
    (hn1 : B.minAvailFinishing ≤ nice) (hn2 : nice ≤ 273) :
    ∃ c' h', parseRun dictBuf (fastParseBt4 B P dict nice depth d) Coder.init (#[] : Hist) = some (c', h') ∧
      h' = d.map (fun b => b.toNat) := by
  unfold fastParseBt4
  rw [hP.2]
  exact fast_parse_valid_generic (bt4Sound B dict nice depth d (bt4_hypA B hB dict nice depth d hd1 hsz hn1 hn2))
    P hP nice dictBuf hd1 hdb (by omega)

/-- **(F2, BT4)**, declared size -/
theorem fast_roundtrip_bt4 (pr : Params) (B : Bt4.Bt4Params) (hB : B.ok) (P : FastParams) (hP : P.ok)
    (dict nice depth dictBuf : Nat) (d : Array UInt8)
    (hd1 : 1 ≤ dict) (hdb : min dict d.size ≤ dictBuf) (hsz : d.size + dict + 2 < 2 ^ 31)
    (hn1 : B.minAvailFinishing ≤ nice) (hn2 : nice ≤ 273)
    (rest : List Nat) (cap : Nat) :
    ∃ bytes, encodeParse pr dictBuf #[] (some d.size) (d.size + 1) (fastParseBt4 B P dict nice depth d) = some bytes ∧
      decodeRaw pr dictBuf #[] (some d.size) (bytes ++ rest) cap
        = .ok (d.map (fun b => b.toNat)) bytes.length (fastParseBt4 B P dict nice depth d) :=
  roundtrip_of_valid pr dictBuf d _ (fast_parse_valid_bt4 B hB P hP dict nice depth dictBuf d hd1 hdb hsz hn1 hn2) rest cap

/-- **(F2, BT4)**, end marker -/
theorem fast_roundtrip_marker_bt4 (pr : Params) (B : Bt4.Bt4Params) (hB : B.ok) (P : FastParams) (hP : P.ok)
    (dict nice depth dictBuf : Nat) (d : Array UInt8)
    (hd1 : 1 ≤ dict) (hdb : min dict d.size ≤ dictBuf) (hsz : d.size + dict + 2 < 2 ^ 31)
    (hn1 : B.minAvailFinishing ≤ nice) (hn2 : nice ≤ 273) (hbuf : dictBuf ≤ END_DIST)
    (rest : List Nat) (cap : Nat) (hcap : (fastParseBt4 B P dict nice depth d).length < cap) :
    ∃ bytes, encodeParse pr dictBuf #[] none (cap + 1)
        (fastParseBt4 B P dict nice depth d ++ [.mtch END_DIST 2]) = some bytes ∧
      decodeRaw pr dictBuf #[] none (bytes ++ rest) cap
        = .ok (d.map (fun b => b.toNat)) bytes.length (fastParseBt4 B P dict nice depth d ++ [.mtch END_DIST 2]) :=
  roundtrip_marker_of_valid pr dictBuf d _ (fast_parse_valid_bt4 B hB P hP dict nice depth dictBuf d hd1 hdb hsz hn1 hn2)
    hbuf rest cap hcap

/-- (F2, BT4) at the parameters regenerated from /repo's source, with the dictionary buffer `LZMAReader` allocates
    (`minAvailFinishing` is 4 there; `LZMAOptions::validate` enforces `8 ..= 273`) -/
theorem fast_roundtrip_bt4_generated (pr : Params) (dict nice depth : Nat) (d : Array UInt8)
    (hd1 : 1 ≤ dict) (hsz : d.size + dict + 2 < 2 ^ 31) (hn1 : 4 ≤ nice) (hn2 : nice ≤ 273)
    (rest : List Nat) (cap : Nat) :
    ∃ bytes, encodeParse pr (lzmaReaderDictBuf dict (some d.size) 0) #[] (some d.size) (d.size + 1)
        (fastParseBt4 MfGen.bt4Params MfGen.fastParams dict nice depth d) = some bytes ∧
      decodeRaw pr (lzmaReaderDictBuf dict (some d.size) 0) #[] (some d.size) (bytes ++ rest) cap
        = .ok (d.map (fun b => b.toNat)) bytes.length (fastParseBt4 MfGen.bt4Params MfGen.fastParams dict nice depth d) :=
  fast_roundtrip_bt4 pr MfGen.bt4Params C01Mf.generated_bt4_params_ok MfGen.fastParams generated_fast_params_ok
    dict nice depth _ d hd1 (readerDictBuf_ge dict d.size) hsz hn1 hn2 rest cap

/-- "abcabcabcabcXabcabcabc_abX": literals, a match, repeated matches -/
def w1 : Array UInt8 :=
  #[97, 98, 99, 97, 98, 99, 97, 98, 99, 97, 98, 99, 88, 97, 98, 99, 97, 98, 99, 97, 98, 99, 95, 97, 98, 88]

/-- the hypotheses are satisfiable: the theorems instantiated at the real constants on `w1`
    (dictionary 4096, nice_len 32, default depth, lc/lp/pb = 3/0/2) -/
example := fast_parse_valid {} (by decide) {} (by decide) 4096 32 0 4096 w1 (by decide) (by decide) (by decide)
example := fast_roundtrip ⟨3, 0, 2⟩ {} (by decide) {} (by decide) 4096 32 0 4096 w1 (by decide) (by decide)
  (by decide) [] 100
example := fast_roundtrip_generated ⟨3, 0, 2⟩ 4096 32 0 w1 (by decide) (by decide) [1, 2, 3] 100
example := fast_parse_valid_bt4 {} (by decide) {} (by decide) 4096 32 0 4096 w1 (by decide) (by decide) (by decide)
  (by decide) (by decide)
example := fast_roundtrip_bt4_generated ⟨3, 0, 2⟩ 4096 32 0 w1 (by decide) (by decide) (by decide) (by decide)
  [1, 2, 3] 100

/-- … and the conclusions are not vacuous: a whole run of the model (dictionary 8, nice_len 8, with the
    small hash tables of `Hc4.tinyHash` so that the kernel can evaluate it): three literals, a match found by
    the finder (distance 3, i.e. `dist = 2`, length 9), a literal, a shorter match chosen after the look-ahead
    step, repeated matches with `reps[1]` … -/
theorem fastParseHc4_w1 : fastParseHc4 { hash := Hc4.tinyHash } {} 8 8 0 w1 =
    [.lit 97, .lit 98, .lit 99, .mtch 2 9, .lit 88, .mtch 6 6, .rep 1 3, .lit 95, .rep 1 2, .lit 88] := by
  rw [fastParseHc4, fastParse_sim (hc4_view_sim _ _ w1 (by decide) (by decide) (by decide))]
  decide +kernel

example : fastParseHc4 { hash := Hc4.tinyHash } {} 8 8 0 w1 =
    [.lit 97, .lit 98, .lit 99, .mtch 2 9, .lit 88, .mtch 6 6, .rep 1 3, .lit 95, .rep 1 2, .lit 88] :=
  fastParseHc4_w1

/-- … which `parseRun` accepts and which denotes `w1` -/
example : (parseRun 8 (fastParseHc4 { hash := Hc4.tinyHash } {} 8 8 0 w1) Coder.init (#[] : Hist)).map (·.2) =
    some (w1.map (fun b => b.toNat)) := by
  rw [fastParseHc4_w1]
  decide +kernel

/-- `FastParams.ok` matters: with `MATCH_LEN_MIN = 1` the encoder would emit a repeated match of length 1 with
    the long-rep code on "aab", which the length coder cannot express (`parseRun` rejects it) -/
example : fastParseHc4 { hash := Hc4.tinyHash } { matchLenMin := 1 } 8 8 0 #[97, 97, 98] =
      [.lit 97, .rep 0 1, .lit 98] ∧
    parseRun 4096 (fastParseHc4 { hash := Hc4.tinyHash } { matchLenMin := 1 } 8 8 0 #[97, 97, 98])
      Coder.init (#[] : Hist) = none := by decide +kernel

end LzmaVerif.Props.C01Fast
