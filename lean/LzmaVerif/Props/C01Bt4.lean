/-
  C01 (match finder BT4): headline theorems about the executable model `LzmaVerif/Model/Bt4.lean` of
  src/lz/bt4.rs (+ hash234.rs, `move_pos` / `get_byte*` / `Matches` of lz_encoder.rs).

  The model is compared with the real code on every run through the hook `verif_hooks::mf_trace`
  (driver request `mf.trace kind=bt4 ...`, `Driver/MfBt4.lean`); the theorems hold for EVERY parameter
  instance `P` with `P.ok` (a translator regenerates `P` from the Rust source), every dictionary size,
  every input and every script of `find_matches()` / `skip(n)` calls.
-/
import LzmaVerif.Proofs.Bt4Access
import LzmaVerif.Proofs.Bt4Bounds
import LzmaVerif.Proofs.Bt4Tree
import LzmaVerif.Proofs.Bt4BstInv
namespace LzmaVerif.Mf.Bt4

/-- (B1) every state reachable by a script of finds and skips satisfies the invariant `Inv`: every
    hash-table / tree entry is 0 or the `lz_pos` of an inserted position, hash2 / hash3 slots hold positions
    with that hash value, array sizes, `cyclic_pos < cyclic_size`, `lz_pos = inserted + cyclic_size`
    (`= p + cyclic_size + 1` while searching position `p`); and the normalisation point is never reached. -/
theorem bt4_inv_reachable {P : Bt4Params} {c : Cfg} {data : Array UInt8} (hH : Hyp P c data)
    (script : List Nat) (logging : Bool) :
    Inv P c data (runScript P c data script logging).1 ∧
    (runScript P c data script logging).1.lzPos < 0x7FFFFFFF :=
  ⟨runScript_inv hH script logging, (runScript_inv hH script logging).noNorm hH⟩

/-- (B2) in every reachable state, every match `(len, dist)` reported by `find` at logical position `p`
    has `2 ≤ len ≤ min mlmax (data.size - p)`, `dist + 1 ≤ p`, `dist + 1 ≤ dict`; the lengths strictly
    increase; there are at most `niceLen - 1` matches (capacity of `Matches::new(nice_len - 1)`).
    `Hyp` asks for `3 ≤ niceLen` and `3 ≤ mlmax`: with `niceLen = 2` the real code panics
    (bt4.rs:193, index 1 of a 1-element `Matches`), with `mlmax = 2` it reports a length-3 match. -/
theorem bt4_find_bounds {P : Bt4Params} {c : Cfg} {data : Array UInt8} (hH : Hyp P c data)
    (script : List Nat) (logging : Bool) :
    let s := (runScript P c data script logging).1
    (∀ m ∈ (find P c data s).2.toList,
      2 ≤ m.1 ∧ m.1 ≤ min c.mlmax (data.size - s.pos) ∧ m.2 + 1 ≤ s.pos ∧ m.2 + 1 ≤ c.dict) ∧
    lensIncreasing (find P c data s).2.toList = true ∧
    (find P c data s).2.size ≤ c.niceLen - 1 :=
  find_bounds hH (runScript_inv hH script logging)

/-- (B3) the matches that come from the hash2 / hash3 candidates (the first 0, 1 or 2 reported entries)
    are real repetitions: full `Mf.ValidMatch` -/
theorem bt4_hash_candidates_valid {P : Bt4Params} {c : Cfg} {data : Array UInt8} (hH : Hyp P c data)
    (script : List Nat) (logging : Bool) :
    let s := (runScript P c data script logging).1
    hashCandMatches P c data s <+: (find P c data s).2.toList ∧
    ∀ m ∈ hashCandMatches P c data s, ValidMatch data c.dict s.pos (min c.mlmax (data.size - s.pos)) m :=
  ⟨hashCandMatches_prefix hH _, hash_candidates_valid hH (runScript_inv hH script logging)⟩

/-- (B4) with the access log switched on, every access made during any script and one more `find` /
    `skip(n)` is in bounds (`AccessOk`): hash slots, `tree[ptr0]`, `tree[ptr1]`, `tree[pair]`,
    `tree[pair+1]` inside their arrays; every byte read inside `data` (and not further back than the
    dictionary); every `extend_match` call within its contract.  So `find_matches` / `skip` cannot panic
    on an index.  Needs `4 ≤ nice_len ≤ match_len_max` (`HypA`). -/
theorem bt4_indices_in_bounds {P : Bt4Params} {c : Cfg} {data : Array UInt8} (hA : HypA P c data)
    (script : List Nat) :
    ∀ l, (runScript P c data script true).1.log = some l → ∀ a ∈ l, AccessOk P c data a :=
  (runScript_good hA script true).log

/-- **(B5)** every match `find` reports in every reachable state - the hash candidates AND the matches of the
    binary-tree descent, for EVERY `depth_limit`, every input, every dictionary size and every script of
    `find_matches()` / `skip(n)` calls - is a real repetition from its first byte (`Mf.ValidMatch`, the notion of
    `hc4_generated_sound`): `data[p + i] = data[p - dist - 1 + i]` for `i < len`, inside data and dictionary,
    `2 ≤ len ≤ min mlmax avail`.  The tree walk only compares from `min(len0, len1)` on (bt4.rs:247-255); the
    first `min(len0, len1)` bytes agree because of the search-tree invariant `BInv` / `TInv` (`Proofs/Bt4Bst.lean`).
    Hypotheses (`HypA`, all decidable): `P.ok` (constants / comparison shapes of bt4.rs and hash234.rs),
    `1 ≤ dict`, `data.size + dict + 2 < 2^31` (no renormalisation), `3 ≤ mlmax`,
    `minAvailFinishing (= 4) ≤ nice_len ≤ mlmax` (the crate enforces `8 ≤ nice_len ≤ 273 = mlmax`). -/
theorem bt4_tree_matches_valid {P : Bt4Params} {c : Cfg} {data : Array UInt8} (hA : HypA P c data)
    (script : List Nat) (logging : Bool) :
    let s := (runScript P c data script logging).1
    ∀ m ∈ (find P c data s).2.toList, ValidMatch data c.dict s.pos (min c.mlmax (data.size - s.pos)) m :=
  have g := runScript_good hA script logging
  (find_bst hA g.inv g.bst).2

/-- (B5') the tree invariant itself holds in every reachable state -/
theorem bt4_bst_reachable {P : Bt4Params} {c : Cfg} {data : Array UInt8} (hA : HypA P c data)
    (script : List Nat) (logging : Bool) : BInv P c data (runScript P c data script logging).1 :=
  (runScript_good hA script logging).bst

/-- (B5 for `depth_limit = 1`, under the weaker `Hyp`: also `nice_len = 3` and `nice_len > mlmax`) -/
theorem bt4_tree_matches_valid_partial {P : Bt4Params} {c : Cfg} {data : Array UInt8} (hH : Hyp P c data)
    (script : List Nat) (logging : Bool) (hdepth : depthLimit P c = 1) :
    let s := (runScript P c data script logging).1
    ∀ m ∈ (find P c data s).2.toList, ValidMatch data c.dict s.pos (min c.mlmax (data.size - s.pos)) m :=
  tree_matches_valid_partial hH (runScript_inv hH script logging) hdepth

/-- the checker route for (B5): what the driver verifies for every real trace (`check=1`) -/
theorem bt4_checked_match_valid (d : Array UInt8) (dict p limit : Nat) (m : Match)
    (h : validMatchB d dict p limit m = true) : ValidMatch d dict p limit m :=
  validMatchB_sound d dict p limit m h

/-! the hypotheses are satisfiable -/

def wHashT : HashParams := { hash2Size := 256, hash3Size := 256, h4Floor := 0xFF }
def exCfg : Cfg := { dict := 4096, niceLen := 32, mlmax := 273, depth := 0 }
def exData : Array UInt8 := #[97, 98, 99, 97, 98, 99, 97, 98, 99, 97, 98, 120, 97, 98, 99, 97, 98, 99, 100, 101]

example : ({} : Bt4Params).ok := by decide
example : Hyp {} exCfg exData := ⟨by decide, by decide, by decide, by decide, by decide⟩
example : HypA {} exCfg exData := ⟨⟨by decide, by decide, by decide, by decide, by decide⟩, by decide, by decide⟩
example : Inv {} exCfg exData (runScript {} exCfg exData [0, 0, 0, 2, 0, 0] false).1 :=
  (bt4_inv_reachable ⟨by decide, by decide, by decide, by decide, by decide⟩ _ _).1
example : depthLimit {} { exCfg with depth := 1 } = 1 := by decide

/-- the input of the run below, which shows that (B5) is not vacuous: default depth (20 levels), dictionary 64; after
    `skip(28)` the `find` at position 28 reports a hash candidate (length 6) and a longer match found in the TREE
    (length 7, distance 22); small hash tables so that the kernel can evaluate the run -/
def tData : Array UInt8 :=
  #[97, 98, 99, 100, 101, 67, 95, 97, 98, 99, 100, 101, 65, 95, 97, 98, 99, 100, 101, 66, 95, 97, 98, 99, 100, 101,
    66, 66, 95, 97, 98, 99, 100, 101, 65, 90, 95, 97, 98, 99, 100, 101, 66, 65, 95, 95]
example : HypA {} ⟨64, 8, 273, 0⟩ tData :=
  ⟨⟨by decide, by decide, by decide, by decide, by decide⟩, by decide, by decide⟩
example : (runScript { hash := wHashT } ⟨64, 8, 273, 0⟩ tData [28, 0]).2 = [(28, [(6, 7), (7, 21)])] := by
  decide +kernel

/-! the parameters matter -/

def wData : Array UInt8 := #[97, 98, 99, 100, 101, 102, 103, 104, 105, 97, 98, 120, 121]
/-- small tables so that the kernel can evaluate the run (`#eval` gives the same two results with the
    real table sizes) -/
def wHash : HashParams := { hash2Size := 256, hash3Size := 256, h4Floor := 0xFF }

/-- with `delta2 <= cyclic_size` instead of `<`: dictionary size 8, and `find` at position 9 reports a match
    with `dist + 1 = 9 = dict + 1` — outside the dictionary -/
theorem bt4_d2Strict_matters :
    (runScript { d2Strict := false, hash := wHash } ⟨8, 8, 273, 0⟩ wData [9, 0]).2 = [(9, [(2, 8)])] ∧
    (runScript { hash := wHash } ⟨8, 8, 273, 0⟩ wData [9, 0]).2 = [(9, [])] := by
  decide +kernel

end LzmaVerif.Mf.Bt4
