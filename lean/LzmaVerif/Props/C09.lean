import LzmaVerif.Proofs.MT
import LzmaVerif.Generated.SyncShape
/-!
# C09 — multi-threaded I/O always terminates and reports worker failures

Same protocol model as C08.  For every configuration and EVERY schedule:

* `mt_call_never_blocks_forever` – whenever no thread can move (ignoring the caller's option to drop),
  the coordinator is outside a call: the caller has been given end-of-stream or an error, or has
  dropped the reader.  (Hypothesis: a source that ends cleanly has produced at least one unit – the
  LZMA2 end marker always closes a unit and the LZIP scan rejects files without members;
  `deadlock_without_units` shows the hypothesis is needed: it is exactly the hang of the pinned code on
  empty input.)
* `mt_every_schedule_is_finite` – no schedule is longer than `26·units + 3·maxWorkers + 20` steps (`CfgOk`:
  also `initialWorkers ≤ maxWorkers`).
* `mt_failure_is_reported` – end-of-stream is never reported when a unit failed or panicked, or the
  source failed: the only possible final answers are then an error (by the two theorems above).
* `worker_error_paths_wake_coordinator` – the worker loops re-extracted from the four `*_mt.rs` files on
  this run install the panic guard first and follow every `set_error` by the wake-up message before
  returning (this is the step the model's `failSet → failWake → exited` transcribes).
-/
namespace LzmaVerif.Props.C09
open LzmaVerif.MT LzmaVerif.SyncOps

theorem mt_call_never_blocks_forever (cfg : Cfg) (hcfg : 1 ≤ cfg.maxWorkers)
    (hne : cfg.srcOk = true → cfg.units ≠ []) (sched : List Label) (s : Sys)
    (hr : runSched (init cfg) sched = some s) (ht : terminalNoDrop s = true) :
    s.pc = .dropped ∨ s.pc = .idle (some .done) ∨ s.pc = .idle (some .err) :=
  mt_no_deadlock cfg hcfg hne sched s hr ht

theorem mt_every_schedule_is_finite (cfg : Cfg) (hcfg : CfgOk cfg) (sched : List Label) (s : Sys)
    (hr : runSched (init cfg) sched = some s) :
    sched.length ≤ 26 * cfg.units.length + 3 * cfg.maxWorkers + 20 :=
  mt_terminates_bound cfg hcfg sched s hr

theorem mt_failure_is_reported (cfg : Cfg) (hcfg : 1 ≤ cfg.maxWorkers) (sched : List Label) (s : Sys)
    (hr : runSched (init cfg) sched = some s)
    (hbad : cfg.srcOk = false ∨ ∃ o ∈ cfg.units, o ≠ .ok) :
    s.pc ≠ .idle (some .done) := by
  intro hdone
  obtain ⟨_, hsrc, hall⟩ := mt_complete cfg hcfg sched s hr hdone
  rcases hbad with h | ⟨o, ho, hne⟩
  · rw [hsrc] at h; cases h
  · exact hne (hall o ho)

theorem pinned_empty_input_hangs : ∃ sched s,
    runSched (init { units := [], srcOk := true, maxWorkers := 1, initialWorkers := 1 }) sched = some s ∧
    terminalNoDrop s = true ∧ s.pc = .recvDraining := deadlock_without_units

/-- in a worker's operation sequence every `setError` is directly followed by `sendWake` and then `ret` -/
def wakesAfterError : List WOp → Bool
  | .setError :: .sendWake :: .ret :: rest => wakesAfterError rest
  | .setError :: _ => false
  | _ :: rest => wakesAfterError rest
  | [] => true

def workerShapeOk (ops : List WOp) : Bool := ops.head? == some .panicGuard && wakesAfterError ops

theorem worker_error_paths_wake_coordinator :
    workerShapeOk SyncShape.lzma2ReaderWorkerOps = true ∧ workerShapeOk SyncShape.lzipReaderWorkerOps = true ∧
    workerShapeOk SyncShape.lzma2WriterWorkerOps = true ∧ workerShapeOk SyncShape.lzipWriterWorkerOps = true := by
  decide

end LzmaVerif.Props.C09
