/-
  C01 (LZMA2 writer, fast mode): the chunking decisions and the per-chunk parse of the real `LZMA2Writer` are
  INSIDE the model (`Model/Lzma2Writer.lean`: `encode_for_lzma2` with both chunk limits, the
  store-or-compress decision of `write_chunk`, `LZMAEncoder::reset` incl. the read-ahead byte, state / reps /
  read-ahead surviving a compressed chunk, `chunk_size` restarts, preset dictionary), validated BYTE FOR BYTE
  against the real writer (`lzma2w.fast`).

  (W1) `lzma2_fast_events_valid`: every input, every admissible option vector without `chunk_size`, every
       preset dictionary, HC4: whatever the model writer emits is a valid event list (`EvsOk`): every LZMA
       chunk's parse satisfies `parseRun` w.r.t. the history retained so far (preset dictionary, earlier
       chunks - compressed or stored) from the coder state the reader will have (fresh after a stored chunk,
       carried over after a compressed one), denotes exactly `unc` bytes with `1 ≤ unc ≤ 2^21`, its body is the
       range coder's output for that parse from the carried tables and has at most 65536 bytes; every stored
       chunk is non-empty; and the events together denote exactly the input.
  (W2) `lzma2_fast_chunk_body`: such a body is exactly what the decision program of a whole chunk
       (`loopProg … (some unc)`, the program `Lzma2.checkChunks` / `ChunksOk` run) produces when the encoder
       walks it along `parseBits` of the chunk's parse: same final tables, same range-encoder state.
  (W3) `lzma2_fast_roundtrip_partial`: the closed round trip through `C01.lzma2_roundtrip`, with the remaining
       link as an explicit, executable hypothesis: the FRAMING of the events (`toChunks` / `frame`: control bytes
       from the reset flags, 64 KiB pieces of a stored chunk) satisfies `Lzma2.checkChunks` and is reproduced
       by `Lzma2.encodeChunks`.  The driver evaluates exactly this hypothesis on the model's output
       (`lzma2w.fast … check=1`) for sampled inputs on every run.
       What is missing for the unconditional statement (not declared)
         ∀ o preset data bytes, o.admissible → lzma2FastBytes … = some bytes →
           Lzma2.decode o.dict preset (bytes ++ rest) cap = .ok { out := data, consumed := bytes.length, .. }
       is only the bookkeeping lemma `EvsOk evs … → checkChunks (toChunks f evs) w = some data ∧
       encodeChunks (toChunks f evs) w [] = some (frame f evs)` (flags of `Flags` vs `WFlags`, `restartW`, pieces
       of a stored chunk); (W1) + (W2) provide every semantic fact it needs.  Also not covered by (W1):
       `chunk_size` (segments are encoded by the same `segEvents`, to which `segEvents_ok` applies verbatim;
       the cut positions come from `planSeg` and are validated by execution only) and BT4.
  The model answers `none` when a chunk body would exceed the 64 KiB range-coder buffer (the real writer fails with an
  error there); that this never happens (at most 26 bytes per symbol beyond `LZMA2_COMPRESSED_LIMIT`) is NOT proved -
  it is what the real code relies on, too.
-/
import LzmaVerif.Proofs.Lzma2WriterSeg
import LzmaVerif.Proofs.Options
import LzmaVerif.Proofs.EncFastHc4
import LzmaVerif.Props.C01Lzma2
import LzmaVerif.Props.C01Mf
import LzmaVerif.Props.C01Fast

namespace LzmaVerif.Props.C01Lzma2Fast
open LzmaVerif Mf Lzma Rc EncFast Lzma2W

theorem admissible_dict (o : Opts) (h : o.admissible = true) : 4096 ≤ o.dict ∧ o.dict ≤ 805306368 :=
  ((Options.validate_iff _ true).mp h).2.2.1

theorem dictBufOf_ge (dict : Nat) (h : dict ≤ 805306368) : dict ≤ Lzma2.dictBufOf dict := by
  unfold Lzma2.dictBufOf
  have e1 : Consts.DICT_SIZE_MIN = 4096 := rfl
  have e2 : Consts.DICT_SIZE_MAX = 4294967280 := rfl
  rw [e1, e2]
  omega

theorem sliceNat_append_right (a b : Array UInt8) :
    sliceNat (a ++ b) a.size b.size = b.toList.map (fun x => x.toNat) := by
  apply List.ext_getElem
  · rw [sliceNat_length, List.length_map, Array.length_toList]
  · intro i h1 h2
    rw [sliceNat_length] at h1
    simp only [sliceNat, List.getElem_map, List.getElem_range, Array.getElem_toList, byteAt,
      Array.getD_eq_getD_getElem?, Array.getElem?_append_right (Nat.le_add_right _ _), Nat.add_sub_cancel_left,
      Array.getElem?_eq_getElem h1, Option.getD_some]

/-- **(W1)**: every input, every admissible option vector without `chunk_size`, every preset dictionary, HC4 -/
theorem lzma2_fast_events_valid (H : Hc4.Hc4Params) (hH : H.ok) (P : FastParams) (hP : P.ok) (o : Opts)
    (hadm : o.admissible = true) (hcs : o.chunkSize = none) (preset data : Array UInt8)
    (evs : List Ev) (h : fastEvents (mkHc4 H P o) P o preset data = some evs) (c : Coder) (ps : Probs) :
    EvsOk o.params (Lzma2.dictBufOf o.dict) evs true c ps
      (histOf (presetUsedW o.dict preset ++ data) (presetUsedW o.dict preset).size)
      (data.toList.map (fun x => x.toNat)) := by
  obtain ⟨hd1, hd2⟩ := admissible_dict o hadm
  have hcc : o.chunkClamped = none := by
    unfold Opts.chunkClamped
    rw [hcs]
    rfl
  unfold fastEvents fastEventsParts at h
  simp only [hcc] at h
  have hF : mkHc4 H P o true =
      hc4Finder H { dict := o.dict, niceLen := o.nice, mlmax := 273, depthLimit := o.depth } := by
    unfold mkHc4
    rw [hP.2]
  rw [hF] at h
  have hb := dictBufOf_ge o.dict hd2
  have := segEvents_ok (hc4Sound H hH o.dict o.nice o.depth (by omega) _) P hP o.nice o.params
    (Lzma2.dictBufOf o.dict) (by omega) (by omega) (by omega)
    (presetUsedW o.dict preset).size (by rw [Array.size_append]; omega) evs c ps h
  rw [Array.size_append, Nat.add_sub_cancel_left, sliceNat_append_right] at this
  exact this

/-- (W1) for the parameters regenerated from the source -/
theorem lzma2_fast_events_valid_generated (o : Opts) (hadm : o.admissible = true) (hcs : o.chunkSize = none)
    (preset data : Array UInt8) (evs : List Ev)
    (h : fastEvents (mkHc4 MfGen.hc4Params MfGen.fastParams o) MfGen.fastParams o preset data = some evs)
    (c : Coder) (ps : Probs) :
    EvsOk o.params (Lzma2.dictBufOf o.dict) evs true c ps
      (histOf (presetUsedW o.dict preset ++ data) (presetUsedW o.dict preset).size)
      (data.toList.map (fun x => x.toNat)) :=
  lzma2_fast_events_valid MfGen.hc4Params C01Mf.generated_hc4_params_ok MfGen.fastParams
    C01Fast.generated_fast_params_ok o hadm hcs preset data evs h c ps

theorem lzma2_fast_chunk_body (pr : Params) (dictBuf : Nat) (parse : List Sym) (c0 c' : Coder) (h h' : Hist)
    (unc : Nat) (ps0 : Probs)
    (hp : parseRun dictBuf parse c0 h = some (c', h')) (hsz : h'.size = h.size + unc) :
    (loopProg pr dictBuf (unc + 1) (some unc) c0 h [] 0).encRun (parseBits pr parse c0 h) ps0 Enc.init
      = some ({ stop := .limit, coder := c', hist := h', parse := parse.reverse, emitted := unc }, [],
              (encFold pr parse c0 h ps0 Enc.init).1, (encFold pr parse c0 h ps0 Enc.init).2) := by
  have := loop_enc_size pr dictBuf parse c0 h c' h' (unc + 1) unc [] 0 ps0 Enc.init hp hsz (parse_fits hp hsz)
  rwa [List.append_nil, Nat.zero_add] at this

/-- **(W3), partial**: if the framing of the model's events passes `checkChunks` with result `dataN` and is what
    `encodeChunks` produces (both evaluated by the driver, `lzma2w.fast … check=1`), the reader model returns `dataN`,
    consumes exactly those bytes whatever follows, and recovers the chunk list.  That `dataN` is the input is the
    missing lemma of the head comment. -/
theorem lzma2_fast_roundtrip_partial (H : Hc4.Hc4Params) (P : FastParams) (o : Opts)
    (preset data : Array UInt8) (bytes : List Nat) (chunks : List Lzma2.Chunk) (dataN : List Nat)
    (hpb : o.propsByte ≤ 224)
    (hlclp : (paramsOfProps o.propsByte).lc + (paramsOfProps o.propsByte).lp ≤ 4)
    (_hb : lzma2FastBytes H P o preset data = some bytes)
    (_hc : fastChunks (mkHc4 H P o) P o preset data = some chunks)
    (hchk : Lzma2.checkChunks o.propsByte chunks
      (Lzma2.initW o.dict (preset.map (fun x => x.toNat)) o.propsByte) = some dataN)
    (henc : Lzma2.encodeChunks o.propsByte chunks
      (Lzma2.initW o.dict (preset.map (fun x => x.toNat)) o.propsByte) [] = some bytes)
    (rest : List Nat) (cap : Nat) (hcap : dataN.length ≤ cap) :
    Lzma2.decode o.dict (preset.map (fun x => x.toNat)) (bytes ++ rest) cap
      = .ok { out := dataN.toArray, consumed := bytes.length, chunks := chunks } := by
  obtain ⟨bytes', he, hdec⟩ := C01.lzma2_roundtrip o.dict (preset.map (fun x => x.toNat)) o.propsByte hpb hlclp
    chunks dataN (C01.lzma2_check_sound _ _ _ _ hchk)
  rw [henc] at he
  cases he
  exact hdec rest cap hcap

/-- "abcabcabcabcXabcabcabc_abX" -/
def w1 : Array UInt8 :=
  #[97, 98, 99, 97, 98, 99, 97, 98, 99, 97, 98, 99, 88, 97, 98, 99, 97, 98, 99, 97, 98, 99, 95, 97, 98, 88]

def o1 : Opts := { dict := 4096, lc := 3, lp := 0, pb := 2, nice := 32, depth := 0 }

example : o1.admissible = true := by decide

/-- (W1) instantiated at the real constants -/
example (evs : List Ev) (h : fastEvents (mkHc4 {} {} o1) {} o1 #[1, 2, 3] w1 = some evs) :=
  lzma2_fast_events_valid {} (by decide) {} (by decide) o1 (by decide) rfl #[1, 2, 3] w1 evs h Coder.init #[]

end LzmaVerif.Props.C01Lzma2Fast
