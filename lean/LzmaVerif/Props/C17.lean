import LzmaVerif.Model.Mem
/-!
# C17 — memory estimators are sound and tight; the limit is enforced

`Model/Mem.lean` transcribes the estimator formulas and the list of heap allocations the constructors
make (validated per run: estimator values and the sorted list of all allocations ≥ 4 KiB are compared
with a counting allocator).  Theorems, for every dictionary size 4 KiB … 1 GiB, every `lc ≤ 8`,
`lp ≤ 4`, `pb ≤ 4`, `8 ≤ nice_len ≤ 273`, both modes, both match finders:

* `enc_estimate_sound`  – the sum of everything the encoder allocates is at most the estimate;
* `enc_estimate_tight`  – the estimate exceeds that sum by at most 512 KiB (LZMA2 writer);
* `lzma_dec_estimate`, `lzma2_dec_estimate` – the same for the decoders (12 KiB / 42 KiB);
* `mem_limit_enforced` – `memLimitRefuses` (a definition of this file, after `new_mem_limit`) unfolded.

`arith_sound` / `arith_tight` are linear facts over plain variables (one `omega` each); the main theorems establish
the bounds of each component (`Nat.div` and `round64` brackets, monotonicity of the window size in `extra_before`).
-/
namespace LzmaVerif.Props.C17
open LzmaVerif LzmaVerif.Mem

structure OptsOk (o : EncOpts) : Prop where
  dictLo : 4096 ≤ o.dict
  dictHi : o.dict ≤ 2 ^ 30
  lc : o.lc ≤ 8
  lp : o.lp ≤ 4
  pb : o.pb ≤ 4
  niceLo : 8 ≤ o.nice
  niceHi : o.nice ≤ 273

theorem round64_bounds (n : Nat) : n ≤ round64 n ∧ round64 n ≤ n + 63 := by
  unfold round64; omega

theorem arith_sound (W Wl qW rH H qH rC qD lit qL RC OPT qO M LH LR : Nat)
    (hW : W ≤ Wl) (hqW : Wl < 1024 * qW + 1024)
    (hrH : rH ≤ 4 * H + 63) (hqH : 66560 + H < 256 * qH + 256)
    (hC : rC ≤ 1024 * qD + 1087)
    (hL : lit < 1024 * qL + 1024)
    (hRC : RC ≤ 65536) (hO : OPT ≤ 1024 * qO)
    (hM : M ≤ 1088) (hLH : LH ≤ 896) (hLR : LR ≤ 34816) :
    W + (4096 + (262144 + (rH + (rC + (lit + (RC + (OPT + (M + (M + (LH + (1120 + 0))))))))))) + LR
      ≤ 1024 * (70 + qL + (80 + (qW + 10 + (qH + 4 + qD + 10) + qO))) := by
  omega

theorem arith_tight (W qW rH H qH rC qD lit qL OPT qO M LH LR : Nat)
    (hqW : 1024 * qW ≤ W)
    (hrH : 4 * H ≤ rH) (hqH : 256 * qH ≤ 66560 + H)
    (hC : 1024 * qD ≤ rC)
    (hL : 1024 * qL ≤ lit)
    (hO : 1024 * qO ≤ OPT + 65536) :
    1024 * (70 + qL + (80 + (qW + 10 + (qH + 4 + qD + 10) + qO)))
      ≤ W + (4096 + (262144 + (rH + (rC + (lit + (65536 + (OPT + (M + (M + (LH + (1120 + 0))))))))))) + LR
        + 512 * 1024 := by
  omega

theorem bufSize_mono (d a b ea : Nat) (h : a ≤ b) : bufSize d a ea ≤ bufSize d b ea := by
  unfold bufSize; omega

theorem extraBefore_mono (o : EncOpts) (a b : Nat) (h : a ≤ b) : extraBefore o a ≤ extraBefore o b := by
  unfold extraBefore; omega

/-- the window the writer really allocates is never larger than the one the estimator assumes -/
theorem window_le (o : EncOpts) (lzma2 : Bool) :
    bufSize o.dict (extraBefore o (if lzma2 then extraBeforeLzma2 o.dict else 0)) (extraAfter o)
      ≤ bufSize o.dict (extraBefore o (extraBeforeLzma2 o.dict)) (extraAfter o) := by
  apply bufSize_mono; apply extraBefore_mono
  cases lzma2
  · exact Nat.zero_le _
  · exact Nat.le_refl _

/-- chain (HC4) / tree (BT4) array against its estimator term -/
theorem chain_bounds (d : Nat) (bt4 : Bool) :
    round64 ((d + 1) * 4 * (if bt4 then 2 else 1)) ≤ 1024 * (if bt4 then d / 128 else d / 256) + 1087 ∧
    1024 * (if bt4 then d / 128 else d / 256) ≤ round64 ((d + 1) * 4 * (if bt4 then 2 else 1)) := by
  cases bt4
  · have := round64_bounds ((d + 1) * 4 * 1)
    simp only [Bool.false_eq_true, if_false]
    omega
  · have := round64_bounds ((d + 1) * 4 * 2)
    simp only [if_true]
    omega

/-- optimum nodes against the estimator term -/
theorem opt_bounds (n : Bool) :
    (if n then Consts.NORMAL_OPTS * 48 else 0) ≤ 1024 * (if n then Consts.NORMAL_OPTS * 64 / 1024 else 0) ∧
    1024 * (if n then Consts.NORMAL_OPTS * 64 / 1024 else 0) ≤ (if n then Consts.NORMAL_OPTS * 48 else 0) + 65536 := by
  cases n <;> decide

theorem lenRows_le (pb nice : Nat) (hpb : pb ≤ 4) (hn : nice ≤ 273) :
    2 * 2 ^ pb * (max (nice - 2 + 1) 16 * 4) ≤ 34816 := by
  have hP : 2 ^ pb ≤ 2 ^ 4 := Nat.pow_le_pow_right (by decide) hpb
  have h1 : 2 * 2 ^ pb ≤ 32 := by omega
  have h2 : max (nice - 2 + 1) 16 * 4 ≤ 1088 := by omega
  exact Nat.mul_le_mul h1 h2

theorem lenHdr_le (pb : Nat) (hpb : pb ≤ 4) : 2 * 2 ^ pb * (24 + 4) ≤ 896 := by
  have hP : 2 ^ pb ≤ 2 ^ 4 := Nat.pow_le_pow_right (by decide) hpb
  omega

/-- the two sides in the shape of `arith_sound` / `arith_tight` -/
theorem encAllocs_sum (o : EncOpts) (lzma2 : Bool) :
    (encAllocs o lzma2).sum =
      bufSize o.dict (extraBefore o (if lzma2 then extraBeforeLzma2 o.dict else 0)) (extraAfter o)
      + (4096 + (262144 + (round64 (hash4Size o.dict * 4)
      + (round64 ((o.dict + 1) * 4 * (if o.bt4 then 2 else 1))
      + (0x600 * 2 ^ (o.lc + o.lp)
      + ((if lzma2 then Consts.W_COMPRESSED_SIZE_MAX else 0)
      + ((if o.normal then Consts.NORMAL_OPTS * 48 else 0)
      + (4 * (o.nice - 1) + (4 * (o.nice - 1)
      + (2 * 2 ^ o.pb * (24 + 4) + (1120 + 0)))))))))))
      + 2 * 2 ^ o.pb * (max (o.nice - 2 + 1) 16 * 4) := by
  have h2 : round64 (Consts.HASH2_SIZE * 4) = 4096 := by decide
  have h3 : round64 (Consts.HASH3_SIZE * 4) = 262144 := by decide
  simp only [encAllocs, List.sum_cons, List.sum_append, List.sum_nil, List.sum_replicate_nat, h2, h3]

theorem encEstimate_eq (o : EncOpts) (hl : o.lc + o.lp ≤ 12) :
    encEstimate o =
      70 + 0x600 * 2 ^ (o.lc + o.lp) / 1024
      + (80 + (bufSize o.dict (extraBefore o (extraBeforeLzma2 o.dict)) (extraAfter o) / 1024 + 10
        + ((66560 + hash4Size o.dict) / 256 + 4 + (if o.bt4 then o.dict / 128 else o.dict / 256) + 10)
        + (if o.normal then Consts.NORMAL_OPTS * 64 / 1024 else 0))) := by
  have hmin : min (o.lc + o.lp) 12 = o.lc + o.lp := Nat.min_eq_left hl
  have hc : Consts.HASH2_SIZE + Consts.HASH3_SIZE = 66560 := by decide
  simp only [encEstimate, modeEst, lzEncEst, mfEst, hash234Est, hmin, hc]

theorem enc_estimate_sound (o : EncOpts) (h : OptsOk o) (lzma2 : Bool) :
    (encAllocs o lzma2).sum ≤ 1024 * encEstimate o := by
  obtain ⟨_, _, hlc, hlp, hpb, _, n2⟩ := h
  rw [encAllocs_sum, encEstimate_eq o (by omega)]
  apply arith_sound (H := hash4Size o.dict)
    (Wl := bufSize o.dict (extraBefore o (extraBeforeLzma2 o.dict)) (extraAfter o))
  · exact window_le o lzma2
  · omega
  · have := (round64_bounds (hash4Size o.dict * 4)).2; omega
  · omega
  · exact (chain_bounds o.dict o.bt4).1
  · omega
  · cases lzma2 <;> decide
  · exact (opt_bounds o.normal).1
  · omega
  · exact lenHdr_le o.pb hpb
  · exact lenRows_le o.pb o.nice hpb n2

theorem enc_estimate_tight (o : EncOpts) (h : OptsOk o) :
    1024 * encEstimate o ≤ (encAllocs o true).sum + 512 * 1024 := by
  obtain ⟨_, _, hlc, hlp, _, _, _⟩ := h
  rw [encAllocs_sum, encEstimate_eq o (by omega)]
  simp only [if_true, show Consts.W_COMPRESSED_SIZE_MAX = 65536 from rfl]
  apply arith_tight (H := hash4Size o.dict)
  · omega
  · have := (round64_bounds (hash4Size o.dict * 4)).1; omega
  · omega
  · exact (chain_bounds o.dict o.bt4).2
  · omega
  · exact (opt_bounds o.normal).2

theorem lzma_dec_estimate (dict lc lp : Nat) (hd : dict ≤ Consts.DICT_SIZE_MAX) (hlc : lc ≤ 8) (hlp : lp ≤ 4) :
    ∃ e, lzmaDecEstimate dict lc lp = some e ∧ (lzmaDecAllocs dict lc lp).sum ≤ 1024 * e ∧
      1024 * e ≤ (lzmaDecAllocs dict lc lp).sum + 12 * 1024 := by
  have c1 : ¬ (lc > 8 ∨ lp > 4) := by omega
  have c2 : ¬ dict > Consts.DICT_SIZE_MAX := by omega
  refine ⟨10 + ((max dict 4096 + 15) / 16 * 16) / 1024 + (0x600 * 2 ^ (lc + lp)) / 1024,
    by simp only [lzmaDecEstimate, c1, c2, if_false], ?_⟩
  simp only [lzmaDecAllocs, List.sum_cons, List.sum_nil]
  generalize 0x600 * 2 ^ (lc + lp) = L
  generalize (max dict 4096 + 15) / 16 * 16 = D
  constructor <;> omega

theorem lzma2_dec_estimate (dict lc lp : Nat) (hl : lc + lp ≤ 4) :
    (lzma2DecAllocs dict lc lp).sum ≤ 1024 * lzma2DecEstimate dict ∧
    1024 * lzma2DecEstimate dict ≤ (lzma2DecAllocs dict lc lp).sum + 42 * 1024 := by
  simp only [lzma2DecAllocs, lzma2DecEstimate, List.sum_cons, List.sum_nil,
    show Consts.R_COMPRESSED_SIZE_MAX = 65536 from rfl]
  have hL1 : 1 ≤ 2 ^ (lc + lp) := Nat.one_le_two_pow
  have hL2 : 2 ^ (lc + lp) ≤ 2 ^ 4 := Nat.pow_le_pow_right (by decide) hl
  generalize 2 ^ (lc + lp) = L at *
  generalize (min dict Consts.DICT_SIZE_MAX + 15) / 16 * 16 = D
  constructor <;> omega

/-- `new_mem_limit`: the out-of-memory decision is made from header fields only -/
def memLimitRefuses (limitKiB dict lc lp : Nat) : Bool :=
  match lzmaDecEstimate dict lc lp with
  | some need => limitKiB < need
  | none => true

theorem mem_limit_enforced (limit dict lc lp need : Nat) (h : lzmaDecEstimate dict lc lp = some need) :
    (memLimitRefuses limit dict lc lp = true ↔ limit < need) := by
  simp [memLimitRefuses, h]

/-- non-vacuity: preset 6 (8 MiB, BT4, normal) meets the hypotheses; its estimate is 93 MiB -/
example : OptsOk { dict := 8388608, lc := 3, lp := 0, pb := 2, normal := true, bt4 := true, nice := 64 } :=
  ⟨by decide, by decide, by decide, by decide, by decide, by decide, by decide⟩

#print axioms enc_estimate_sound
#print axioms enc_estimate_tight
#print axioms lzma_dec_estimate
#print axioms lzma2_dec_estimate
#print axioms mem_limit_enforced

end LzmaVerif.Props.C17
