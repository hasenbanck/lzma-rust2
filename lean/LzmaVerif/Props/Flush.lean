import LzmaVerif.Proofs.EncWindowFlush
/-!
# `flush` calls and the encoder window (obligation shared by C01, C07, C15)

C01 ("neither side panics"), C07 ("wherever the caller inserts flush calls") and C15 (the `optimization` build reads
inside its buffers) all need that the encoder's match finder is never run at a buffer position with less history
before it than it may look back (`dict_size ≤ keep_size_before - 1` bytes).  `LZMA2Writer::flush` leaves up to
`nice_len - 1` bytes pending in the match finder; the next `fill_window` may move the window and then re-runs the match
finder on the pending bytes.  The code before `fix: move_window keeps the history of the pending bytes` leaves the
pending bytes out of the move offset (`write(360769 bytes); flush(); write(..)` with BT4, `nice_len = 273`, 64 KiB
dictionary: index `-98` observed in `BT4::skip`, at worst `-(nice_len - 2)`; an out-of-bounds read in the
`optimization` build).

Model: `Model/EncWindow.lean` (`moveOffset` = the statement of the code, checked against the source by
`tools/extract_shapes.py`; `moveOffsetPinned` = the statement before that commit).  The theorems hold for EVERY search
(`O : Oracle`), every sequence of `write` / `flush` calls, every dictionary size the options accept, both modes, both
match finders, LZMA and LZMA2 parameters.
-/
namespace LzmaVerif.Props.Flush
open EncWindow

/-- In every run of the real encoders' window (`write` and `flush` calls in any order, then `finish`) the match finder
    is only ever run - also on the pending bytes that `process_pending_bytes` hands to it again after a window move -
    at positions with at least `min(keep_size_before - 1, bytes seen so far)` bytes of history in the buffer. -/
theorem flush_runs_keep_history {β : Type} (B : BufOps β) (dict nice : Nat) (mode : Mode) (mf : MF) (lzma2 : Bool)
    (hd : Consts.DICT_SIZE_MIN ≤ dict) (hn1 : 4 ≤ nice) (hn2 : nice ≤ Consts.MATCH_LEN_MAX)
    (O : Oracle) (evs : List Ev) :
    (runEv B (mkParams dict nice mode mf lzma2) O evs).low = false :=
  EncWindow.flush_runs_keep_history B _ O (mkParams_WF dict nice mode mf lzma2 hd hn1 hn2)
    (mkParams_flush dict nice mode mf lzma2 hn2).1 (mkParams_flush dict nice mode mf lzma2 hn2).2 evs

/-- The invariant behind it, at the end of every such run (`runEvs_FInv`: also after every `write` and `flush` call):
    `read_pos < write_pos ≤ buf_size`, the rewind of the pending bytes stays in the buffer, and `keep_size_before - 1`
    bytes of history lie before the FIRST PENDING byte unless nothing was discarded yet. -/
theorem flush_run_invariant {β : Type} (B : BufOps β) (dict nice : Nat) (mode : Mode) (mf : MF) (lzma2 : Bool)
    (hd : Consts.DICT_SIZE_MIN ≤ dict) (hn1 : 4 ≤ nice) (hn2 : nice ≤ Consts.MATCH_LEN_MAX)
    (O : Oracle) (evs : List Ev) :
    let P := mkParams dict nice mode mf lzma2
    let s := runEv B P O evs
    s.win.writePos ≤ P.bufSize ∧ -1 ≤ s.win.readPos ∧ s.win.readPos + 1 ≤ s.win.writePos ∧
    (s.win.pendingSize : Int) ≤ s.win.readPos + 1 ∧
    (s.win.base = 0 ∨ (P.keepBefore : Int) ≤ s.win.readPos - s.win.pendingSize + 1) := by
  intro P s
  have h := (EncWindow.flush_inv_runEv B P O (mkParams_WF dict nice mode mf lzma2 hd hn1 hn2)
    (mkParams_flush dict nice mode mf lzma2 hn2).1 (mkParams_flush dict nice mode mf lzma2 hn2).2 evs).core
  exact ⟨h.wp_le, h.rp_ge, h.rp_lt, h.pend_le, h.lookback⟩

/-- When `fill_window` moves the window in a reachable, not finishing state - with or without pending bytes -
    `move_offset` is at least `MOVE_BLOCK_ALIGN` before alignment (the code's `debug_assert!(move_offset >= 0)`
    holds, at least 64 bytes become free: a non-empty input makes progress) and `keep_size_before - 1` bytes of
    history stay before the first pending byte, which is still inside the buffer. -/
theorem window_move_keeps_pending_history {β : Type} (B : BufOps β) (dict nice : Nat) (mode : Mode) (mf : MF) (lzma2 : Bool)
    (hd : Consts.DICT_SIZE_MIN ≤ dict) (hn1 : 4 ≤ nice) (hn2 : nice ≤ Consts.MATCH_LEN_MAX)
    (s : St β) (input : List Nat) (h : FInv (mkParams dict nice mode mf lzma2) s) (hf : s.win.finishing = false)
    (hmove : ((mkParams dict nice mode mf lzma2).bufSize : Int) - (mkParams dict nice mode mf lzma2).keepAfter ≤ s.win.readPos) :
    let P := mkParams dict nice mode mf lzma2
    let r := fillCore B P s.win input
    (Consts.MOVE_BLOCK_ALIGN : Int) ≤ moveOffsetRaw P s.win ∧ Consts.MOVE_BLOCK_ALIGN ≤ moveOffset P s.win ∧
    (P.keepBefore : Int) ≤ r.1.readPos - r.1.pendingSize + 1 ∧ 0 ≤ r.1.readPos - r.1.pendingSize ∧
    (input ≠ [] → 0 < r.2) :=
  EncWindow.flush_inv_move_offset B _ (mkParams_WF dict nice mode mf lzma2 hd hn1 hn2)
    (mkParams_flush dict nice mode mf lzma2 hn2).1 (mkParams_flush dict nice mode mf lzma2 hn2).2 s input h hf hmove

/-- In runs without `flush`, for every search and every partition of the input into `write` calls, the views shown to
    the search (positions, look-ahead and look-back bytes, match length limits) - hence the compressed bytes - are the
    same with `moveOffsetPinned` and with `moveOffset`. -/
theorem repair_invisible_without_flush (dict nice : Nat) (mode : Mode) (mf : MF) (lzma2 : Bool)
    (hd : Consts.DICT_SIZE_MIN ≤ dict) (hn1 : 4 ≤ nice) (hn2 : nice ≤ Consts.MATCH_LEN_MAX)
    (O : Oracle) (parts : List (List Nat)) :
    traceOf listBuf { mkParams dict nice mode mf lzma2 with pinnedMove := true } O parts =
      traceOf listBuf { mkParams dict nice mode mf lzma2 with pinnedMove := false } O parts :=
  EncWindow.repair_invisible_without_flush _ (mkParams_WF dict nice mode mf lzma2 hd hn1 hn2) O parts

/-- Witness: `moveOffsetPinned` loses the history of the pending bytes on the state of the reproducer, `moveOffset`
    does not. -/
theorem pinned_move_loses_pending_history :
    moveOffset (reproParams true) reproState.win = 295232 ∧
    (fillWindow noBuf (reproParams true) reproState (List.replicate 5000 0)).1.low = true ∧
    moveOffset (reproParams false) reproState.win = 294912 ∧
    (fillWindow noBuf (reproParams false) reproState (List.replicate 5000 0)).1.low = false :=
  EncWindow.pinned_move_loses_pending_history

/-- non-vacuity: the reproducer's state satisfies the hypotheses of `window_move_keeps_pending_history` -/
example : FInv (mkParams 65536 273 .fast .bt4 true) reproState ∧ reproState.win.finishing = false ∧
    ((mkParams 65536 273 .fast .bt4 true).bufSize : Int) - (mkParams 65536 273 .fast .bt4 true).keepAfter ≤ reproState.win.readPos :=
  ⟨reproParams_eq ▸ reproState_FInv false, by decide, by decide⟩

/-- non-vacuity: the default options (preset 6) and the reproducer's options satisfy the side conditions -/
example : Consts.DICT_SIZE_MIN ≤ 8 * 1024 * 1024 ∧ 4 ≤ 64 ∧ 64 ≤ Consts.MATCH_LEN_MAX ∧
    Consts.DICT_SIZE_MIN ≤ 65536 ∧ 4 ≤ 273 ∧ 273 ≤ Consts.MATCH_LEN_MAX := by decide

end LzmaVerif.Props.Flush
