import LzmaVerif.Generated.Shapes
/-!
# Statement shapes of the encoder's LZ window (obligation shared by C01, C07, C15)

`Model/EncWindow.lean` is a hand transcription of `LZEncoderData` (`fill_window`, `move_window`,
`process_pending_bytes`, `move_pos`, the buffer-size formula) and of the window parameters the
LZMA2 writer passes.  `tools/extract_shapes.py` re-reads those statements from /repo's source on every run and
records, per statement, whether it is still written the way the model transcribes it.  The theorems of this file are proved
against the regenerated file: an edit of one of those statements (for instance a window move that rounds its
offset up, or an encoder built with `extra_size_before = 0`) leaves `encoder_window_shapes_match` unprovable.
-/
namespace LzmaVerif.Props.Shapes

theorem encoder_window_shapes_match : ShapeGen.allOk = true := by decide

theorem encoder_window_shapes_no_errors : ShapeGen.extractionErrors = 0 := by decide

end LzmaVerif.Props.Shapes

namespace LzmaVerif.Props.Shapes

/-- C10 ("never more worker threads than the requested maximum, clamped to 1-256"): in all four multi-threaded types
    the requested count is clamped to 1..=256, the struct field holds the clamped value, and a further worker is
    spawned only at the one place guarded by `spawned_workers < self.max_workers` (the bound the MT model's
    `maxWorkers` parameter stands for). -/
theorem mt_worker_cap_shapes_match : ShapeGen.mtAllOk = true := by decide

end LzmaVerif.Props.Shapes
