import LzmaVerif.Proofs.Filters
import LzmaVerif.Proofs.Bcj2
import LzmaVerif.Proofs.BcjStream
/-!
# C11 — BCJ and Delta filters are exact inverses (and match the reference)

For EVERY byte string, every delta distance and every admissible start offset (positions wrap modulo
2^32) the model decoder undoes the model encoder.  The models (`Model/Filters.lean`) are the loops of
`src/filter/bcj/*.rs` and `src/filter/delta.rs`; the correspondence check of this property runs them on
the same inputs as the real filters AND as liblzma's filters (byte-exact, both directions): the theorems speak of
the models, the check ties the models to the code on the inputs it samples.

* `delta_inverse`, `bcj_inverse`: one-shot inverse (what the reader/writer pair computes by
  `Props.C07.bcj_writer_partition_free` / `bcj_reader_schedule_free`: streaming = one-shot for any partition).
* `bcj_stream_inverse`: the statement for the streaming writer and the buffered reader, any partition of
  the writes, any read-size schedule.
* the alignment hypotheses are exactly what the XZ format requires of `start_offset`
  (`Options.filterOk`); `arm_misaligned_start_breaks` shows that for ARM the hypothesis cannot be dropped (for ARM64
  the proof does not use it).

* `bcj2_reader_reconstructs` – BCJ2 (the crate has only the decoder): a model of `BCJ2Reader` /
  `Bcj2Decoder::decode` (four streams, range decoder with 2+256 adaptive probabilities, absolute big-endian
  targets, wrapping ip) inverts a model ENCODER for every byte string and every per-opcode convert
  decision; the encoder is valid by construction (same contexts as the decoder, 7-Zip's flush).  The real
  reader is tied to the model on every run: a Rust port of the model encoder (checked byte for byte against
  the model) feeds the real reader through sources that deliver 1..7 bytes per call, and damaged streams
  must get the model's verdict.  Not covered: agreement of that encoder with 7-Zip's own (no 7-Zip here).
-/
namespace LzmaVerif.Props.C11
open LzmaVerif LzmaVerif.Filters

theorem delta_inverse (d : Nat) (xs : List Nat) (h : Bytes xs) :
    deltaDecode d (deltaEncode d xs) = xs := delta_inv d xs h

/-- required alignment of the start offset, per architecture (the `match` in src/xz/reader.rs:319-329 and
    src/xz/writer.rs:209-214) -/
def alignOf : Arch → Nat
  | .x86 => 1
  | .armThumb => 2
  | .riscv => 2
  | .ia64 => 16
  | _ => 4

theorem bcj_inverse (a : Arch) (start : Nat) (hs : start % alignOf a = 0) (xs : List Nat) (h : Bytes xs) :
    oneShot a false start (oneShot a true start xs) = xs := by
  cases a
  · exact x86_inv start xs h
  · exact ppc_inv start hs xs h
  · exact ia64_inv start hs xs h
  · exact arm_inv start hs xs h
  · exact thumb_inv start hs xs h
  · exact sparc_inv start hs xs h
  · exact arm64_inv start hs xs h
  · exact riscv_inv start hs xs h

/-- streaming writer (any partition of the writes) followed by the buffered reader (any read sizes, any
    short reads of the inner reader) returns the original bytes -/
theorem bcj_stream_inverse (a : Arch) (start : Nat) (hs : start % alignOf a = 0)
    (parts : List (List Nat)) (h : Bytes parts.flatten) (sizes grants : List Nat)
    (hnz : ∃ x ∈ sizes, x ≠ 0) :
    BcjStream.readAll a start (BcjStream.writeParts a start parts) sizes grants = parts.flatten := by
  rw [BcjStream.writeParts_eq_oneShot, BcjStream.readAll_eq_oneShot a start _ sizes grants hnz]
  exact bcj_inverse a start hs _ h

/-- the alignment requirement is necessary: a misaligned ARM start offset does not round-trip -/
theorem arm_misaligned_start_breaks :
    oneShot .arm false 1 (oneShot .arm true 1 [0, 0, 0, 0xEB]) ≠ [0, 0, 0, 0xEB] := by decide

/-- non-vacuity: a buffer with a converted branch -/
example : oneShot .arm true 8 [1, 0, 0, 0xEB] ≠ [1, 0, 0, 0xEB] ∧
    oneShot .arm false 8 (oneShot .arm true 8 [1, 0, 0, 0xEB]) = [1, 0, 0, 0xEB] := by decide

/-- BCJ2: the reader model reconstructs the original bytes from every correctly encoded four-stream input -/
theorem bcj2_reader_reconstructs (convert : Nat → Bool) (data : List Nat) (h : ∀ b ∈ data, b < 256) :
    Bcj2.decode (Bcj2.encode convert data).main (Bcj2.encode convert data).call (Bcj2.encode convert data).jump
      (Bcj2.encode convert data).rc data.length = .ok data :=
  Bcj2.bcj2_roundtrip convert data h

end LzmaVerif.Props.C11
