import LzmaVerif.Proofs.Split
/-!
# C18 — size options and declared sizes are honoured

`Model/Split.lean` transcribes how `XZWriter`, `LZIPWriter` and the MT writers cut a sequence of write
calls into blocks / members / units (validated per run against the sizes found in the real output).
The effective limit is the configured size raised to the dictionary size, hence at least 4096 ≥ 2.

For every limit `≥ 2` (`> 0` for the MT units) and EVERY sequence of write-call lengths (empty ones included):
* `xz_blocks`, `lzip_members`, `mt_units`: the sizes are exactly full blocks followed by the remainder;
* hence every block/member/unit holds at most the limit, all but the last hold exactly the limit,
  nothing is lost or duplicated, and the cutting does not depend on the partition;
* `expected_size_honoured`: a `.lzma` writer with an expected size finishes successfully iff exactly
  that many bytes were written, and then the header carries that number.
-/
namespace LzmaVerif.Props.C18
open LzmaVerif.Split

/-- "Will get clamped to be at least the dict size" -/
def effectiveLimit (configured dict : Nat) : Nat := max configured dict

theorem effective_limit_ge_two (configured dict : Nat) (hd : 4096 ≤ dict) : 2 ≤ effectiveLimit configured dict := by
  unfold effectiveLimit; omega

theorem xz_blocks (lim : Nat) (hl : 2 ≤ lim) (parts : List Nat) :
    xzBlocks lim parts = ideal lim parts.sum ∧
    (∀ b ∈ xzBlocks lim parts, 0 < b ∧ b ≤ lim) ∧
    (∀ b ∈ (xzBlocks lim parts).dropLast, b = lim) ∧
    (xzBlocks lim parts).sum = parts.sum := by
  have h := xzBlocks_eq_ideal lim hl parts
  rw [h]
  exact ⟨rfl, ideal_bound lim parts.sum (by omega), ideal_all_but_last_full lim parts.sum,
    ideal_sum lim parts.sum⟩

theorem lzip_members (lim : Nat) (hl : 2 ≤ lim) (parts : List Nat) :
    lzipMembers lim parts = if parts.sum = 0 then [0] else ideal lim parts.sum :=
  lzipMembers_eq lim hl parts

theorem mt_units (lim : Nat) (hl : 0 < lim) (parts : List Nat) :
    mtUnits lim parts = ideal lim parts.sum ∧
    (∀ b ∈ mtUnits lim parts, 0 < b ∧ b ≤ lim) ∧
    (∀ b ∈ (mtUnits lim parts).dropLast, b = lim) ∧
    (mtUnits lim parts).sum = parts.sum := by
  have h := mtUnits_eq_ideal lim hl parts
  rw [h]
  exact ⟨rfl, ideal_bound lim parts.sum hl, ideal_all_but_last_full lim parts.sum, ideal_sum lim parts.sum⟩

theorem cutting_is_partition_free (lim : Nat) (hl : 2 ≤ lim) (p q : List Nat) (h : p.sum = q.sum) :
    xzBlocks lim p = xzBlocks lim q ∧ mtUnits lim p = mtUnits lim q :=
  ⟨xzBlocks_partition_independent lim hl p q h, mtUnits_partition_independent lim (by omega) p q h⟩

theorem expectedRun_spec (exp : Nat) : ∀ (parts : List Nat) (cur i : Nat),
    (expectedRun exp parts cur i = .ok exp ↔ cur + parts.sum = exp) ∧
    (∀ w, expectedRun exp parts cur i = .ok w → w = exp)
  | [], cur, i => by
    rw [expectedRun, List.sum_nil, Nat.add_zero]
    by_cases h : exp = cur
    · simp [h]
    · simp [h, Ne.symm h]
  | n :: rest, cur, i => by
    rw [expectedRun, List.sum_cons, ← Nat.add_assoc]
    by_cases h : exp < cur + n
    · rw [if_pos h]
      exact ⟨⟨nofun, fun hc => by omega⟩, nofun⟩
    · rw [if_neg h]
      exact expectedRun_spec exp rest (cur + n) (i + 1)

/-- a `.lzma` writer given an expected size succeeds iff exactly that many bytes are written,
    whatever the partition, and the header then carries that number -/
theorem expected_size_honoured (exp : Nat) (parts : List Nat) :
    (expectedRun exp parts 0 0 = .ok exp ↔ parts.sum = exp) ∧
    (∀ w, expectedRun exp parts 0 0 = .ok w → w = exp) := by
  simpa using expectedRun_spec exp parts 0 0

example : xzBlocks 10 [25, 0, 5, 3, 17] = [10, 10, 10, 10, 10] ∧ expectedRun 7 [3, 0, 4] 0 0 = .ok 7 ∧
    expectedRun 7 [3, 5] 0 0 = .errWrite 1 ∧ expectedRun 7 [3] 0 0 = .errFinish := by decide

end LzmaVerif.Props.C18
