import LzmaVerif.Proofs.MT
import LzmaVerif.Model.MTTrace
import LzmaVerif.Model.MTTraceW
import LzmaVerif.Proofs.MTTrace
/-!
# C08 / C09 / C10 — validated executions of the real MT readers are paths of the protocol LTS

`Model/MTTrace.lean` replays the protocol event log that the real `LZMA2ReaderMT` / `LZIPReaderMT`
write under the shuttle runtime (one `mt.trace` request per explored schedule, answered by `lzdriver`
on every `./check C08|C09|C10`).  The theorems here say what an accepted log gives:

* `accepted_trace_is_path` – SOUNDNESS of the validator: if `replay cfg evs` accepts, the labels it
  took are a path of the LTS from `init cfg` to the final model state.  The validator can advance the model
  state only through `Path.step`, so no abstraction rule is trusted: a wrong rule can only make the validator
  reject (or take a different, still genuine, path).
* `accepted_trace_released_all_threads` – an accepted log ends with the reader dropped and every
  worker of the model exited.
* `accepted_trace_returns` – the sequence numbers that the real calls returned (`rt:d:<seq>` events, in log
  order) ARE the model's `delivered` list (invariant over the replay, `Proofs/MTTrace.lean`; the validator
  insists on exactly one return per call), so by C08 they are `0, 1, 2, …` without gap or duplicate.
* `accepted_trace_in_order`, `accepted_trace_end_is_complete`, `accepted_trace_is_short` – the
  theorems about ALL schedules (C08, C09) instantiated at the schedule of a validated real execution.

What is compared event by event (enabledness + observable) is the executable content of
`Trace.onC`, `Trace.onW`, `Trace.onEv`; the environment `cfg` (units, their outcomes, how the source
ends) is computed by the harness from the input alone.
-/
namespace LzmaVerif.Props.C08Trace
open LzmaVerif.MT LzmaVerif.MT.Trace

/-- the schedule of the model that a validated execution followed -/
def schedOf {cfg : Cfg} (v : VS cfg) : List Label := v.path.rev.reverse

theorem accepted_trace_is_path (cfg : Cfg) (evs : List Ev) (v : VS cfg) (_h : replay cfg evs = .ok v) :
    runSched (init cfg) (schedOf v) = some v.path.sys :=
  v.path.ok

theorem accepted_trace_released_all_threads (cfg : Cfg) (evs : List Ev) (v : VS cfg)
    (h : replay cfg evs = .ok v) :
    v.path.sys.pc = .dropped ∧ ∀ w ∈ v.path.sys.ws, w = .exited := by
  simpa only [finalOk, Bool.and_eq_true, beq_iff_eq, List.all_eq_true] using (replay_ok h).2

theorem accepted_trace_returns (cfg : Cfg) (hcfg : 1 ≤ cfg.maxWorkers) (evs : List Ev) (v : VS cfg)
    (h : replay cfg evs = .ok v) :
    dataRets evs = v.path.sys.delivered ∧ dataRets evs = List.range (dataRets evs).length := by
  have hr := replay_returns cfg evs v h
  have ho := (mt_order cfg hcfg (schedOf v) v.path.sys (accepted_trace_is_path cfg evs v h)).1
  exact ⟨hr, by rw [hr]; exact ho⟩

theorem accepted_trace_in_order (cfg : Cfg) (hcfg : 1 ≤ cfg.maxWorkers) (evs : List Ev) (v : VS cfg)
    (h : replay cfg evs = .ok v) :
    v.path.sys.delivered = List.range v.path.sys.delivered.length ∧
      v.path.sys.nextReturn = v.path.sys.delivered.length :=
  mt_order cfg hcfg (schedOf v) v.path.sys (accepted_trace_is_path cfg evs v h)

/-- at ANY point of a validated execution (any `Path`: a prefix of an accepted log is replayed by the same
    function) at which the model says end-of-stream, every unit has been delivered and none failed -/
theorem accepted_trace_end_is_complete (cfg : Cfg) (hcfg : 1 ≤ cfg.maxWorkers) (p : Path cfg)
    (hdone : p.sys.pc = .idle (some .done)) :
    p.sys.delivered.length = cfg.units.length ∧ cfg.srcOk = true ∧ ∀ o ∈ cfg.units, o = .ok :=
  mt_complete cfg hcfg p.rev.reverse p.sys p.ok hdone

theorem accepted_trace_is_short (cfg : Cfg) (hcfg : CfgOk cfg) (evs : List Ev) (v : VS cfg)
    (h : replay cfg evs = .ok v) :
    (schedOf v).length ≤ 26 * cfg.units.length + 3 * cfg.maxWorkers + 20 :=
  mt_terminates_bound cfg hcfg (schedOf v) v.path.sys (accepted_trace_is_path cfg evs v h)

/-! ## the MT writers: open system

The coordinator of `LZMA2WriterMT` / `LZIPWriterMT` is not `MT.coordStep` (see `Model/MTTraceW.lean`), so
for the writers an accepted log is a path of the OPEN system: worker steps are exactly `MT.workerStep`,
the coordinator's operations on queue / channel / error store / flags are environment actions. -/

theorem accepted_writer_trace_is_open_path (cfg : Cfg) (evs : List Ev) (v : TraceW.WS cfg)
    (_h : TraceW.replay cfg evs = .ok v) :
    TraceW.orun (init cfg) v.path.rev.reverse = some v.path.sys :=
  v.path.ok

theorem open_worker_step_is_lts_step (s : Sys) (i : Nat) :
    TraceW.ostep s (.worker i) = step s (.worker i) := rfl

theorem accepted_writer_trace_released_all_threads (cfg : Cfg) (evs : List Ev) (v : TraceW.WS cfg)
    (h : TraceW.replay cfg evs = .ok v) :
    v.path.sys.closed = true ∧ ∀ w ∈ v.path.sys.ws, w = .exited := by
  unfold TraceW.replay at h
  split at h
  · split at h <;> cases h
    next hf =>
    simp only [TraceW.finalOk, Bool.and_eq_true, beq_iff_eq, List.all_eq_true] at hf
    exact ⟨hf.1.1, hf.2⟩
  · cases h

/-! ## non-vacuity: a log of the real `LZMA2ReaderMT` (one unit, one worker; shuttle random scheduler) is
accepted; a log in which the worker pops a unit that was never pushed is not -/

def accepts (cfg : Cfg) (evs : List Ev) : Bool :=
  match replay cfg evs with
  | .ok _ => true
  | .error _ => false

def exCfg : Cfg := { units := [.ok], srcOk := true, endFused := true, maxWorkers := 1, initialWorkers := 1 }

def exLog : List Ev :=
  [.call, .c (.top none), .c (.err false), .c (.st .reading), .c (.tryRecv .empty), .w 0 .start, .w 0 (.sd false),
   .w 0 .wait, .c (.qlen true), .c (.push 0), .c (.ldActive 0), .c (.spawn 0 1 false), .c (.src .done),
   .c (.top none), .w 0 .woke, .w 0 (.pop 0), .w 0 .inc, .w 0 (.ok 0), .w 0 (.sent 0 true), .w 0 .dec,
   .c (.err false), .c (.st .drainRecv), .w 0 (.sd false), .c (.recv (.result 0)), .ret (.data 0),
   .call, .c (.top none), .w 0 .wait, .c (.err false), .c (.st .drainFin), .c (.top none), .c (.err false),
   .c (.st .finished), .ret .done, .drop, .w 0 .woke, .w 0 .closed, .w 0 .exit]

example : accepts exCfg exLog = true := by decide +kernel

example : dataRets exLog = [0] := by decide

/-- the same log with the pop of a unit that was never pushed -/
example : accepts exCfg (exLog.map fun e => if e = .w 0 (.pop 0) then .w 0 (.pop 1) else e) = false := by
  decide +kernel

/-- a log that stops before the reader is dropped is not accepted -/
example : accepts exCfg (exLog.take 34) = false := by decide +kernel

/-! ## non-vacuity and witness for the writers: a log of the real `LZMA2WriterMT` (two units, one worker;
shuttle): accepted by the open-system replay; in it the coordinator pushes unit 1 (`cp:1`) while the result
of unit 0 waits in the channel (`w0:t:0:1` before, `cr:r:0` after) -/

def exWriterLog : List Ev :=
  [.w 0 .start, .w 0 (.sd false), .w 0 .wait, .c (.push 0), .c (.ldActive 0), .c (.spawn 0 1 false), 
   .call, .c (.top none), .w 0 .woke, .w 0 (.pop 0), .w 0 .inc, .w 0 (.ok 0), .c (.err false), 
   .c (.tryRecv .empty), .c .nop, .w 0 (.sent 0 true), .w 0 .dec, .w 0 (.sd false), .c (.push 1), 
   .w 0 (.pop 1), .w 0 .inc, .w 0 (.ok 1), .w 0 (.sent 1 true), .w 0 .dec, .c (.ldActive 0), 
   .w 0 (.sd false), .c (.spawn 0 0 false), .call, .c (.top none), .w 0 .wait, .c (.err false), 
   .c (.recv (.result 0)), .ret (.data 0), .call, .c (.top none), .c (.err false), .c (.recv (.result 1)), 
   .ret (.data 1), .call, .c (.top none), .c (.err false), .c (.tryRecv .empty), .c .nop, .call, 
   .c (.top none), .c (.err false), .c (.top none), .c (.err false), .ret .done, .drop, .drop, .w 0 .woke, 
   .w 0 .closed, .w 0 .exit]

def acceptsW (cfg : Cfg) (evs : List Ev) : Bool :=
  match TraceW.replay cfg evs with
  | .ok _ => true
  | .error _ => false

def exWriterCfg : Cfg := { units := [], srcOk := true, maxWorkers := 256, initialWorkers := 1 }

example : acceptsW exWriterCfg exWriterLog = true := by decide +kernel

/-- the same log is not a path of the closed LTS -/
example : accepts { exWriterCfg with units := [.ok, .ok], maxWorkers := 1 } exWriterLog = false := by decide +kernel

/-- the LTS's coordinator looks into the channel before every push -/
theorem lts_never_pushes_past_a_waiting_result (s s' : Sys) (q : Nat) (hp : s.pc = .tryRecv)
    (hc : s.chan ≠ []) (hs : coordStep s = some s') : s'.pc ≠ .chkQueue ∧ s'.pc ≠ .source ∧ s'.pc ≠ .push q := by
  cases hch : s.chan with
  | nil => exact absurd hch hc
  | cons m rest =>
    simp only [coordStep, hp, hch] at hs
    cases hs
    cases m with
    | wake => simp [onMsg]
    | result seq => simp only [onMsg]; split <;> simp

end LzmaVerif.Props.C08Trace
