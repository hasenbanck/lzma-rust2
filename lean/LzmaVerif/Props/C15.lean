import LzmaVerif.Props.C14
/-!
# C15 — unsafe fast paths never access memory outside their buffers

The optimized twins T1 and T2 of `Model/Twins.lean` return, next to their value, the list of absolute byte indices
they read; for the assembly `directAsmReads` lists the loads.  EVERY such index is inside the buffer, also for
positions, limits and decoder states that violate the callers' invariants: the clamps alone guarantee it.  (Distances
are subtracted with truncation: `distance > read_pos + current_len`, where the code's subtraction wraps, is not
modelled.)  Parameters as in C14.

* `extend_match_reads_in_bounds` – `get_unchecked` slices and the 8-byte `read_unaligned` words.
* `fast_reject_reads_in_bounds` – the two u16 reads at `min(pos, buf_size - 2)`; `buf_limit_is_largest_safe`:
  `buf_size - 2` is the largest clamp for which that holds (with `- 1` byte `buf_size` is read).
* `match_len_fast_reject_reads_in_bounds` – the function as it is called (reject + extension from `read_pos + 2`).
* `asm_direct_bits_reads_in_bounds` – the clamped `movzx` / `ldrb` loads of both assembly variants, also when the
  decoder has run past the end of the chunk buffer.
* `simd_normalize_in_bounds` / `aligned_allocation_sound` – the arithmetic only: whole vectors end inside the slice;
  the 64-byte aligned allocation holds at least the requested elements and its size cannot overflow.

PARTIAL: these are theorems about the index arithmetic of the modelled twins; that the Rust/assembly text
computes these indices is tied by the translator patterns (constants and statement shapes) and by running the
real optimized build under AddressSanitizer on inputs that put the encoder window within 0..9 bytes of its end
and drive the decoder past its chunk buffer.
-/
namespace LzmaVerif.Props.C15
open LzmaVerif LzmaVerif.Twins

theorem extend_match_reads_in_bounds (buf : List Nat) (readPos curLen dist limit : Nat) :
    ∀ i ∈ (extendMatchOptT TwinGen.params buf readPos curLen dist limit).2, i < buf.length :=
  extendMatchOptT_inBounds TwinGen.params buf readPos curLen dist limit

theorem fast_reject_reads_in_bounds (buf : List Nat) (h2 : 2 ≤ buf.length) (readPos matchDist : Nat) :
    ∀ i ∈ (fastRejectOpt TwinGen.params buf readPos matchDist).2, i < buf.length :=
  fastRejectOpt_inBounds TwinGen.params (Nat.le_of_eq (C14.ok.u16Bytes.trans C14.ok.bufLimitSub.symm)) buf
    (C14.ok.bufLimitSub ▸ h2) readPos matchDist

/-- the whole `get_match_len_fast_reject` (clamped u16 reads, then the optimized `extend_match` from
    `read_pos + 2`), for ALL arguments — also `len_limit < 2`, where only the clamp to the physical buffer bounds
    the extension (the real function was observed to extend to the end of the buffer there) -/
theorem match_len_fast_reject_reads_in_bounds (buf : List Nat) (h2 : 2 ≤ buf.length)
    (readPos dist lenLimit : Nat) :
    ∀ i ∈ (matchLenFastRejectOptT TwinGen.params buf readPos dist lenLimit).2, i < buf.length :=
  matchLenFastRejectOptT_inBounds TwinGen.params (Nat.le_of_eq (C14.ok.u16Bytes.trans C14.ok.bufLimitSub.symm)) buf
    (C14.ok.bufLimitSub ▸ h2) readPos dist lenLimit

/-- non-vacuity: `len_limit = 1` on a constant buffer reads up to the last byte and no further -/
example : (matchLenFastRejectOptT TwinGen.params [7, 7, 7, 7, 7, 7] 1 0 1).2 = [1, 2, 0, 1, 3, 2, 4, 3, 5, 4] := by
  decide

theorem buf_limit_is_largest_safe (bufSize lim : Nat) :
    (∀ i, min i lim + 2 ≤ bufSize) ↔ lim + 2 ≤ bufSize :=
  clamp_inBounds_iff bufSize lim

theorem asm_direct_bits_reads_in_bounds (buf : List Nat) (hB : Bytes buf)
    (hlen : buf.length = rcBufLen TwinGen.params) (k : Nat) (s : DState) (hs0 : RangeOk s) :
    (∀ i ∈ directAsmReads TwinGen.params buf halveX86 k s, i < buf.length) ∧
    (∀ i ∈ directAsmReads TwinGen.params buf halveA64 k s, i < buf.length) :=
  have ha : 1 ≤ TwinGen.params.asmLimitSub := by rw [C14.ok.asmLimitSub]; decide
  have hl : 1 ≤ buf.length := by rw [hlen]; exact (rcBufLen_pos _ C14.ok).1
  ⟨directAsmReads_inBounds _ ha buf hl _ k s, directAsmReads_inBounds _ ha buf hl _ k s⟩

theorem simd_normalize_in_bounds (lanes pre len : Nat) (h : pre ≤ len) :
    pre + (len - pre) / lanes * lanes ≤ len :=
  Nat.add_le_of_le_sub' h (Nat.div_mul_le_self _ _)

theorem aligned_allocation_sound (minLength : Nat) (hm : minLength ≤ 2 ^ 33) :
    (alignedNew TwinGen.params 64 minLength).requiredBytes % 64 = 0 ∧
    minLength ≤ (alignedNew TwinGen.params 64 minLength).targetLength ∧
    (alignedNew TwinGen.params 64 minLength).targetLength * 4 = (alignedNew TwinGen.params 64 minLength).requiredBytes ∧
    (alignedNew TwinGen.params 64 minLength).requiredBytes < 2 ^ 63 :=
  have b := alignedNew_encoder_bound TwinGen.params C14.ok.alignment C14.ok.elemSize minLength hm
  have a := alignedNew_spec TwinGen.params C14.ok.alignment C14.ok.elemSize 64 minLength b.1
  ⟨a.2.1, a.2.2.1, a.2.2.2.2, b.2.2⟩

end LzmaVerif.Props.C15
