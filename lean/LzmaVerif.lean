-- Every module of the development, in the order of DESIGN.md 16.12 (models, then the proof groups, then the property files).
-- generated
import LzmaVerif.Generated.Consts
import LzmaVerif.Generated.MfParams
import LzmaVerif.Generated.PriceConsts
import LzmaVerif.Generated.Shapes
import LzmaVerif.Generated.SyncShape
import LzmaVerif.Generated.TwinParams
-- model
import LzmaVerif.Model.Bcj2
import LzmaVerif.Model.BcjStream
import LzmaVerif.Model.Bt4
import LzmaVerif.Model.Bt4Renorm
import LzmaVerif.Model.Checks
import LzmaVerif.Model.EncFast
import LzmaVerif.Model.EncNormal
import LzmaVerif.Model.EncPrices
import LzmaVerif.Model.EncWindow
import LzmaVerif.Model.Filters
import LzmaVerif.Model.Guards
import LzmaVerif.Model.Hc4
import LzmaVerif.Model.Hc4Renorm
import LzmaVerif.Model.LzDecoder
import LzmaVerif.Model.Lzip
import LzmaVerif.Model.LzipFile
import LzmaVerif.Model.LzipWriter
import LzmaVerif.Model.Lzma
import LzmaVerif.Model.Lzma2
import LzmaVerif.Model.Lzma2Check
import LzmaVerif.Model.Lzma2Writer
import LzmaVerif.Model.LzmaStream
import LzmaVerif.Model.LzmaWriter
import LzmaVerif.Model.MT
import LzmaVerif.Model.MTTrace
import LzmaVerif.Model.MTTraceW
import LzmaVerif.Model.Mem
import LzmaVerif.Model.MfBase
import LzmaVerif.Model.Options
import LzmaVerif.Model.Parse
import LzmaVerif.Model.Prog
import LzmaVerif.Model.Rc
import LzmaVerif.Model.Split
import LzmaVerif.Model.Stream
import LzmaVerif.Model.SyncOps
import LzmaVerif.Model.Twins
import LzmaVerif.Model.WorkQueue
import LzmaVerif.Model.Xz
import LzmaVerif.Model.XzInt
import LzmaVerif.Model.XzStrict
-- proofs: range coder
import LzmaVerif.Proofs.RcEnc
import LzmaVerif.Proofs.RcIdeal
import LzmaVerif.Proofs.RcRefine
import LzmaVerif.Proofs.RcDecode
import LzmaVerif.Proofs.RcRoundtrip
import LzmaVerif.Proofs.RcFinish
import LzmaVerif.Proofs.RcNormalize
-- proofs: decision programs
import LzmaVerif.Proofs.ProgUnfold
import LzmaVerif.Proofs.ProgRun
import LzmaVerif.Proofs.ProgSparse
-- proofs: symbol coder and symbol loop
import LzmaVerif.Proofs.SymRt
import LzmaVerif.Proofs.LoopRt
import LzmaVerif.Proofs.DecodeRaw
-- proofs: LZMA2
import LzmaVerif.Proofs.Lzma2Reader
import LzmaVerif.Proofs.Lzma2Step
import LzmaVerif.Proofs.Lzma2
import LzmaVerif.Proofs.Lzma2Examples
-- proofs: decoder dictionary
import LzmaVerif.Proofs.LzDecoderBase
import LzmaVerif.Proofs.LzDecoderInv
import LzmaVerif.Proofs.LzDecoderMethods
import LzmaVerif.Proofs.LzDecoderLoop
import LzmaVerif.Proofs.LzDecoder
-- proofs: encoder window
import LzmaVerif.Proofs.EncWindowInv
import LzmaVerif.Proofs.EncWindow
import LzmaVerif.Proofs.EncWindowSim
import LzmaVerif.Proofs.EncWindowRun
import LzmaVerif.Proofs.EncWindowWrite
import LzmaVerif.Proofs.EncWindowFlush
-- proofs: match finders
import LzmaVerif.Proofs.MfBase
import LzmaVerif.Proofs.MfCands
import LzmaVerif.Proofs.Hc4Hash
import LzmaVerif.Proofs.Hc4Inv
import LzmaVerif.Proofs.Hc4Find
import LzmaVerif.Proofs.Hc4Sound
import LzmaVerif.Proofs.Hc4Bounds
import LzmaVerif.Proofs.Hc4View
import LzmaVerif.Proofs.Bt4Base
import LzmaVerif.Proofs.Bt4Hash
import LzmaVerif.Proofs.Bt4Inv
import LzmaVerif.Proofs.Bt4Bounds
import LzmaVerif.Proofs.Bt4Access
import LzmaVerif.Proofs.Bt4Order
import LzmaVerif.Proofs.Bt4Tree
import LzmaVerif.Proofs.Bt4BstInv
import LzmaVerif.Proofs.Bt4BstLoop
import LzmaVerif.Proofs.Bt4Bst
import LzmaVerif.Proofs.Bt4Erase
import LzmaVerif.Proofs.Bt4Norm
import LzmaVerif.Proofs.MfRenorm
import LzmaVerif.Proofs.MfRenormHc4
import LzmaVerif.Proofs.MfRenormBt4
-- proofs: parsers and writers
import LzmaVerif.Proofs.EncFastBase
import LzmaVerif.Proofs.EncFastSel
import LzmaVerif.Proofs.EncFastStep
import LzmaVerif.Proofs.EncFastLoop
import LzmaVerif.Proofs.EncFastHc4
import LzmaVerif.Proofs.EncFastBt4
import LzmaVerif.Proofs.EncFastSim
import LzmaVerif.Proofs.EncNormalChain
import LzmaVerif.Proofs.EncNormalPrice
import LzmaVerif.Proofs.EncNormalStep
import LzmaVerif.Proofs.EncNormalCand
import LzmaVerif.Proofs.EncNormalInv
import LzmaVerif.Proofs.EncNormalInv2
import LzmaVerif.Proofs.EncNormalConv
import LzmaVerif.Proofs.EncNormalSites
import LzmaVerif.Proofs.EncNormalSites2
import LzmaVerif.Proofs.EncNormalMain
import LzmaVerif.Proofs.EncNormalOpt
import LzmaVerif.Proofs.EncNormalLoop
import LzmaVerif.Proofs.Lzma2WriterRc
import LzmaVerif.Proofs.Lzma2WriterSeg
import LzmaVerif.Proofs.LzipWriter
import LzmaVerif.Proofs.Options
import LzmaVerif.Proofs.LzmaWriter
-- proofs: containers
import LzmaVerif.Proofs.ChecksBasic
import LzmaVerif.Proofs.XzInt
import LzmaVerif.Proofs.XzBasic
import LzmaVerif.Proofs.XzParse
import LzmaVerif.Proofs.XzStream
import LzmaVerif.Proofs.XzMulti
import LzmaVerif.Proofs.XzPayloadEx
import LzmaVerif.Proofs.XzAudit
import LzmaVerif.Proofs.Xz
import LzmaVerif.Proofs.XzForged
import LzmaVerif.Proofs.XzStrict
import LzmaVerif.Proofs.LzipFile
import LzmaVerif.Proofs.LzipDict
import LzmaVerif.Proofs.EndToEndLzma
import LzmaVerif.Proofs.EndToEndFilters
import LzmaVerif.Proofs.EndToEnd
-- proofs: truncation
import LzmaVerif.Proofs.TruncRc
import LzmaVerif.Proofs.TruncLzma
import LzmaVerif.Proofs.TruncLzma2
import LzmaVerif.Proofs.TruncLzip
import LzmaVerif.Proofs.TruncXz
import LzmaVerif.Proofs.Trunc
-- proofs: totality
import LzmaVerif.Proofs.TotalGuards
import LzmaVerif.Proofs.TotalLzma
import LzmaVerif.Proofs.TotalLzma2
import LzmaVerif.Proofs.TotalLzip
import LzmaVerif.Proofs.TotalXz
import LzmaVerif.Proofs.Total
import LzmaVerif.Proofs.ScanShift
-- proofs: filters
import LzmaVerif.Proofs.FiltersBits
import LzmaVerif.Proofs.FiltersBase
import LzmaVerif.Proofs.FiltersFields
import LzmaVerif.Proofs.FiltersDelta
import LzmaVerif.Proofs.FiltersArm
import LzmaVerif.Proofs.FiltersPpc
import LzmaVerif.Proofs.FiltersSparc
import LzmaVerif.Proofs.FiltersThumb
import LzmaVerif.Proofs.FiltersArm64
import LzmaVerif.Proofs.FiltersIa64
import LzmaVerif.Proofs.FiltersX86
import LzmaVerif.Proofs.FiltersRiscv
import LzmaVerif.Proofs.Filters
import LzmaVerif.Proofs.Stream
import LzmaVerif.Proofs.BcjStream
import LzmaVerif.Proofs.XzFilterLen
import LzmaVerif.Proofs.Bcj2
-- proofs: multi-threading
import LzmaVerif.Proofs.Lts
import LzmaVerif.Proofs.MTDefs
import LzmaVerif.Proofs.MTWorker
import LzmaVerif.Proofs.MTCoord
import LzmaVerif.Proofs.MTTerm
import LzmaVerif.Proofs.MT
import LzmaVerif.Proofs.MTTrace
import LzmaVerif.Proofs.WorkQueue
-- proofs: twins, splitters
import LzmaVerif.Proofs.Twins
import LzmaVerif.Proofs.TwinsCalls
import LzmaVerif.Proofs.Split
-- property files
import LzmaVerif.Props.C01
import LzmaVerif.Props.C01Bt4
import LzmaVerif.Props.C01Fast
import LzmaVerif.Props.C01Hc4
import LzmaVerif.Props.C01Lzma2
import LzmaVerif.Props.C01Lzma2Fast
import LzmaVerif.Props.C01Mf
import LzmaVerif.Props.C01Normal
import LzmaVerif.Props.C01Renorm
import LzmaVerif.Props.C02
import LzmaVerif.Props.C02E
import LzmaVerif.Props.C02Fast
import LzmaVerif.Props.C03
import LzmaVerif.Props.C04
import LzmaVerif.Props.C05
import LzmaVerif.Props.C06
import LzmaVerif.Props.C07
import LzmaVerif.Props.C08
import LzmaVerif.Props.C08Trace
import LzmaVerif.Props.C09
import LzmaVerif.Props.C10
import LzmaVerif.Props.C11
import LzmaVerif.Props.C12
import LzmaVerif.Props.C13
import LzmaVerif.Props.C14
import LzmaVerif.Props.C15
import LzmaVerif.Props.C16
import LzmaVerif.Props.C17
import LzmaVerif.Props.C18
import LzmaVerif.Props.C19
import LzmaVerif.Props.Flush
import LzmaVerif.Props.Shapes
-- tests
import LzmaVerif.Tests.XzStrictCorpus
import LzmaVerif.Tests.XzStrictEval
